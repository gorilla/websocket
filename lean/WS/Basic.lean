/-
  WS.Basic — byte strings, big-endian numbers, hex, small list helpers.
  Core Lean only (no Mathlib) so that the `wsmodel` executable links.
-/

abbrev Bytes := List UInt8

namespace WS

/-- big-endian encoding of `n` in exactly `w` bytes (high bytes first; `n` taken mod 256^w). -/
def beBytes : Nat → Nat → Bytes
  | 0, _ => []
  | w + 1, n => UInt8.ofNat (n / 256 ^ w % 256) :: beBytes w n

/-- big-endian value of a byte string. -/
def beVal (bs : Bytes) : Nat := bs.foldl (fun acc b => acc * 256 + b.toNat) 0

@[simp] theorem beBytes_length (w n : Nat) : (beBytes w n).length = w := by
  induction w with
  | zero => rfl
  | succ w ih => simp [beBytes, ih]

theorem beVal_foldl_shift (bs : Bytes) (a : Nat) :
    bs.foldl (fun acc b => acc * 256 + b.toNat) a = a * 256 ^ bs.length + beVal bs := by
  induction bs generalizing a with
  | nil => simp [beVal]
  | cons b bs ih =>
    simp only [List.foldl_cons, beVal, List.length_cons]
    rw [ih (a * 256 + b.toNat), ih (0 * 256 + b.toNat)]
    simp only [beVal, Nat.zero_mul, Nat.zero_add, Nat.pow_succ]
    rw [Nat.add_mul, Nat.mul_assoc, Nat.mul_comm 256 (256 ^ bs.length), Nat.add_assoc]

theorem beVal_cons (b : UInt8) (bs : Bytes) : beVal (b :: bs) = b.toNat * 256 ^ bs.length + beVal bs := by
  have := beVal_foldl_shift bs (0 * 256 + b.toNat)
  simpa [beVal] using this

theorem beVal_lt (bs : Bytes) : beVal bs < 256 ^ bs.length := by
  induction bs with
  | nil => exact Nat.one_pos
  | cons b bs ih =>
    rw [beVal_cons, List.length_cons, Nat.pow_succ]
    calc b.toNat * 256 ^ bs.length + beVal bs
        < b.toNat * 256 ^ bs.length + 256 ^ bs.length := Nat.add_lt_add_left ih _
      _ = (b.toNat + 1) * 256 ^ bs.length := (Nat.succ_mul _ _).symm
      _ ≤ 256 * 256 ^ bs.length := Nat.mul_le_mul_right _ b.toNat_lt
      _ = 256 ^ bs.length * 256 := Nat.mul_comm _ _

/-- `beBytes w n` only depends on `n` mod 256^w -/
theorem beBytes_mod (w n : Nat) : beBytes w n = beBytes w (n % 256 ^ w) := by
  induction w generalizing n with
  | zero => rfl
  | succ w ih =>
    simp only [beBytes]
    congr 1
    · congr 1
      rw [Nat.pow_succ, Nat.mod_mul_right_div_self]
      simp [Nat.mod_mod_of_dvd]
    · rw [ih n, ih (n % 256 ^ (w + 1))]
      congr 1
      rw [Nat.pow_succ, Nat.mod_mul_right_mod]

/-- decoding the big-endian encoding gives the number back (for numbers that fit). -/
theorem beVal_beBytes (w n : Nat) (h : n < 256 ^ w) : beVal (beBytes w n) = n := by
  induction w generalizing n with
  | zero => simp at h; subst h; rfl
  | succ w ih =>
    rw [beBytes, beVal_cons, beBytes_length]
    have hq : n / 256 ^ w < 256 := by
      rw [Nat.pow_succ] at h
      exact Nat.div_lt_of_lt_mul h
    have hm : n / 256 ^ w % 256 = n / 256 ^ w := Nat.mod_eq_of_lt hq
    have hpos : 0 < 256 ^ w := Nat.pow_pos (by decide)
    rw [beBytes_mod w n, ih (n % 256 ^ w) (Nat.mod_lt _ hpos)]
    have hu : (UInt8.ofNat (n / 256 ^ w % 256)).toNat = n / 256 ^ w := by
      rw [hm]; simp [UInt8.toNat_ofNat']; omega
    rw [hu]
    have := Nat.div_add_mod n (256 ^ w)
    rw [Nat.mul_comm] at this
    exact this

/-- encoding is injective on byte strings of equal length (used for strict decoding). -/
theorem beBytes_beVal (bs : Bytes) : beBytes bs.length (beVal bs) = bs := by
  induction bs with
  | nil => rfl
  | cons b bs ih =>
    rw [List.length_cons, beBytes, beVal_cons]
    have hlt := beVal_lt bs
    have hpos : 0 < 256 ^ bs.length := Nat.pow_pos (by decide)
    have h1 : (b.toNat * 256 ^ bs.length + beVal bs) / 256 ^ bs.length = b.toNat := by
      rw [Nat.mul_comm, Nat.mul_add_div hpos, Nat.div_eq_of_lt hlt]; simp
    rw [h1]
    have hb : b.toNat % 256 = b.toNat := Nat.mod_eq_of_lt b.toNat_lt
    rw [hb]
    congr 1
    · simp
    · rw [beBytes_mod, Nat.mul_comm, Nat.mul_add_mod, Nat.mod_eq_of_lt hlt, ih]

/-! ### hex -/

def hexDigit (n : Nat) : Char :=
  if n < 10 then Char.ofNat (48 + n) else Char.ofNat (87 + n)

def hexOfByte (b : UInt8) : List Char := [hexDigit (b.toNat / 16), hexDigit (b.toNat % 16)]

def toHex (bs : Bytes) : String :=
  if bs.isEmpty then "-" else String.ofList (bs.flatMap hexOfByte)

def hexVal (c : Char) : Option Nat :=
  if '0' ≤ c ∧ c ≤ '9' then some (c.toNat - 48)
  else if 'a' ≤ c ∧ c ≤ 'f' then some (c.toNat - 87)
  else if 'A' ≤ c ∧ c ≤ 'F' then some (c.toNat - 55)
  else none

def fromHexChars : List Char → Option Bytes
  | [] => some []
  | [_] => none
  | a :: b :: rest => do
    let x ← hexVal a
    let y ← hexVal b
    let r ← fromHexChars rest
    pure (UInt8.ofNat (x * 16 + y) :: r)

/-- "-" is the empty byte string (so that a token is never empty). -/
def fromHex (s : String) : Option Bytes :=
  if s = "-" then some [] else fromHexChars s.toList

def strBytes (s : String) : Bytes := s.toUTF8.toList

end WS
