/-
  WS.Model.Sched — interleaving semantics of the write-side lock protocol (conn.go `write`,
  `WriteControl`): any number of threads, every interleaving. The atomic actions are the ones
  recognised by factgen in today's source (`WS.Gen.writeSkeleton`, `WS.Gen.writeControlSkeleton`);
  `WellLocked` (Props/C09) is the decidable condition on those generated lists under which the
  `Step` relation below is the semantics of the code.
-/
namespace WS.Sched

inductive Phase
  | idle            -- not in a frame write
  | waiting         -- wants the mutex
  | lockedUnchecked -- holds mu, has not looked at writeErr yet
  | lockedChecked   -- holds mu, saw writeErr = nil
  | deadlineSet     -- holds mu, SetWriteDeadline succeeded
  | wrote (close : Bool) -- holds mu, transport write done, not yet marked/released
  | marked          -- holds mu, ErrCloseSent recorded if needed
  deriving DecidableEq, Repr

structure G where
  holder   : Option Nat
  writeErr : Bool               -- c.writeErr != nil
  wire     : List Bool          -- one entry per frame fully written; true = close frame
  phase    : Nat → Phase

def upd (f : Nat → Phase) (t : Nat) (p : Phase) : Nat → Phase := fun u => if u = t then p else f u

inductive Step : G → G → Prop
  | want (g t) (h : g.phase t = .idle) : Step g { g with phase := upd g.phase t .waiting }
  | acquire (g t) (h : g.phase t = .waiting) (hf : g.holder = none) :
      Step g { g with holder := some t, phase := upd g.phase t .lockedUnchecked }
  | timeout (g t) (h : g.phase t = .waiting) : Step g { g with phase := upd g.phase t .idle }
  | checkFail (g t) (h : g.phase t = .lockedUnchecked) (he : g.writeErr = true) :
      Step g { g with holder := none, phase := upd g.phase t .idle }
  | checkOk (g t) (h : g.phase t = .lockedUnchecked) (he : g.writeErr = false) :
      Step g { g with phase := upd g.phase t .lockedChecked }
  | deadlineOk (g t) (h : g.phase t = .lockedChecked) :
      Step g { g with phase := upd g.phase t .deadlineSet }
  | deadlineFail (g t) (h : g.phase t = .lockedChecked) :
      Step g { g with writeErr := true, holder := none, phase := upd g.phase t .idle }
  | writeOk (g t) (c : Bool) (h : g.phase t = .deadlineSet) :
      Step g { g with wire := g.wire ++ [c], phase := upd g.phase t (.wrote c) }
  | writeFail (g t) (h : g.phase t = .deadlineSet) :
      Step g { g with writeErr := true, holder := none, phase := upd g.phase t .idle }
  | mark (g t) (c : Bool) (h : g.phase t = .wrote c) :
      Step g { g with writeErr := g.writeErr || c, phase := upd g.phase t .marked }
  | release (g t) (h : g.phase t = .marked) :
      Step g { g with holder := none, phase := upd g.phase t .idle }

def holds (p : Phase) : Bool :=
  match p with
  | .idle | .waiting => false
  | _ => true

/-- close frame is last: every element of the wire except possibly the last is a non-close frame -/
def CloseLast (w : List Bool) : Prop := ∀ i, i + 1 < w.length → w[i]? = some false

structure Inv (g : G) : Prop where
  lock   : ∀ t, holds (g.phase t) = true → g.holder = some t
  closeL : CloseLast g.wire
  -- if a close frame is on the wire and writeErr is still nil, the closer is still inside its critical section
  closer : true ∈ g.wire → g.writeErr = false → ∃ t, g.holder = some t ∧ g.phase t = .wrote true
  -- whoever holds the lock past the check knows no close is on the wire
  clean  : ∀ t, (g.phase t = .lockedChecked ∨ g.phase t = .deadlineSet) → true ∉ g.wire

def init : G := { holder := none, writeErr := false, wire := [], phase := fun _ => .idle }

inductive Reach : G → Prop
  | init : Reach init
  | step {g g'} : Reach g → Step g g' → Reach g'

end WS.Sched
