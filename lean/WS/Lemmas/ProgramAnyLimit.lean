import WS.Lemmas.CutAdv
import WS.Lemmas.RobustReader
/-
  NextReader skips the rest of an abandoned message (`nrl_` stands for `nextReaderLoop`). Called from anywhere
  inside a message whose remaining frames are within the read limit, the loop passes the rest of that message
  (its pings / pongs reach the handlers, in order) and arrives, with the same result, at a reader at the boundary
  of what follows, the unread rest of the last frame skipped (`nrl_boundary`). What happens there is a question
  about a reader with `remaining = 0`, answered in CutProgramAux (cut message) and ViolProgram (violating header).
-/
namespace WS.ProgramAnyLimit
open WS WS.Codec WS.SrcLaw WS.ReaderDecodes WS.AdvFrame

def skipped (c : Conn) (b' : Buf) : Conn := { c with r := { c.r with buf := b', remaining := 0 } }

/-- reading a frame header does not depend on `remaining`, which it overwrites -/
theorem afHead_rem (c : Conn) (b' : Buf) :
    afHead { c with r := { c.r with buf := b' } } = afHead (skipped c b') ∨
    ∃ e x, afHead { c with r := { c.r with buf := b' } } = (.error e, x) ∧ x.r.hlog = c.r.hlog := by
  unfold afHead skipped
  simp only []
  generalize b'.take 2 = r
  obtain ⟨p, e, b⟩ := r
  simp only []
  cases e with
  | some e => right; exact ⟨e, _, rfl, rfl⟩
  | none =>
    match p with
    | [] => right; exact ⟨.any, _, rfl, rfl⟩
    | [_] => right; exact ⟨.any, _, rfl, rfl⟩
    | [b0, b1] => left; rfl
    | _ :: _ :: _ :: _ => right; exact ⟨.any, _, rfl, rfl⟩

/-- advanceFrame first skips the unread rest of the current frame -/
theorem adv_norm (c : Conn) (wire tail : Bytes) (hrem : c.r.remaining = (wire.length : Int))
    (hwf : WF c.r.buf) (hp : c.r.buf.pending = wire ++ tail) :
    ∃ b', b'.pending = tail ∧ Fr0 c (skipped c b') ∧
      (advanceFrame c = advanceFrame (skipped c b') ∨
       ∃ e x, advanceFrame c = (.error e, x) ∧ x.r.hlog = c.r.hlog) := by
  obtain ⟨b', h1, h2, h3, h4⟩ := afSkip_ok c wire tail hrem hwf hp
  refine ⟨b', h2, Fr0.upd h4 fun _ => ⟨h3, by rw [h2, hp]; simp, h4⟩, ?_⟩
  rw [advanceFrame_eq, advanceFrame_eq, h1, afSkip_zero (skipped c b') rfl]
  exact afHead_rem c b'

theorem nrl_norm (fuel : Nat) (c : Conn) (b' : Buf) (hne : c.r.readErr = none)
    (h : advanceFrame c = advanceFrame (skipped c b') ∨
       ∃ e x, advanceFrame c = (.error e, x) ∧ x.r.hlog = c.r.hlog) :
    nextReaderLoop (fuel + 1) c = nextReaderLoop (fuel + 1) (skipped c b') ∨
    ∃ e c1, nextReaderLoop (fuel + 1) c = (.err e, c1) ∧ c1.r.hlog = c.r.hlog := by
  rcases h with h | ⟨e, x, h1, h2⟩
  · left
    have hne' : (skipped c b').r.readErr = none := hne
    conv => lhs; unfold nextReaderLoop
    conv => rhs; unfold nextReaderLoop
    simp only [hne, hne', h]
  · right
    exact ⟨e, _, RobustAux.nextReaderLoop_on_err fuel c hne e x h1, h2⟩

/-- `extra`: a length budget carried along, what the frames that follow may still add to the running sum -/
theorem nrl_skip_extra (S : Bool) (rest : Bytes) (extra : Nat) (fuel : Nat) :
    ∀ (c : Conn) (wire : Bytes) (more : List PFrame), St S c wire more rest →
      LenOk c ((dataPayload more).length + extra) → c.r.buf.pending.length < fuel →
      ∃ fuel' c' wire', nextReaderLoop fuel c = nextReaderLoop fuel' c' ∧ St S c' wire' [] rest ∧
        c'.r.final = true ∧ Keep c c' ∧ c'.r.buf.pending.length < fuel' ∧
        c'.r.hlog = c.r.hlog ++ ctlEvents more ∧ c'.r.nextId = c.r.nextId ∧ c'.r.msgReader = c.r.msgReader ∧
        c'.r.nego = c.r.nego ∧ LenOk c' extra := by
  induction fuel with
  | zero => intro c _ _ _ _ h; omega
  | succ fuel ih =>
    intro c wire more hst hl hf
    cases hfin : c.r.final with
    | true =>
      have hmore := hst.finT hfin
      subst hmore
      exact ⟨fuel + 1, c, wire, rfl, hst, hfin, Keep.refl c, hf, by simp, rfl, rfl, rfl, by simpa using hl⟩
    | false =>
      obtain ⟨t', c', wire', more', a1, a2, hst', fr, hl', _, hlog, lt⟩ :=
        step_tail S c wire more _ hst hfin extra hl
      have hstep := RobustAux.nextReaderLoop_on_pass fuel c hst.noErr t' c' a1 a2
      obtain ⟨f2, c2, w2, b1, b2, b3, b4, b5, b6, b7, b8, b9, b10⟩ := ih c' wire' more' hst' hl' (by omega)
      -- the skipped frames' events: c2.hlog = c'.hlog ++ ctlEvents more' = c.hlog ++ ctlEvents more
      exact ⟨f2, c2, w2, by rw [hstep, b1], b2, b3, fr.keep.trans b4, b5, by rw [b6]; exact hlog, b7.trans fr.nextId,
        b8.trans fr.msgReader, b9.trans fr.nego, b10⟩

theorem nrl_skip (S : Bool) (rest : Bytes) (fuel : Nat) :
    ∀ (c : Conn) (wire : Bytes) (more : List PFrame), St S c wire more rest →
      LenOk c (dataPayload more).length → c.r.buf.pending.length < fuel →
      ∃ fuel' c' wire', nextReaderLoop fuel c = nextReaderLoop fuel' c' ∧ St S c' wire' [] rest ∧
        c'.r.final = true ∧ Keep c c' ∧ c'.r.buf.pending.length < fuel' ∧
        c'.r.hlog = c.r.hlog ++ ctlEvents more ∧ c'.r.nextId = c.r.nextId ∧ c'.r.msgReader = c.r.msgReader := by
  intro c wire more hst hl hf
  obtain ⟨f, c', w, h1, h2, h3, h4, h5, h6, h7, h8, _⟩ := nrl_skip_extra S rest 0 fuel c wire more hst hl hf
  exact ⟨f, c', w, h1, h2, h3, h4, h5, h6, h7, h8⟩

/-- `c'`: the reader at the frame boundary of what follows, the unread rest of the last frame skipped -/
theorem nrl_boundary (S : Bool) (rest : Bytes) (extra : Nat) (fuel : Nat) (c : Conn) (wire : Bytes)
    (more : List PFrame) (hst : St S c wire more rest) (hl : LenOk c ((dataPayload more).length + extra))
    (hf : c.r.buf.pending.length < fuel) :
    ∃ fuel' c', (nextReaderLoop fuel c = nextReaderLoop (fuel' + 1) c' ∨
        ∃ e c1, nextReaderLoop fuel c = (.err e, c1) ∧ c1.r.hlog = c'.r.hlog) ∧
      St S c' [] [] rest ∧ c'.r.final = true ∧ c'.r.buf.pending = rest ∧ c'.r.limit = c.r.limit ∧
      c'.r.hlog = c.r.hlog ++ ctlEvents more ∧ c'.r.nextId = c.r.nextId ∧ c'.r.msgReader = c.r.msgReader ∧
      c'.r.nego = c.r.nego ∧ LenOk c' extra := by
  obtain ⟨f1, c1, w1, b1, b2, b3, b4, b5, b6, b7, b8, b9, b10⟩ := nrl_skip_extra S rest extra fuel c wire more hst hl hf
  have hp : c1.r.buf.pending = w1 ++ rest := by
    have := b2.pend
    simpa using this
  obtain ⟨b', p1, fr, p4⟩ := adv_norm c1 w1 rest b2.rem b2.env.wf hp
  have hst' : St S (skipped c1 b') [] [] rest := by
    refine ⟨b2.env.fr0 fr, b2.srv, b2.noErr, rfl, ?_, fun _ => rfl, ?_, b2.len0, ?_⟩
    · show b'.pending = _
      rw [p1]; simp
    · intro h
      have h' : c1.r.final = false := h
      rw [b3] at h'; cases h'
    · rw [fr.same.together]; exact b2.tog
  obtain ⟨f0, hf0⟩ : ∃ f0, f1 = f0 + 1 := ⟨f1 - 1, by omega⟩
  subst hf0
  refine ⟨f0, skipped c1 b', ?_, hst', b3, p1, b4.limit, b6, b7, b8, b9, b10⟩
  rcases nrl_norm f0 c1 b' b2.noErr p4 with h | ⟨e, cc, h, hh⟩
  · left; rw [b1, h]
  · right; exact ⟨e, cc, by rw [b1, h], hh⟩

theorem nrl_skip_boundary (S : Bool) (rest : Bytes) (fuel : Nat) (c : Conn) (wire : Bytes) (more : List PFrame)
    (hst : St S c wire more rest) (hl : LenOk c (dataPayload more).length) (hf : c.r.buf.pending.length < fuel) :
    ∃ fuel' c', (nextReaderLoop fuel c = nextReaderLoop (fuel' + 1) c' ∨ ∃ e c1, nextReaderLoop fuel c = (.err e, c1)) ∧
      St S c' [] [] rest ∧ c'.r.final = true ∧ c'.r.buf.pending = rest ∧ c'.r.limit = c.r.limit ∧
      c'.r.hlog = c.r.hlog ++ ctlEvents more ∧ c'.r.nextId = c.r.nextId ∧ c'.r.msgReader = c.r.msgReader := by
  obtain ⟨f, c', h1, h2, h3, h4, h5, h6, h7, h8, _⟩ := nrl_boundary S rest 0 fuel c wire more hst hl hf
  exact ⟨f, c', h1.imp id fun ⟨e, c1, h, _⟩ => ⟨e, c1, h⟩, h2, h3, h4, h5, h6, h7, h8⟩

open WS.RobustAux in
theorem nextReader_of_loop_err (c : Conn) (hne : c.r.readErr = none) (e : RErr) (c1 : Conn)
    (h : nextReaderLoop c.fuel (c0 c) = (.err e, c1)) :
    ((∃ e' c2, nextReader c = (.err e', c2)) ∨ (∃ c2, nextReader c = (.panic, c2))) ∧
      (nextReader c).2.r.hlog = c1.r.hlog := by
  rw [nextReader_loop_err c hne e c1 h]
  refine ⟨?_, rfl⟩
  split
  · exact Or.inr ⟨_, rfl⟩
  · exact Or.inl ⟨_, _, rfl⟩

end WS.ProgramAnyLimit
