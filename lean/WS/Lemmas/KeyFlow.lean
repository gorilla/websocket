import WS.Lemmas.Content
/-
  For WriterMore.lean: which masking key every frame of a WriteMessage carries and how the process-wide
  key source advances (`KSt`, the mask fields a wire encodes; `KInv`, carried along the loops of the
  message writer beside `MidZ`; `keyOf` itself is in Transport.lean), and ping / pong through
  WriteMessage (`flush_ctl`, `ctl_tail`).
-/
namespace WS.KeyFlow
open WS WS.Codec WS.Stream WS.Flow WS.ZFlow WS.ReadFromLoop WS.Content WS.CompressedWrite

def KSt (w : Bytes) (K : List (Option Key)) : Prop :=
  ∃ fs, Spec.decodeStream w = some fs ∧ fs.map (·.mask) = K

theorem KSt.prefix {w K} (h : KSt w K) : (Spec.decodePrefixAux w.length w).map (·.mask) = K := by
  obtain ⟨fs, hd, hK⟩ := h
  rw [decodePrefix_of_stream w fs hd]
  exact hK

theorem KSt.of_idle {s : W} (hi : Idle s) :
    KSt s.wire ((Spec.decodePrefixAux s.wire.length s.wire).map (·.mask)) := by
  obtain ⟨fs, hd, _⟩ := hi.whole
  exact ⟨fs, hd, by rw [decodePrefix_of_stream s.wire fs hd]⟩

theorem KSt.frame {w K} (h : KSt w K) (sv : Bool) (b0 : Nat) (key : Key) (payload : Bytes)
    (hb : b0 < 256) (hl : payload.length < 2 ^ 63) :
    KSt (w ++ encode sv b0 key payload) (K ++ [if sv then none else some key]) := by
  obtain ⟨fs, hd, hK⟩ := h
  have hf : Spec.decodeFrame (encode sv b0 key payload) = some (frameOf sv b0 key payload, []) := by
    have := decode_encode sv b0 key payload [] hb hl
    simpa using this
  refine ⟨fs ++ [frameOf sv b0 key payload], decodeStream_snoc w _ fs _ hd hf, ?_⟩
  rw [List.map_append, hK]
  rfl

/-- progress of one WriteMessage relative to its start (`sv`, `keys`, `k0`, `K0`): `n` frames
    written so far, each carrying the next draw (clients) or no key (servers) -/
structure KInv (sv : Bool) (keys : Bytes) (k0 : Nat) (K0 : List (Option Key)) (s : W) (n : Nat) : Prop where
  hsv : s.isServer = sv
  hkeys : s.keys = keys
  hidx : s.keyIdx = k0 + (if sv then 0 else n)
  hwire : KSt s.wire (K0 ++ (List.range n).map (fun i => if sv then none else some (keyOf keys (k0 + i))))

theorem KInv.start {s : W} (hi : Idle s) :
    KInv s.isServer s.keys s.keyIdx ((Spec.decodePrefixAux s.wire.length s.wire).map (·.mask)) s 0 := by
  refine ⟨rfl, rfl, by simp, ?_⟩
  simpa using KSt.of_idle hi

theorem KInv.congr {sv keys k0 K0 n} {s s' : W} (h : KInv sv keys k0 K0 s n) (h1 : s'.isServer = s.isServer)
    (h2 : s'.keys = s.keys) (h3 : s'.keyIdx = s.keyIdx) (h4 : s'.wire = s.wire) : KInv sv keys k0 K0 s' n :=
  ⟨h1.trans h.hsv, h2.trans h.hkeys, h3.trans h.hidx, by rw [h4]; exact h.hwire⟩

theorem KInv.step {sv keys k0 K0 n} {s s' : W} (h : KInv sv keys k0 K0 s n) (b0 : Nat) (payload : Bytes)
    (hb : b0 < 256) (hl : payload.length < 2 ^ 63)
    (h1 : s'.isServer = s.isServer) (h2 : s'.keys = s.keys)
    (h3 : s'.keyIdx = s.keyIdx + (if s.isServer then 0 else 1))
    (h4 : s'.wire = s.wire ++ encode s.isServer b0 (keyOf s.keys s.keyIdx) payload) :
    KInv sv keys k0 K0 s' (n + 1) := by
  obtain ⟨hsv, hks, hki, hw⟩ := h
  refine ⟨h1.trans hsv, h2.trans hks, ?_, ?_⟩
  · rw [h3, hki, hsv]
    cases sv <;> simp <;> omega
  · rw [h4]
    have := hw.frame s.isServer b0 (keyOf s.keys s.keyIdx) payload hb hl
    rw [List.range_succ, List.map_append, ← List.append_assoc]
    rw [hsv, hks, hki] at this ⊢
    cases sv
    · simpa using this
    · simpa using this

section Data
variable {sv : Bool} {keys : Bytes} {k0 : Nat} {K0 : List (Option Key)}

theorem flush_k {s m t M C acc n} (h : MidZ s m t false M C acc) (ht : t = 1 ∨ t = 2) (final : Bool) (extra : Bytes)
    (hel : extra.length < 2 ^ 40) (hx : s.isServer = true ∨ extra = []) (hk : KInv sv keys k0 K0 s n) :
    KInv sv keys k0 K0 (flushFrame s m final extra).2.1 (n + 1) := by
  have hft := h.ft_lt ht
  have hcap := h.cap_lt
  have hbl := h.buflen
  have hfl := flushFrame_data s m final extra h.healthy h.noFaults (by omega) hx h.err
  refine hk.step _ (m.buf ++ extra) ?_ ?_ hfl.keep.isServer (W.fixed_keys (flushFrame_fixed ..)) hfl.keyIdx hfl.wire
  · split <;> split <;> omega
  · simp only [List.length_append]; omega

theorem k_loopInv (t : Nat) (ht : t = 1 ∨ t = 2) (M : List Spec.Msg) (C : List (Nat × Bytes)) (n : Nat) :
    LoopInv (fun s m acc => MidZ s m t false M C acc ∧ ∃ n', n ≤ n' ∧ KInv sv keys k0 K0 s n') where
  live := fun h => h.1.err
  room := fun h => ⟨h.1.cap_lt.2, h.1.buflen⟩
  flush := fun extra h hx hl =>
    have hf := flush_midZ h.1 ht extra hl hx
    have ⟨n', hn', hk⟩ := h.2
    ⟨hf.1, hf.2.2.2.1, hf.2.2.2.2, n' + 1, by omega, flush_k h.1 ht false extra hl hx hk⟩
  extend := fun chunk h hc => ⟨h.1.extend chunk hc, h.2⟩

theorem writeMessage_k (s : W) (hi : Idle s) (t : Nat) (ht : t = 1 ∨ t = 2) (data : Bytes)
    (hd : data.length < 2 ^ 40) :
    ∃ n, 0 < n ∧ KInv s.isServer s.keys s.keyIdx ((Spec.decodePrefixAux s.wire.length s.wire).map (·.mask))
      (writeMessage s t data).2 n := by
  have hk := Keep.ensureBuf s
  have hk1 := (KInv.start hi).congr (s' := ensureBuf s) hk.isServer (W.fixed_keys (ensureBuf_fixed s))
    (ensureBuf_keyIdx s) (ensureBuf_wire s).1
  obtain ⟨s', m', acc, extra, ⟨hmid, n', _, hkn⟩, _, hx, hel, hc, hks, hki⟩ :=
    writeMessage_walk (k_loopInv t ht (wireMessages s) (wireControls s) 0)
      (fun hc hl hks hki h => ⟨h.1.of_core hc hl,
        h.2.imp fun _ hn => ⟨hn.1, hn.2.congr (core_isServer hc) hks hki (core_wire hc)⟩⟩)
      s hi.noWriter hi.healthy (by rw [hi.plain]; rfl) t ht data hd
      (fun buf hb => ⟨midZ_start hi.toG t false _ hk.writeErr hk.faults hk.wbufLen (ensureBuf_wire s).1 buf hb,
        0, Nat.le_refl _, hk1⟩)
  exact ⟨n' + 1, by omega,
    (flush_k hmid ht true extra hel hx hkn).congr (core_isServer hc) hks hki (core_wire hc)⟩

end Data

theorem isControl_ctl (t : Nat) (ht : t = 9 ∨ t = 10) : isControl (t : Int) = true := by
  rcases ht with rfl | rfl <;> decide

theorem ne8_ctl (t : Nat) (ht : t = 9 ∨ t = 10) : ((t : Int) == 8) = false := by
  rcases ht with rfl | rfl <;> decide

theorem isData_ctl (t : Nat) (ht : t = 9 ∨ t = 10) : isData (t : Int) = false := by
  rcases ht with rfl | rfl <;> decide

theorem flush_ctl {s : W} {m : MW} {M C} (t : Nat) (ht : t = 9 ∨ t = 10) (extra : Bytes)
    (he : s.writeErr = none) (hf : s.faults = []) (hft : m.ft = t) (hc : m.compress = false)
    (hm : m.err = none) (hx : s.isServer = true ∨ extra = [])
    (hlen : m.buf.length + extra.length ≤ 125) (hw : WireSt s.wire M C none) :
    (flushFrame s m true extra).1 = none ∧ Keep s (flushFrame s m true extra).2.1 ∧
    (flushFrame s m true extra).2.1.writer = none ∧
    (flushFrame s m true extra).2.2.err.isSome ∧
    WireSt (flushFrame s m true extra).2.1.wire M (C ++ [(t, m.buf ++ extra)]) none := by
  have hmax : maxControlPayload = 125 := by decide
  have hfl := flushFrame_ok s m true extra he hf (by rw [hft]; exact ne8_ctl t ht)
    hx hm (Or.inr ⟨rfl, by rw [hmax]; exact hlen⟩)
  refine ⟨hfl.ok, hfl.keep, hfl.writer, hfl.ended rfl, ?_⟩
  rw [hfl.wire, hft, hc]
  exact hw.control s.isServer t ht _ (m.buf ++ extra) (by simp only [List.length_append]; omega)

theorem copyLoop_fits (s : W) (m : MW) (p : Bytes) (hb : m.buf = []) (hp : p.length ≤ s.cap) :
    copyLoop s m p = (none, s, { m with buf := p }) := by
  unfold copyLoop
  split
  · rename_i h
    subst h
    rw [← hb]
  · rename_i hpne
    have hpl : p.length ≠ 0 := by simpa using hpne
    have hnp : ncopyPrep s m = (none, s, m) := by
      unfold ncopyPrep
      rw [hb]
      simp only [List.length_nil]
      rw [if_neg (by omega)]
    rw [hnp]
    dsimp only
    have hmin : min (s.cap - m.buf.length) p.length = p.length := by
      rw [hb]; simp only [List.length_nil]; omega
    rw [dif_neg (by rw [hmin]; exact hpl)]
    rw [hmin, List.take_length, List.drop_length, hb, List.nil_append]
    unfold copyLoop
    simp

theorem hWrite_fits {s : W} {h : Nat} {pre : List MW} {m : MW} (hmws : s.mws = pre ++ [m])
    (hh : s.handles[h]? = some (.plain pre.length)) (herr : m.err = none) (hbuf : m.buf = [])
    (hcl : s.isServer = false) (p : Bytes) (hp : p.length ≤ s.cap) :
    hWrite s h p [] = ((p.length, none), setMW s pre.length { m with buf := p }) := by
  rw [hWrite_plain hh p [] false _ rfl, getMW_last s pre m hmws]
  simp only [Bool.false_eq_true, if_false]
  unfold mwWrite
  rw [herr]
  dsimp only
  rw [hcl]
  simp only [Bool.and_false, Bool.false_eq_true, if_false]
  rw [copyLoop_fits s m p hbuf hp]
  simp [herr]

theorem ctl_tail {s : W} {h : Nat} {pre : List MW} {m : MW} {M C} (t : Nat) (ht : t = 9 ∨ t = 10)
    (hmws : s.mws = pre ++ [m]) (hh : s.handles[h]? = some (.plain pre.length))
    (hft : m.ft = t) (herr : m.err = none) (hbuf : m.buf = []) (hc : m.compress = false)
    (hcl : s.isServer = false) (he : s.writeErr = none) (hf : s.faults = [])
    (data : Bytes) (hp : data.length ≤ s.cap) (hd : data.length ≤ 125) (hw : WireSt s.wire M C none) :
    ∃ s2 s3 m3, hWrite s h data [] = ((data.length, none), s2) ∧ hClose s2 h [] [] = (none, s3) ∧
      s3.writeErr = none ∧ s3.faults = [] ∧ s3.writer = none ∧ s3.mws = pre ++ [m3] ∧ m3.err.isSome ∧
      s3.wbufLen = s.wbufLen ∧ s3.nego = s.nego ∧ WireSt s3.wire M (C ++ [(t, data)]) none := by
  have hmws2 : (setMW s pre.length { m with buf := data }).mws = pre ++ [{ m with buf := data }] := by
    show s.mws.set pre.length _ = _
    rw [hmws, set_last]
  have hcl2 := hClose_plain (s := setMW s pre.length { m with buf := data }) (h := h) (i := pre.length) hh [] []
  rw [getMW_last _ pre _ hmws2, mwClose_live (m := { m with buf := data }) herr] at hcl2
  have hfl := flush_ctl (s := setMW s pre.length { m with buf := data }) (m := { m with buf := data })
    (M := M) (C := C) t ht [] he hf hft hc herr (Or.inr rfl) (by simpa using hd) hw
  obtain ⟨h1, hk, hwr, herr3, hws⟩ := hfl
  rw [h1] at hcl2
  refine ⟨_, _, _, hWrite_fits hmws hh herr hbuf hcl data hp, hcl2, hk.writeErr.trans he, hk.faults.trans hf,
    hwr, ?_, herr3, hk.wbufLen, hk.nego, ?_⟩
  · show (flushFrame _ _ true []).2.1.mws.set pre.length _ = _
    rw [hk.mws, hmws2, set_last]
  · have hws' : WireSt (flushFrame (setMW s pre.length { m with buf := data }) { m with buf := data } true []).2.1.wire
        M (C ++ [(t, data)]) none := by simpa using hws
    exact hws'

end WS.KeyFlow
