import WS.Lemmas.ReaderRejects
/-
  C04 / C06 at the level of the read API: what NextReader and a message reader return when the next
  frame violates the framing rules or breaks the read limit — after any conformant history.
  An error of `advanceFrame` is carried through the loops once (`RobustAux.nextReader_adv_err`, `mrRead_adv_err`).
  `ReaderIdle` does not bound the failed-call counter, so at NextReader each statement comes with the
  panic of the 1000th failed call as an alternative (`…_total`) and under `errCount + 1 < 1000`
  (`…_partial`); `cex`, `cex2` show that one of the two is needed.
-/
namespace WS.ReaderLift
open WS WS.Codec WS.SrcLaw WS.HdrLogic WS.ReaderDecodes WS.ReaderRejects

theorem mrRead_adv_err (c : Conn) (rid k : Nat) (h : c.r.readErr = none) (hr : c.r.remaining = 0)
    (hf : c.r.final = false) (hm : c.r.msgReader = some rid) (e : RErr) (c' : Conn)
    (ha : advanceFrame c = (.error e, c')) (hne : e ≠ .eof) :
    mrRead c rid k = (([], some e), { c' with r := { c'.r with readErr := some e } }) := by
  have hrem : ¬ c.r.remaining > 0 := by rw [hr]; decide
  have hfu : c.fuel + 1 = (c.r.buf.total + c.r.buf.size + 1) + 1 + 1 := rfl
  have hne' : (e = RErr.eof) = False := eq_false hne
  rw [RobustAux.mrRead_cur c rid k hm, hfu, RobustAux.mrReadLoop_on_err _ c rid k h hrem hf e c' ha,
    RobustAux.mrReadLoop_on_latched _ _ rid k e rfl]
  simp only [hne', decide_false, Bool.false_and, Bool.false_eq_true, if_false]

/-- C04 (idle): the next frame's header violates the framing rules ⇒ NextReader latches the protocol
    error and returns it — or panics, if this is the 1000th failed call —, no handler runs, the two
    header bytes are consumed and the 1002 close frame is written -/
theorem nextReader_violation_total (c : Conn) (hc : ReaderIdle c) (hw : WHealthy c.w) (b0 b1 : UInt8) (rest : Bytes)
    (hp : c.r.buf.pending = b0 :: b1 :: rest)
    (hv : Violates c.r.isServer c.r.nego false (parseHdr b0 b1)) :
    ∃ msg c', nextReader c = (if c.r.errCount + 1 ≥ 1000 then NRRes.panic else .err (.protocol msg), c') ∧
      c'.r.readErr = some (.protocol msg) ∧
      c'.r.hlog = c.r.hlog ∧ c'.r.buf.pending = rest ∧
      c'.w.wire = c.w.wire ++ closeFrameBytes c.w ((closePayload 1002 (strBytes msg)).take 125) ∧
      c'.w.writeErr = some .closeSent := by
  have hv' : Violates (RobustAux.c0 c).r.isServer (RobustAux.c0 c).r.nego (!(RobustAux.c0 c).r.final) (parseHdr b0 b1) := by
    show Violates c.r.isServer c.r.nego (!c.r.final) (parseHdr b0 b1)
    rw [hc.fin]; exact hv
  obtain ⟨msg, c', ha, h1, h2, h3, h4⟩ :=
    header_violation_rejected (RobustAux.c0 c) hc.atBoundary_c0 hw b0 b1 rest hp hv'
  exact ⟨msg, _, RobustAux.nextReader_adv_err c hc.noErr _ c' ha, rfl, h1, h2, h3, h4⟩

/-- C04 (idle) below the 1000th failed call (the side condition of `ReaderRejects.nextReader_sticky`).
    Without `hn` the statement is false: `nextReader_violation_cex`. -/
theorem nextReader_violation_partial (c : Conn) (hc : ReaderIdle c) (hw : WHealthy c.w) (b0 b1 : UInt8) (rest : Bytes)
    (hp : c.r.buf.pending = b0 :: b1 :: rest)
    (hv : Violates c.r.isServer c.r.nego false (parseHdr b0 b1))
    (hn : c.r.errCount + 1 < 1000) :
    ∃ msg c', nextReader c = (.err (.protocol msg), c') ∧ c'.r.readErr = some (.protocol msg) ∧
      c'.r.hlog = c.r.hlog ∧ c'.r.buf.pending = rest ∧
      c'.w.wire = c.w.wire ++ closeFrameBytes c.w ((closePayload 1002 (strBytes msg)).take 125) ∧
      c'.w.writeErr = some .closeSent := by
  obtain ⟨msg, c', h0, h⟩ := nextReader_violation_total c hc hw b0 b1 rest hp hv
  have hn' : ¬ (c.r.errCount + 1 ≥ 1000) := by omega
  rw [if_neg hn'] at h0
  exact ⟨msg, c', h0, h⟩

/-- an idle, healthy client-side connection whose NextReader has already failed 999 times
    (`ReaderIdle` does not bound `errCount`) and whose next frame is a text frame with RSV1 set (no
    compression negotiated) -/
def cex : Conn :=
  { w := { isServer := false, wbufLen := 0, pool := false, nego := false },
    r := { isServer := false, nego := false, errCount := 999,
           buf := { size := 4096, buf := [0xC1, 0x00], total := 2 } } }

theorem cex_idle : ReaderIdle cex :=
  ⟨rfl, rfl, rfl, ⟨by decide, by decide, (by intro c h; cases h), (by intro e h; cases h)⟩, by decide, by decide,
    (by intro id h; cases h), (by intro id h; cases h)⟩

theorem cex_healthy : WHealthy cex.w := ⟨rfl, rfl⟩

theorem cex_pending : cex.r.buf.pending = 0xC1 :: 0x00 :: [] := by decide

theorem cex_violates : Violates cex.r.isServer cex.r.nego false (parseHdr 0xC1 0x00) :=
  Or.inr (Or.inr (Or.inl ⟨by decide, rfl⟩))

/-- `cex` meets every hypothesis of `nextReader_violation_partial` but `hn`, and NextReader panics instead of
    returning the error -/
theorem nextReader_violation_cex : ¬ ∃ msg c', nextReader cex = (.err (.protocol msg), c') := by
  rintro ⟨msg, c', h⟩
  obtain ⟨msg2, c2, h2, _⟩ := nextReader_violation_total cex cex_idle cex_healthy 0xC1 0x00 [] cex_pending cex_violates
  have hn : cex.r.errCount + 1 ≥ 1000 := by decide
  rw [if_pos hn, h] at h2
  have := congrArg Prod.fst h2
  cases this

/-- a reader in the middle of a fragmented message, at a frame boundary: the current frame's payload
    has been delivered completely and it was not the final frame -/
structure MidMessage (c : Conn) (rid : Nat) : Prop where
  noErr : c.r.readErr = none
  rem : c.r.remaining = 0
  notFinal : c.r.final = false
  cur : c.r.msgReader = some rid
  wf : WF c.r.buf
  size : 125 ≤ c.r.buf.size
  fuel : c.r.buf.pending.length ≤ c.r.buf.total

theorem MidMessage.atBoundary {c : Conn} {rid : Nat} (h : MidMessage c rid) : AtBoundary c :=
  ⟨h.noErr, h.rem, h.wf, h.size⟩

set_option linter.unusedVariables false in
/-- C04 (inside a fragmented message): the next Read on the message reader returns the protocol
    error, delivers no byte, and the 1002 close frame is written; a new text / binary frame is such a
    violation. (`hk` is not used.) -/
theorem read_violation_mid_message (c : Conn) (rid : Nat) (hc : MidMessage c rid) (hw : WHealthy c.w) (b0 b1 : UInt8) (rest : Bytes)
    (hp : c.r.buf.pending = b0 :: b1 :: rest)
    (hv : Violates c.r.isServer c.r.nego true (parseHdr b0 b1)) (k : Nat) (hk : 0 < k) :
    ∃ msg c', mrRead c rid k = (([], some (.protocol msg)), c') ∧ c'.r.readErr = some (.protocol msg) ∧
      c'.r.hlog = c.r.hlog ∧
      c'.w.wire = c.w.wire ++ closeFrameBytes c.w ((closePayload 1002 (strBytes msg)).take 125) := by
  have hv' : Violates c.r.isServer c.r.nego (!c.r.final) (parseHdr b0 b1) := by
    rw [hc.notFinal]; exact hv
  obtain ⟨msg, c', ha, h1, _, h3, _⟩ :=
    header_violation_rejected c hc.atBoundary hw b0 b1 rest hp hv'
  exact ⟨msg, _, mrRead_adv_err c rid k hc.noErr hc.rem hc.notFinal hc.cur _ c' ha (by intro h; cases h),
    rfl, h1, h3⟩

/-- C06 at NextReader, either role, any of the length encodings of a payload below 2^16: the first frame
    of a message longer than the limit ⇒ ErrReadLimit is latched and returned (or the 1000th failed call
    panics), the payload stays unread, the 1009 close frame is written -/
theorem nextReader_over_limit_any_total (c : Conn) (hc : ReaderIdle c) (hw : WHealthy c.w)
    (t : Nat) (ht : t = 1 ∨ t = 2) (fin : Bool) (key : Key) (payload rest : Bytes) (hl : payload.length < 65536)
    (hp : c.r.buf.pending = PFrame.enc c.r.isServer ⟨t, fin, key, payload⟩ ++ rest)
    (hlim : 0 < c.r.limit) (hover : c.r.limit < payload.length) :
    ∃ c', nextReader c = (if c.r.errCount + 1 ≥ 1000 then NRRes.panic else .err .readLimit, c') ∧
      c'.r.readErr = some .readLimit ∧
      c'.r.buf.pending = (if c.r.isServer then maskFrom key 0 payload else payload) ++ rest ∧
      c'.w.wire = c.w.wire ++ closeFrameBytes c.w (closePayload 1009 []) := by
  obtain ⟨c', ha, h1, _, h3, _⟩ := RoleGeneric.limit_refuses_any (RobustAux.c0 c) hc.atBoundary_c0 hw t fin key
    payload rest hl (Or.inl ⟨hc.fin, ht⟩) hp hlim (Int.le_refl 0) (by show (0 : Int) < 2 ^ 62; decide)
    (by show c.r.limit < (if t = 0 then (0 : Int) else 0) + (payload.length : Int)
        split <;> omega)
  exact ⟨_, RobustAux.nextReader_adv_err c hc.noErr _ c' ha, rfl, h1, h3⟩

/-- the same for a client-side reader and a 7-bit length, on the bytes as they are -/
theorem nextReader_over_limit_total (c : Conn) (hc : ReaderIdle c) (hw : WHealthy c.w) (hclient : c.r.isServer = false)
    (t : Nat) (ht : t = 1 ∨ t = 2) (payload rest : Bytes) (hl : payload.length < 126)
    (hp : c.r.buf.pending = [UInt8.ofNat (128 + t), UInt8.ofNat payload.length] ++ payload ++ rest)
    (hlim : 0 < c.r.limit) (hover : c.r.limit < payload.length) :
    ∃ c', nextReader c = (if c.r.errCount + 1 ≥ 1000 then NRRes.panic else .err .readLimit, c') ∧
      c'.r.readErr = some .readLimit ∧
      c'.r.buf.pending = payload ++ rest ∧
      c'.w.wire = c.w.wire ++ closeFrameBytes c.w (closePayload 1009 []) := by
  have he := enc_client_small t true default payload (by omega)
  rw [if_pos rfl, Nat.add_comm t 128] at he
  obtain ⟨c', h0, h1, h2, h3⟩ := nextReader_over_limit_any_total c hc hw t ht true default payload rest (by omega)
    (by rw [hclient, he]; exact hp) hlim hover
  rw [hclient] at h2
  exact ⟨c', h0, h1, h2, h3⟩

/-- C06 below the 1000th failed call. Without `hn` the statement is false: `nextReader_over_limit_cex`. -/
theorem nextReader_over_limit_partial (c : Conn) (hc : ReaderIdle c) (hw : WHealthy c.w) (hclient : c.r.isServer = false)
    (t : Nat) (ht : t = 1 ∨ t = 2) (payload rest : Bytes) (hl : payload.length < 126)
    (hp : c.r.buf.pending = [UInt8.ofNat (128 + t), UInt8.ofNat payload.length] ++ payload ++ rest)
    (hlim : 0 < c.r.limit) (hover : c.r.limit < payload.length)
    (hn : c.r.errCount + 1 < 1000) :
    ∃ c', nextReader c = (.err .readLimit, c') ∧ c'.r.readErr = some .readLimit ∧
      c'.r.buf.pending = payload ++ rest ∧
      c'.w.wire = c.w.wire ++ closeFrameBytes c.w (closePayload 1009 []) := by
  obtain ⟨c', h0, h⟩ := nextReader_over_limit_total c hc hw hclient t ht payload rest hl hp hlim hover
  have hn' : ¬ (c.r.errCount + 1 ≥ 1000) := by omega
  rw [if_neg hn'] at h0
  exact ⟨c', h0, h⟩

/-- read limit 1, a 2-byte text message, 999 earlier failed NextReader calls -/
def cex2 : Conn :=
  { w := { isServer := false, wbufLen := 0, pool := false, nego := false },
    r := { isServer := false, nego := false, errCount := 999, limit := 1,
           buf := { size := 4096, buf := [0x81, 0x02, 0x41, 0x42], total := 4 } } }

theorem cex2_idle : ReaderIdle cex2 :=
  ⟨rfl, rfl, rfl, ⟨by decide, by decide, (by intro c h; cases h), (by intro e h; cases h)⟩, by decide, by decide,
    (by intro id h; cases h), (by intro id h; cases h)⟩

theorem cex2_pending : cex2.r.buf.pending =
    [UInt8.ofNat (128 + 1), UInt8.ofNat ([0x41, 0x42] : Bytes).length] ++ [0x41, 0x42] ++ [] := by decide

/-- `cex2` meets every hypothesis of `nextReader_over_limit_partial` but `hn` (t = 1,
    payload = [0x41, 0x42], rest = []), and NextReader panics -/
theorem nextReader_over_limit_cex : ¬ ∃ c', nextReader cex2 = (.err .readLimit, c') := by
  rintro ⟨c', h⟩
  obtain ⟨c2, h2, _⟩ := nextReader_over_limit_total cex2 cex2_idle ⟨rfl, rfl⟩ rfl 1 (Or.inl rfl)
    [0x41, 0x42] [] (by decide) cex2_pending (by decide) (by decide)
  have hn : cex2.r.errCount + 1 ≥ 1000 := by decide
  rw [if_pos hn, h] at h2
  have := congrArg Prod.fst h2
  cases this

end WS.ReaderLift
