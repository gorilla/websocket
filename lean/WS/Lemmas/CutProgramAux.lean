import WS.Lemmas.LimitHistory
import WS.Lemmas.CutLoops
import WS.Lemmas.ProgramAnyLimit
/-
  Reader-level lemmas for CutProgram.lean (`nrl_` = `nextReaderLoop`): NextReader called while the reader is inside
  a cut message, or anywhere inside a whole message when what follows on the wire is a message cut strictly inside
  it (the walk to the end of the whole message is ProgramAnyLimit's). `mrReadLoop_data_latch` is a step of the C05
  corner `together = true ∧ cut = 0`, which is NOT PROVED; nothing uses it.
-/
namespace WS.CutProgramAux
open WS WS.Codec WS.SrcLaw WS.ReaderDecodes WS.AdvFrame WS.CutAdv WS.CutLoops WS.RobustAux
open WS.CutLoopsL (LenOv)
open WS.ProgramAnyLimit

theorem mrReadLoop_data_latch (fuel : Nat) (c : Conn) (rid k : Nat) (h : c.r.readErr = none)
    (hpos : c.r.remaining > 0) :
    (mrReadLoop (fuel + 1) c rid k).2.r.readErr = (mrReadLoop (fuel + 1) c rid k).1.2 := by
  rw [mrReadLoop_on_data fuel c rid k h hpos]
  rfl

theorem nrl_cut_fails (S : Bool) (fuel : Nat) :
    ∀ (c : Conn) (wire : Bytes) (more : List PFrame) (m : Nat), CSt S c wire more m →
      LenOv c (dataPayload more).length → ∃ e c1, nextReaderLoop fuel c = (.err e, c1) := by
  induction fuel with
  | zero => intro c _ _ _ _ _; exact ⟨.any, c, rfl⟩
  | succ fuel ih =>
    have base : ∀ (c : Conn) (more : List PFrame) (m : Nat), CSt S c [] more m →
        LenOv c (dataPayload more).length → ∃ e c1, nextReaderLoop (fuel + 1) c = (.err e, c1) := by
      intro c more m hst hl
      cases hfin : c.r.final with
      | true =>
        exfalso
        have hmore := hst.finT hfin
        subst hmore
        have := hst.cut
        simp at this
      | false =>
        rcases WS.CutLoopsL.cstep_tail S c more m hst hfin 0 (by simpa using hl) with ⟨e, c', a1, a2⟩ |
          ⟨t, c', wire', more', m', a1, a2, a3, _, a7, _⟩
        · exact ⟨_, _, nextReaderLoop_on_err fuel c hst.noErr e c' a1⟩
        · rw [nextReaderLoop_on_pass fuel c hst.noErr t c' a1 a2]
          exact ih c' wire' more' m' a3 (by simpa using a7)
    intro c wire more m hst hl
    have hcut := hst.cut
    by_cases hmw : m < wire.length
    · have hpos : c.r.remaining > 0 := by rw [hst.rem]; omega
      obtain ⟨s1, _⟩ := skip_short c.r.buf hst.env.wf c.r.remaining.toNat
        (by rw [hst.pend, List.length_take]; have := hst.rem; omega)
      have hadv : ∃ e c', advanceFrame c = (.error e, c') := by
        rw [advanceFrame_eq]
        unfold afSkip
        rw [if_pos hpos]
        generalize c.r.buf.skip c.r.remaining.toNat = r at s1
        obtain ⟨e, b⟩ := r
        simp only [] at s1
        subst s1
        exact ⟨_, _, rfl⟩
      obtain ⟨e, c', hadv⟩ := hadv
      exact ⟨_, _, nextReaderLoop_on_err fuel c hst.noErr e c' hadv⟩
    · have hp' : c.r.buf.pending = wire ++ (encAll S more).take (m - wire.length) := by
        rw [hst.pend, take_append_ge _ _ _ (by omega)]
      obtain ⟨b', p1, fr, p4⟩ := adv_norm c wire _ hst.rem hst.env.wf hp'
      have hst' : CSt S (skipped c b') [] more (m - wire.length) := by
        refine ⟨hst.env.fr0 fr, hst.srv, hst.noErr, rfl, ?_, ?_, hst.finT, hst.finF, hst.len0⟩
        · show b'.pending = _
          rw [p1]; simp
        · simp only [List.length_append, List.nil_append] at hcut ⊢
          omega
      rcases nrl_norm fuel c b' hst.noErr p4 with h | ⟨e, c1, h, _⟩
      · rw [h]
        exact base (skipped c b') more _ hst' hl
      · exact ⟨e, c1, h⟩

theorem nextReader_cut_fails (S : Bool) (c : Conn) (wire : Bytes) (more : List PFrame) (m : Nat)
    (hst : CSt S c wire more m) (hl : LenOv c (dataPayload more).length) :
    (∃ e c1, nextReader c = (.err e, c1)) ∨ (∃ c1, nextReader c = (.panic, c1)) := by
  have hlen0 := hst.len0
  unfold LenOv at hl
  have hst0 : CSt S (c0 c) wire more m := hst.congr rfl rfl rfl rfl rfl rfl rfl (Int.le_refl 0)
  have hl0 : LenOv (c0 c) (dataPayload more).length := by
    show (0 : Int) + ((dataPayload more).length : Int) < 9223372036854775808
    omega
  obtain ⟨e, c1, h⟩ := nrl_cut_fails S c.fuel (c0 c) wire more m hst0 hl0
  exact (nextReader_of_loop_err c hst.noErr e c1 h).1

/-- `extra` is a budget for the running sum (`nrl_boundary`) chosen so that whatever sum is compatible with it
    at the boundary leaves room for the payload of `fs` (`hB`) -/
theorem nrl_into_cut (S : Bool) (t : Nat) (ht : t = 1 ∨ t = 2) (fs : List PFrame) (hs : MsgShape t fs) (cut : Nat)
    (hcut : cut < (encAll S fs).length) (extra : Nat) (fuel : Nat) (c : Conn) (wire : Bytes) (more : List PFrame)
    (hst : St S c wire more ((encAll S fs).take cut)) (hl : LenOk c ((dataPayload more).length + extra))
    (hf : c.r.buf.pending.length < fuel)
    (hB : ∀ x : Int, 0 ≤ x → x + (extra : Int) < 9223372036854775808 →
      (c.r.limit ≤ 0 ∨ x + (extra : Int) ≤ c.r.limit) → x + ((dataPayload fs).length : Int) < 9223372036854775808) :
    (∃ e c1, nextReaderLoop fuel c = (.err e, c1)) ∨
    (∃ c1 w1 m1 n1, nextReaderLoop fuel c = (.msg t c.r.nextId false, c1) ∧ CSt S c1 w1 m1 n1 ∧
      c1.r.msgReader = some c.r.nextId ∧ LenOv c1 (dataPayload m1).length ∧
      c1.r.buf.pending.length ≤ c1.r.buf.total) := by
  obtain ⟨f', c', h1, h2, h3, h4, h5, _, h7, _, _, h10⟩ := nrl_boundary S _ extra fuel c wire more hst hl hf
  rcases h1 with h1 | ⟨e, c1, h1, _⟩
  · have hi : WS.CutLoopsL.CIdle S t c' fs cut :=
      ⟨.ofEnv h2.env, h2.srv, h2.noErr, h2.rem, h3, h2.len0, h4, hcut, hs,
        hB c'.r.length h2.len0 h10.1 (by rw [← h5]; exact h10.2)⟩
    rw [h1, ← h7]
    rcases WS.CutLoopsL.nextReaderLoop_cut S t ht (f' + 1) c' fs cut hi with
      ⟨e, c1, b1⟩ | ⟨c1, w1, m1, n1, b1, b2, b3, b4, _⟩
    · exact Or.inl ⟨e, c1, b1⟩
    · have hk := (nextReaderLoop_keeps (f' + 1) c').1.prog h2.env.wf
      rw [b1] at hk
      exact Or.inr ⟨c1, w1, m1, n1, b1, b2, b3, b4, hk.fuel h2.env.fuel⟩
  · exact Or.inl ⟨e, c1, h1⟩

/-- the budget for `nrl_into_cut`: the largest the limit (or, without one, int64) allows on top of the `k` payload
    bytes still to be skipped; a running sum compatible with it is then at most `k` -/
theorem cut_budget (L : Int) (k n f : Nat) (hk : k ≤ n) (hn : n < 2 ^ 62) (hf : f < 2 ^ 62)
    (hnL : L ≤ 0 ∨ (n : Int) ≤ L) :
    ∃ extra : Nat, ((0 : Int) + ((k + extra : Nat) : Int) < 9223372036854775808 ∧
        (L ≤ 0 ∨ (0 : Int) + ((k + extra : Nat) : Int) ≤ L)) ∧
      ∀ x : Int, 0 ≤ x → x + (extra : Int) < 9223372036854775808 → (L ≤ 0 ∨ x + (extra : Int) ≤ L) →
        x + (f : Int) < 9223372036854775808 := by
  by_cases hbig : L ≤ 0 ∨ 9223372036854775807 ≤ L
  · exact ⟨9223372036854775807 - k, by omega, fun x _ h1 _ => by omega⟩
  · exact ⟨(L - (k : Int)).toNat, by omega, fun x _ _ h2 => by omega⟩

theorem nextReader_into_cut (S : Bool) (t : Nat) (ht : t = 1 ∨ t = 2) (fs : List PFrame) (hs : MsgShape t fs)
    (hsz : (dataPayload fs).length < 2 ^ 62) (cut : Nat) (hcut : cut < (encAll S fs).length)
    (c : Conn) (wire : Bytes) (more : List PFrame)
    (hst : St S (c0 c) wire more ((encAll S fs).take cut)) (n : Nat) (hmn : (dataPayload more).length ≤ n)
    (hn : n < 2 ^ 62) (hnL : c.r.limit ≤ 0 ∨ (n : Int) ≤ c.r.limit) :
    (∃ c1 rid w1 m1 n1, nextReader c = (.msg t rid false, c1) ∧ CSt S c1 w1 m1 n1 ∧
      c1.r.msgReader = some rid ∧ LenOv c1 (dataPayload m1).length ∧ c1.r.buf.pending.length ≤ c1.r.buf.total) ∨
    (∃ e c1, nextReader c = (.err e, c1)) ∨ (∃ c1, nextReader c = (.panic, c1)) := by
  have hne : c.r.readErr = none := hst.noErr
  have hfu := c0_pending_lt_fuel hst.env.fuel
  obtain ⟨extra, hl, hB⟩ := cut_budget c.r.limit _ n _ hmn hn hsz hnL
  rcases nrl_into_cut S t ht fs hs cut hcut extra c.fuel (c0 c) wire more hst hl hfu hB with
    ⟨e, c1, b1⟩ | ⟨c1, w1, m1, n1, b1, b2, b3, b4, b5⟩
  · right; exact (nextReader_of_loop_err c hne e c1 b1).1
  · left
    exact ⟨c1, _, w1, m1, n1, by rw [nextReader_eq, nrRes_none c hne, b1, nrFinish_on_msg], b2, b3, b4, b5⟩

end WS.CutProgramAux
