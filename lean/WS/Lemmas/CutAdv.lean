import WS.Lemmas.ReaderDecodes
/-
  advanceFrame at a frame boundary on a stream that ends (transport error / EOF) inside or after the frame:
  the pending bytes are `(frame ++ tail).take m` for an arbitrary `m`. By `advance_prefix_cut` (AdvFrame.lean),
  either the frame is handled exactly as on the whole stream and the cut moves on, or advanceFrame fails with
  an error that is not io.EOF. The data-frame lemma assumes nothing on the read limit: ErrReadLimit is one
  more error that is not io.EOF.
-/
namespace WS.CutAdv
open WS WS.SrcLaw WS.AdvFrame

theorem afData_cases (h : Hdr) (c : Conn) (len : Nat) (hrem : c.r.remaining = (len : Int)) (h0 : 0 ≤ lenBase h.opcode c)
    (h1 : lenBase h.opcode c + len < 9223372036854775808) :
    ((c.r.limit ≤ 0 ∨ lenBase h.opcode c + len ≤ c.r.limit) ∧
      afData h c = (.ok h.opcode, { c with r := { c.r with length := lenBase h.opcode c + len } })) ∨
    (¬ (c.r.limit ≤ 0 ∨ lenBase h.opcode c + len ≤ c.r.limit) ∧ ∃ c', afData h c = (.error .readLimit, c')) := by
  by_cases hlim : c.r.limit ≤ 0 ∨ lenBase h.opcode c + len ≤ c.r.limit
  · exact Or.inl ⟨hlim, afData_ok h c len hrem h0 h1 hlim⟩
  · exact Or.inr ⟨hlim, _, afData_over h c len hrem h0 h1 (by omega) (by omega)⟩

/-- `z` is the RSV1 bit of the frame. Success records that the header arrived and the limit admits the frame;
    failure that the header was short or the limit is exceeded. -/
theorem advance_data_cut (c : Conn) (tail : Bytes) (m : Nat) (op : Nat) (fin z : Bool) (key : Key) (payload : Bytes)
    (hz : z = true → c.r.nego = true)
    (hrem : c.r.remaining = 0) (hwf : WF c.r.buf) (hsz : 125 ≤ c.r.buf.size)
    (hp : c.r.buf.pending = (Codec.encode (!c.r.isServer) (op + (if fin then 128 else 0) + (if z then 64 else 0)) key payload ++ tail).take m)
    (hop : (op = 0 ∧ c.r.final = false) ∨ ((op = 1 ∨ op = 2) ∧ c.r.final = true))
    (hlen : payload.length < 2 ^ 62) (h0 : 0 ≤ lenBase op c)
    (h1 : lenBase op c + payload.length < 9223372036854775808) :
    (∃ b', advanceFrame c =
        (.ok op, { c with r := { c.r with buf := b', remaining := (payload.length : Int), decompress := z, final := fin, maskPos := (if c.r.isServer then 0 else c.r.maskPos), maskKey := (if c.r.isServer then key else c.r.maskKey), length := lenBase op c + payload.length } }) ∧
      2 + (ext payload.length).length + (keyBytes c.r.isServer key).length ≤ m ∧
      (c.r.limit ≤ 0 ∨ lenBase op c + payload.length ≤ c.r.limit) ∧
      b'.pending = (body c.r.isServer key payload ++ tail).take
        (m - (2 + (ext payload.length).length + (keyBytes c.r.isServer key).length)) ∧
      WF b' ∧ Same2 c.r.buf b') ∨
    (∃ e c', advanceFrame c = (.error e, c') ∧ e ≠ .eof ∧
      (2 + (ext payload.length).length + (keyBytes c.r.isServer key).length ≤ m →
        ¬ (c.r.limit ≤ 0 ∨ lenBase op c + payload.length ≤ c.r.limit))) := by
  have hopb : (op == 1 || op == 2 || op == 0) = true := by
    rcases hop with ⟨rfl, _⟩ | ⟨rfl | rfl, _⟩ <;> rfl
  have hopb' : (op == 0 || op == 1 || op == 2) = true := by
    rcases hop with ⟨rfl, _⟩ | ⟨rfl | rfl, _⟩ <;> rfl
  have hzn : (z && c.r.nego) = z := by
    cases z
    · rfl
    · rw [hz rfl]; rfl
  have hfa : finalAfter op fin c = fin := by
    unfold finalAfter; rw [hopb]; rfl
  rcases advance_prefix_cut c [] tail m op fin z key payload (by rw [hrem]; rfl) hwf hsz hp (by omega)
    (hdrErrs_data _ _ _ _ _ _ _ hz hop) hlen with ⟨hm, b', a1, a2, a3, a4⟩ | ⟨hm, e, c', a1, a2⟩
  · rw [hzn, hfa] at a1
    rw [a1]
    unfold afRest
    rw [if_pos hopb']
    rcases afData_cases ⟨op, fin, z, false, false, c.r.isServer, l7 payload.length⟩
      { c with r := { c.r with buf := b', remaining := (payload.length : Int), decompress := z, final := fin, maskPos := (if c.r.isServer then 0 else c.r.maskPos), maskKey := (if c.r.isServer then key else c.r.maskKey) } }
      payload.length rfl h0 h1 with ⟨hlim, hd⟩ | ⟨hlim, c', hd⟩
    · exact Or.inl ⟨b', hd, hm, hlim, a2, a3, a4⟩
    · exact Or.inr ⟨.readLimit, c', hd, (by intro h; cases h), fun _ => hlim⟩
  · exact Or.inr ⟨e, c', a1, a2, fun hm' => absurd hm' (by omega)⟩

theorem advance_ctl_cut (c : Conn) (tail : Bytes) (m : Nat) (op : Nat) (key : Key) (payload : Bytes)
    (hrem : c.r.remaining = 0) (hwf : WF c.r.buf) (hsz : 125 ≤ c.r.buf.size)
    (hp : c.r.buf.pending = (Codec.encode (!c.r.isServer) (op + 128) key payload ++ tail).take m)
    (hop : op = 9 ∨ op = 10) (hlen : payload.length ≤ 125)
    (hhp : ∀ id, c.r.hPing ≠ .fail id) (hhq : ∀ id, c.r.hPong ≠ .fail id) :
    (∃ b' w', advanceFrame c =
        (.ok op, { w := w', r := { c.r with buf := b', remaining := 0, decompress := false, maskPos := (if c.r.isServer then 0 else c.r.maskPos), maskKey := (if c.r.isServer then key else c.r.maskKey), hlog := c.r.hlog ++ [ctlEv op payload] } }) ∧
      2 + (ext payload.length).length + (keyBytes c.r.isServer key).length + payload.length ≤ m ∧
      b'.pending = tail.take (m - (2 + (ext payload.length).length + (keyBytes c.r.isServer key).length + payload.length)) ∧
      WF b' ∧ Same2 c.r.buf b') ∨
    (∃ e c', advanceFrame c = (.error e, c') ∧ e ≠ .eof) := by
  have hopb : (op == 1 || op == 2 || op == 0) = false := by
    rcases hop with rfl | rfl <;> rfl
  have hopb' : (op == 0 || op == 1 || op == 2) = false := by
    rcases hop with rfl | rfl <;> rfl
  have hfa : finalAfter op true c = c.r.final := by
    unfold finalAfter; rw [hopb]; rfl
  rcases advance_prefix_cut c [] tail m op true false key payload (by rw [hrem]; rfl) hwf hsz hp (by omega)
    (hdrErrs_ctl3 _ _ _ _ _ (Or.inr hop) (by rw [l7_small _ hlen]; exact hlen)) (by omega) with ⟨hm, b', a1, a2, a3, a4⟩ | ⟨_, e, c', a1, a2⟩
  · simp only [hfa, Bool.false_and] at a1
    rw [a1]
    unfold afRest
    rw [if_neg (by rw [hopb']; exact Bool.false_ne_true)]
    rcases afPayload_cut
      { c with r := { c.r with buf := b', remaining := (payload.length : Int), decompress := false, final := c.r.final, maskPos := (if c.r.isServer then 0 else c.r.maskPos), maskKey := (if c.r.isServer then key else c.r.maskKey) } }
      (body c.r.isServer key payload) tail _ (by simp only [body_length]) a3
      (by have := a4.size; simp only [body_length] at *; omega) a2 with
      ⟨hm2, b4, v1, v2, v3, v4⟩ | ⟨_, e, p, c', v1, v2⟩
    · left
      have hunmask := body_unmask c.r.isServer key (if c.r.isServer = true then key else c.r.maskKey) payload
        (fun h => if_pos h)
      obtain ⟨w', d1⟩ := afDispatch_ok ⟨op, true, false, false, false, c.r.isServer, l7 payload.length⟩ payload
        { c with r := { c.r with buf := b4, remaining := 0, decompress := false, final := c.r.final, maskPos := (if c.r.isServer then 0 else c.r.maskPos), maskKey := (if c.r.isServer then key else c.r.maskKey) } }
        hop hhp hhq
      simp only [body_length] at hm2 v2
      refine ⟨b4, w', ?_, by omega, ?_, v3, a4.trans v4⟩
      · simp only [v1, hunmask]
        exact d1
      · rw [v2]
        congr 1
        omega
    · right
      refine ⟨e, c', ?_, v2⟩
      simp only [v1]
  · right
    exact ⟨e, c', a1, a2⟩

end WS.CutAdv
