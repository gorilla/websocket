import WS.Lemmas.ReaderLift
import WS.Lemmas.ReaderTotal
/-
  C04 / C06 on reachable reader states, and the read limit inside a fragmented message.
  `CountInv` (no failed call counted before an error is latched) removes the panic alternative of the
  theorems of ReaderLift; it is kept by NextReader and Read together with what bounds the loop's fuel
  (`ReachInv`), not alone (`cex3`). The statement for either role is in `WS.RoleGeneric`, at the end.
-/
namespace WS.ReaderMore
open WS WS.Codec WS.SrcLaw WS.HdrLogic WS.ReaderDecodes WS.ReaderRejects WS.ReaderLift

/-- reachable-state invariant of the reader: the failed-call counter only moves once an error is
    latched (conn.go: `c.readErrCount++` is reached only after the `for c.readErr == nil` loop) -/
def CountInv (c : Conn) : Prop := c.r.readErr = none → c.r.errCount = 0

/-- A fresh client connection with a well-formed source whose ghost field `total` (0) understates the
    five empty pong frames the transport still holds. `Conn.fuel` = total + size + 2 = 4, so the
    NextReader loop runs out of fuel after four pongs with no error latched, and NextReader counts a
    failed call all the same. -/
def cex3 : Conn :=
  { w := { isServer := false, wbufLen := 0, pool := false, nego := false },
    r := { isServer := false, nego := false,
           buf := { size := 2, buf := [], total := 0,
                    t := { chunks := [[0x8A, 0, 0x8A, 0, 0x8A, 0, 0x8A, 0, 0x8A, 0]] } } } }

theorem cex3_countInv : CountInv cex3 := fun _ => rfl

theorem cex3_wf : WF cex3.r.buf :=
  ⟨by decide, by decide, (by intro c h; simp [cex3] at h; subst h; simp), (by intro e h; cases h)⟩

/-- `CountInv` alone is not kept by NextReader: it holds of `cex3` (whose source is well formed,
    `cex3_wf`), and after NextReader (which returns `.err .any`) the counter is 1 with no error latched -/
theorem nextReader_countInv_cex : ¬ CountInv (nextReader cex3).2 := by
  intro h
  have h1 : (nextReader cex3).2.r.readErr = none := by decide
  have h2 : (nextReader cex3).2.r.errCount = 1 := by decide
  have h3 := h h1
  rw [h2] at h3
  cases h3

open WS.RobustAux WS.ReaderProg in
/-- `hwf`, `hfuel` (both part of `ReaderIdle` / `MidMessage`): the loop's fuel cannot run out. Without `hfuel` the
    statement is false: `nextReader_countInv_cex`. -/
theorem nextReader_countInv_partial (c : Conn) (h : CountInv c) (hwf : WF c.r.buf)
    (hfuel : c.r.buf.pending.length ≤ c.r.buf.total) : CountInv (nextReader c).2 := by
  intro hn
  rw [nextReader_eq] at hn ⊢
  cases hc : c.r.readErr with
  | some e =>
    rw [nrFinish_readErr, nrRes_some c e hc] at hn
    have hn' : c.r.readErr = none := hn
    rw [hc] at hn'
    cases hn'
  | none =>
    rw [nrRes_none c hc] at hn ⊢
    have hf : (c0 c).r.buf.pending.length + 1 ≤ c.fuel := c0_pending_lt_fuel hfuel
    have h3 := (RobustAux.nextReaderLoop_ec_no_panic c.fuel (c0 c)).1
    -- the loop does not hang: a message (counter untouched), or an error that is latched
    rcases ReaderTotal.nextReaderLoop_no_hang c.fuel (c0 c) hwf hc hf with ⟨t, rid, z, c1, h1⟩ | ⟨e, c1, h1, hre⟩
    · rw [h1] at h3 ⊢
      exact h3.trans (h hc)
    · rw [h1, nrFinish_readErr, hre] at hn
      cases hn

/-- the invariant in inductive form: `CountInv` together with what makes it stable under NextReader -/
structure ReachInv (c : Conn) : Prop where
  count : CountInv c
  wf : WF c.r.buf
  fuel : c.r.buf.pending.length ≤ c.r.buf.total

open WS.ReaderProg in
theorem nextReader_reachInv_partial (c : Conn) (h : ReachInv c) : ReachInv (nextReader c).2 := by
  have hp := nextReader_prog c h.wf
  refine ⟨nextReader_countInv_partial c h.count h.wf h.fuel, hp.wf, ?_⟩
  exact hp.fuel h.fuel

theorem mrRead_ec (c : Conn) (rid k : Nat) : (mrRead c rid k).2.r.errCount = c.r.errCount :=
  (RobustAux.mrRead_fr0 c rid k).errCount

theorem mrRead_failed_id (c : Conn) (rid k : Nat) (e : RErr) (he : c.r.readErr = some e) :
    (mrRead c rid k).2 = c := by
  obtain ⟨e', h⟩ := mrRead_failed c e he rid k
  rw [h]

theorem mrRead_countInv (c : Conn) (rid k : Nat) (h : CountInv c) : CountInv (mrRead c rid k).2 := by
  intro hn
  cases hc : c.r.readErr with
  | some e =>
    rw [mrRead_failed_id c rid k e hc, hc] at hn
    cases hn
  | none =>
    rw [mrRead_ec]
    exact h hc

open WS.ReaderProg in
/-- `hk` is not used -/
theorem mrRead_reachInv (c : Conn) (rid k : Nat) (hk : 0 < k) (h : ReachInv c) : ReachInv (mrRead c rid k).2 := by
  have hp := mrRead_prog c rid k h.wf
  refine ⟨mrRead_countInv c rid k h.count, hp.wf, ?_⟩
  exact hp.fuel h.fuel

/-- C04 on reachable states: no panic branch -/
theorem nextReader_violation_reach (c : Conn) (hc : ReaderIdle c) (hi : CountInv c) (hw : WHealthy c.w) (b0 b1 : UInt8) (rest : Bytes)
    (hp : c.r.buf.pending = b0 :: b1 :: rest)
    (hv : Violates c.r.isServer c.r.nego false (parseHdr b0 b1)) :
    ∃ msg c', nextReader c = (.err (.protocol msg), c') ∧ c'.r.readErr = some (.protocol msg) ∧
      c'.r.hlog = c.r.hlog ∧ c'.r.buf.pending = rest ∧
      c'.w.wire = c.w.wire ++ closeFrameBytes c.w ((closePayload 1002 (strBytes msg)).take 125) ∧
      c'.w.writeErr = some .closeSent := by
  have h0 : c.r.errCount = 0 := hi hc.noErr
  exact nextReader_violation_partial c hc hw b0 b1 rest hp hv (by rw [h0]; decide)

/-- C06 on reachable states -/
theorem nextReader_over_limit_reach (c : Conn) (hc : ReaderIdle c) (hi : CountInv c) (hw : WHealthy c.w) (hclient : c.r.isServer = false)
    (t : Nat) (ht : t = 1 ∨ t = 2) (payload rest : Bytes) (hl : payload.length < 126)
    (hp : c.r.buf.pending = [UInt8.ofNat (128 + t), UInt8.ofNat payload.length] ++ payload ++ rest)
    (hlim : 0 < c.r.limit) (hover : c.r.limit < payload.length) :
    ∃ c', nextReader c = (.err .readLimit, c') ∧ c'.r.readErr = some .readLimit ∧
      c'.r.buf.pending = payload ++ rest ∧
      c'.w.wire = c.w.wire ++ closeFrameBytes c.w (closePayload 1009 []) := by
  have h0 : c.r.errCount = 0 := hi hc.noErr
  exact nextReader_over_limit_partial c hc hw hclient t ht payload rest hl hp hlim hover (by rw [h0]; decide)

set_option linter.unusedVariables false in
/-- C06 inside a fragmented message: the continuation frame (final or not) whose length takes the
    running sum of the message over the limit is refused by the Read that meets it: ErrReadLimit, no
    byte delivered, no payload byte consumed, 1009 close frame written. (`hk` is not used.) -/
theorem read_over_limit_mid_message (c : Conn) (rid : Nat) (hc : MidMessage c rid) (hw : WHealthy c.w)
    (hclient : c.r.isServer = false) (fin : Bool) (payload rest : Bytes) (hl : payload.length < 126)
    (hp : c.r.buf.pending = [UInt8.ofNat (if fin then 128 else 0), UInt8.ofNat payload.length] ++ payload ++ rest)
    (hlim : 0 < c.r.limit) (hsum : 0 ≤ c.r.length) (hsmall : c.r.length < 2 ^ 62)
    (hover : c.r.limit < c.r.length + payload.length) (k : Nat) (hk : 0 < k) :
    ∃ c', mrRead c rid k = (([], some .readLimit), c') ∧ c'.r.readErr = some .readLimit ∧
      c'.r.buf.pending = payload ++ rest ∧
      c'.w.wire = c.w.wire ++ closeFrameBytes c.w (closePayload 1009 []) := by
  have he := enc_client_small 0 fin default payload (by omega)
  rw [Nat.zero_add] at he
  obtain ⟨c', ha, h1, _, h3, _⟩ := RoleGeneric.limit_refuses_any c hc.atBoundary hw 0 fin default
    payload rest (by omega) (Or.inr ⟨hc.notFinal, rfl⟩) (by rw [hclient, he]; exact hp) hlim hsum hsmall
    (by rw [if_pos rfl]; exact hover)
  rw [hclient] at h1
  exact ⟨_, mrRead_adv_err c rid k hc.noErr hc.rem hc.notFinal hc.cur _ c' ha (by intro h; cases h),
    rfl, h1, h3⟩

theorem accepted_frame_adds_length (c : Conn) (hc : AtBoundary c) (b0 b1 : UInt8) (rest : Bytes)
    (hclient : c.r.isServer = false) (hp : c.r.buf.pending = b0 :: b1 :: rest)
    (hok : ¬ Violates c.r.isServer c.r.nego (!c.r.final) (parseHdr b0 b1))
    (hdata : (parseHdr b0 b1).opcode ≤ 2) (hlen : (parseHdr b0 b1).len7 < 126)
    (hsum : 0 ≤ c.r.length) (hsmall : c.r.length < 2 ^ 62)
    (hunder : c.r.limit ≤ 0 ∨ sumBase c (parseHdr b0 b1) + (parseHdr b0 b1).len7 ≤ c.r.limit) :
    ∃ res c', advanceFrame c = (res, c') ∧ (∀ e, res ≠ .error e) ∧
      c'.r.length = sumBase c (parseHdr b0 b1) + (parseHdr b0 b1).len7 := by
  have hB0 := AdvFrame.lenBase_nonneg (parseHdr b0 b1).opcode c hsum
  have hB1 := AdvFrame.lenBase_le (parseHdr b0 b1).opcode c hsum
  rw [← sumBase_eq] at hB0 hB1
  obtain ⟨c', h1, h2, _⟩ := data_small_accepted c hc b0 b1 rest hclient hp hok hdata hlen hB0 (by omega) hunder
  exact ⟨_, c', h1, (fun e h => by cases h), h2⟩

end WS.ReaderMore

namespace WS.RoleGeneric
open WS WS.Codec WS.ReaderDecodes WS.ReaderRejects WS.ReaderLift WS.ReaderMore

/-- C06 limit_refuses at NextReader for an idle reader on a reachable state, either role -/
theorem nextReader_over_limit_any (c : Conn) (hc : ReaderIdle c) (hi : CountInv c) (hw : WHealthy c.w)
    (t : Nat) (ht : t = 1 ∨ t = 2) (fin : Bool) (key : Key) (payload rest : Bytes) (hl : payload.length < 65536)
    (hp : c.r.buf.pending = PFrame.enc c.r.isServer ⟨t, fin, key, payload⟩ ++ rest)
    (hlim : 0 < c.r.limit) (hover : c.r.limit < payload.length) :
    ∃ c', nextReader c = (.err .readLimit, c') ∧ c'.r.readErr = some .readLimit ∧
      c'.w.wire = c.w.wire ++ closeFrameBytes c.w (closePayload 1009 []) := by
  obtain ⟨c', h0, h1, _, h3⟩ := nextReader_over_limit_any_total c hc hw t ht fin key payload rest hl hp hlim hover
  rw [hi hc.noErr, if_neg (by decide)] at h0
  exact ⟨c', h0, h1, h3⟩

end WS.RoleGeneric
