import WS.Model.Http
/-
  `WS.Scan`: what the byte scanners of util.go do on their input, as list facts: skipSpace is a dropWhile, nextToken a
  takeWhile / dropWhile pair, quoted strings and splitComma on comma-free prefixes, and one round of the `1#token`
  list scanner on `OWS token OWS [ "," rest ]`. Used by Robust.lean (C12 scanner soundness) and ParserFuel.lean (C07).
-/
namespace WS.Scan
open WS WS.Http

theorem takeWhile_length_le {α} (p : α → Bool) (l : List α) : (l.takeWhile p).length ≤ l.length := by
  have := congrArg List.length (List.takeWhile_append_dropWhile (p := p) (l := l))
  rw [List.length_append] at this; omega

theorem dropWhile_length_le {α} (p : α → Bool) (l : List α) : (l.dropWhile p).length ≤ l.length := by
  have := congrArg List.length (List.takeWhile_append_dropWhile (p := p) (l := l))
  rw [List.length_append] at this; omega

theorem mem_takeWhile {α} (p : α → Bool) (l : List α) : ∀ b ∈ l.takeWhile p, p b = true := by
  induction l with
  | nil => intro b hb; cases hb
  | cons a l ih =>
    intro b hb
    by_cases ha : p a = true
    · rw [List.takeWhile_cons_of_pos ha] at hb
      rcases List.mem_cons.mp hb with rfl | hb
      · exact ha
      · exact ih b hb
    · rw [List.takeWhile_cons_of_neg ha] at hb
      cases hb

theorem dropWhile_head_neg {α} (p : α → Bool) (l : List α) (c : α) (rest : List α)
    (h : l.dropWhile p = c :: rest) : ¬ p c = true := by
  induction l with
  | nil => cases h
  | cons x l ih =>
    by_cases hx : p x = true
    · rw [List.dropWhile_cons_of_pos hx] at h; exact ih h
    · rw [List.dropWhile_cons_of_neg hx] at h
      cases h; exact hx

/-- the Go code allocates len(s)-1 bytes for the unescaped value of a quoted string -/
theorem quotedAux_length (s : Bytes) (esc : Bool) (acc : Bytes) :
    (quotedAux s esc acc).1.length ≤ acc.length + s.length ∧ (quotedAux s esc acc).2.length ≤ s.length := by
  induction s generalizing esc acc with
  | nil => unfold quotedAux; simp
  | cons b r ih =>
    have h1 := ih false (b :: acc)
    have h2 := ih true acc
    simp only [List.length_cons] at h1 ⊢
    cases esc with
    | true => unfold quotedAux; omega
    | false =>
      unfold quotedAux
      split
      · omega
      · split
        · simp only [List.length_reverse]; omega
        · omega

theorem nextTokenOrQuoted_length (s : Bytes) :
    (nextTokenOrQuoted s).1.length ≤ s.length ∧ (nextTokenOrQuoted s).2.length ≤ s.length := by
  unfold nextTokenOrQuoted
  split
  · rename_i r
    have h := quotedAux_length r false []
    simp only [List.length_cons, List.length_nil] at h ⊢
    omega
  · exact ⟨takeWhile_length_le _ _, dropWhile_length_le _ _⟩

/-- SP / HT -/
def sp (b : UInt8) : Bool := b == 32 || b == 9

/-- not a comma -/
def nc (b : UInt8) : Bool := b != 44

theorem sp_iff (b : UInt8) : sp b = true ↔ b = 32 ∨ b = 9 := by
  unfold sp; simp

theorem skipSpace_eq (s : Bytes) : skipSpace s = s.dropWhile sp := by
  induction s with
  | nil => rfl
  | cons b r ih =>
    unfold skipSpace
    by_cases hb : sp b = true
    · rw [List.dropWhile_cons_of_pos hb, ← ih]
      unfold sp at hb
      rw [if_pos hb]
    · rw [List.dropWhile_cons_of_neg hb]
      unfold sp at hb
      rw [if_neg hb]

theorem tok_not_sp (b : UInt8) (h : isTokenOctet b = true) : ¬ sp b = true := by
  intro hs
  rcases (sp_iff b).mp hs with rfl | rfl
  · exact absurd h (by decide)
  · exact absurd h (by decide)

theorem sp_not_tok (b : UInt8) (h : sp b = true) : ¬ isTokenOctet b = true :=
  fun ht => tok_not_sp b ht h

theorem tok_ne_comma (b : UInt8) (h : isTokenOctet b = true) : b ≠ 44 := by
  rintro rfl; exact absurd h (by decide)

theorem sp_ne_comma (b : UInt8) (h : sp b = true) : b ≠ 44 := by
  rintro rfl; exact absurd h (by decide)

theorem skipSpace_split (s : Bytes) : ∃ pre, pre ++ skipSpace s = s ∧ ∀ b ∈ pre, sp b = true :=
  ⟨s.takeWhile sp, by rw [skipSpace_eq]; exact List.takeWhile_append_dropWhile, mem_takeWhile _ _⟩

theorem splitComma_cons (b : UInt8) (s : Bytes) :
    splitComma (b :: s) = if b == 44 then [] :: splitComma s else
      match splitComma s with
      | h :: t => (b :: h) :: t
      | [] => [[b]] := rfl

theorem splitComma_nocomma (p : Bytes) (h : ∀ b ∈ p, b ≠ 44) : splitComma p = [p] := by
  induction p with
  | nil => rfl
  | cons b p ih =>
    have hb : ¬ (b == 44) = true := by
      have := h b (List.mem_cons_self ..); simpa using this
    rw [splitComma_cons, if_neg hb, ih (fun x hx => h x (List.mem_cons_of_mem _ hx))]

theorem splitComma_append (p rest : Bytes) (h : ∀ b ∈ p, b ≠ 44) :
    splitComma (p ++ 44 :: rest) = p :: splitComma rest := by
  induction p with
  | nil => rw [List.nil_append, splitComma_cons, if_pos (by decide)]
  | cons b p ih =>
    have hb : ¬ (b == 44) = true := by
      have := h b (List.mem_cons_self ..); simpa using this
    rw [List.cons_append, splitComma_cons, if_neg hb, ih (fun x hx => h x (List.mem_cons_of_mem _ hx))]

theorem comma_split (s : Bytes) : ∃ p, (∀ b ∈ p, b ≠ 44) ∧ (s = p ∨ ∃ rest, s = p ++ 44 :: rest) := by
  refine ⟨s.takeWhile nc, ?_, ?_⟩
  · intro b hb
    have := mem_takeWhile nc s b hb
    unfold nc at this
    simpa using this
  · have h := List.takeWhile_append_dropWhile (p := nc) (l := s)
    cases hd : s.dropWhile nc with
    | nil => left; rw [hd, List.append_nil] at h; exact h.symm
    | cons c rest =>
      right
      have hc : ¬ nc c = true := dropWhile_head_neg nc s c rest hd
      have hc' : c = 44 := by unfold nc at hc; simpa using hc
      subst hc'
      exact ⟨rest, by rw [hd] at h; exact h.symm⟩

theorem no_comma (a t w : Bytes) (ha : ∀ b ∈ a, sp b = true) (hw : ∀ b ∈ w, sp b = true)
    (htok : ∀ b ∈ t, isTokenOctet b = true) : ∀ b ∈ a ++ (t ++ w), b ≠ 44 := by
  intro b hb
  rcases List.mem_append.mp hb with hb | hb
  · exact sp_ne_comma b (ha b hb)
  · rcases List.mem_append.mp hb with hb | hb
    · exact tok_ne_comma b (htok b hb)
    · exact sp_ne_comma b (hw b hb)

theorem dropWhile_sp_tok (t r : Bytes) (ht : t ≠ []) (htok : ∀ b ∈ t, isTokenOctet b = true) :
    (t ++ r).dropWhile sp = t ++ r := by
  cases t with
  | nil => exact absurd rfl ht
  | cons x t' =>
    rw [List.cons_append, List.dropWhile_cons_of_neg (tok_not_sp x (htok x (List.mem_cons_self ..)))]

theorem takeWhile_tok_stop (w tail : Bytes) (hw : ∀ b ∈ w, sp b = true) (htail : tail = [] ∨ ∃ rest, tail = 44 :: rest) :
    (w ++ tail).takeWhile isTokenOctet = [] ∧ (w ++ tail).dropWhile isTokenOctet = w ++ tail := by
  cases w with
  | nil =>
    rcases htail with rfl | ⟨rest, rfl⟩
    · exact ⟨rfl, rfl⟩
    · rw [List.nil_append]
      have h44 : ¬ isTokenOctet 44 = true := by decide
      exact ⟨List.takeWhile_cons_of_neg h44, List.dropWhile_cons_of_neg h44⟩
  | cons y w' =>
    have hy := sp_not_tok y (hw y (List.mem_cons_self ..))
    rw [List.cons_append]
    exact ⟨List.takeWhile_cons_of_neg hy, List.dropWhile_cons_of_neg hy⟩

theorem scan_eq (a t w tail : Bytes) (ha : ∀ b ∈ a, sp b = true) (hw : ∀ b ∈ w, sp b = true)
    (ht : t ≠ []) (htok : ∀ b ∈ t, isTokenOctet b = true) (htail : tail = [] ∨ ∃ rest, tail = 44 :: rest) :
    nextToken (skipSpace (a ++ (t ++ (w ++ tail)))) = (t, w ++ tail) ∧ skipSpace (w ++ tail) = tail := by
  obtain ⟨h1, h2⟩ := takeWhile_tok_stop w tail hw htail
  constructor
  · rw [skipSpace_eq, List.dropWhile_append_of_pos ha, dropWhile_sp_tok t _ ht htok]
    unfold nextToken
    rw [List.takeWhile_append_of_pos htok, List.dropWhile_append_of_pos htok, h1, h2, List.append_nil]
  · rw [skipSpace_eq, List.dropWhile_append_of_pos hw]
    rcases htail with rfl | ⟨rest, rfl⟩
    · rfl
    · exact List.dropWhile_cons_of_neg (by decide)

/-- one unfolding of the scanner loop, with the `let`-bound pairs written as projections -/
theorem lca_succ (fuel : Nat) (s v : Bytes) : lineContainsAux (fuel+1) s v =
    if (nextToken (skipSpace s)).1.isEmpty then false else
     match skipSpace (nextToken (skipSpace s)).2 with
     | [] => equalASCIIFold (nextToken (skipSpace s)).1 v
     | c :: rest => if c != 44 then false
        else if equalASCIIFold (nextToken (skipSpace s)).1 v then true else lineContainsAux fuel rest v := rfl

end WS.Scan
