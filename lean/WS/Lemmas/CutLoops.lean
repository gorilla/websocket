import WS.Lemmas.CutAdv
import WS.Lemmas.RobustReader
/-
  The reader on a stream that ends strictly inside a conformant message: the pending bytes are
  `(wire ++ encAll S more).take m` with `m` smaller than the length. Nothing is assumed about the read
  limit; only int64 overflow of the running sum is excluded (`LenOv`). Each step and loop either restores
  the invariant or fails with an error different from io.EOF, having delivered a prefix.
  `WS.CutLoops`: the invariant `CSt` and the single steps. `WS.CutLoopsL`: `LenOv`, the loops, and `CIdle`,
  the invariant in front of the message.
-/
namespace WS.CutLoopsL

/-- no int64 overflow when `n` more payload bytes are counted -/
def LenOv (c : Conn) (n : Nat) : Prop :=
  c.r.length + (n : Int) < 9223372036854775808

end WS.CutLoopsL

namespace WS.CutLoops
open WS WS.Codec WS.SrcLaw WS.ReaderDecodes WS.AdvFrame WS.CutAdv
open WS.CutLoopsL (LenOv)

/-- buffer health and handler modes (no fuel bookkeeping: running out of fuel is an error too) -/
structure CEnv (c : Conn) : Prop where
  wf : WF c.r.buf
  size : 125 ≤ c.r.buf.size
  hp : ∀ id, c.r.hPing ≠ .fail id
  hq : ∀ id, c.r.hPong ≠ .fail id

/-- the reader inside a message whose bytes stop arriving after `m` more bytes: `wire` is the rest of
    the current frame as it would be on the wire, `more` the frames still to come -/
structure CSt (S : Bool) (c : Conn) (wire : Bytes) (more : List PFrame) (m : Nat) : Prop where
  env : CEnv c
  srv : c.r.isServer = S
  noErr : c.r.readErr = none
  rem : c.r.remaining = (wire.length : Int)
  pend : c.r.buf.pending = (wire ++ encAll S more).take m
  cut : m < (wire ++ encAll S more).length
  finT : c.r.final = true → more = []
  finF : c.r.final = false → Tail more
  len0 : 0 ≤ c.r.length

theorem CEnv.ofEnv {c : Conn} (e : Env c) : CEnv c := ⟨e.wf, e.size, e.hp, e.hq⟩

theorem CEnv.ofIdle {c : Conn} (hc : ReaderIdle c) : CEnv (WS.RobustAux.c0 c) := .ofEnv hc.env.at_c0

theorem CEnv.fr0 {c c' : Conn} (e : CEnv c) (h : Fr0 c c') : CEnv c' :=
  ⟨(h.prog e.wf).wf, by rw [h.same.size]; exact e.size, by rw [h.hPing]; exact e.hp, by rw [h.hPong]; exact e.hq⟩

theorem CSt.congr {S : Bool} {c c' : Conn} {wire : Bytes} {more : List PFrame} {m : Nat}
    (h : CSt S c wire more m) (h1 : c'.r.readErr = c.r.readErr) (h2 : c'.r.remaining = c.r.remaining)
    (h3 : c'.r.buf = c.r.buf) (h4 : c'.r.final = c.r.final) (h5 : c'.r.isServer = c.r.isServer)
    (h6 : c'.r.hPing = c.r.hPing) (h7 : c'.r.hPong = c.r.hPong) (h8 : 0 ≤ c'.r.length) :
    CSt S c' wire more m := by
  refine ⟨⟨?_, ?_, ?_, ?_⟩, ?_, ?_, ?_, ?_, h.cut, ?_, ?_, h8⟩
  · rw [h3]; exact h.env.wf
  · rw [h3]; exact h.env.size
  · rw [h6]; exact h.env.hp
  · rw [h7]; exact h.env.hq
  · rw [h5]; exact h.srv
  · rw [h1]; exact h.noErr
  · rw [h2]; exact h.rem
  · rw [h3]; exact h.pend
  · rw [h4]; exact h.finT
  · rw [h4]; exact h.finF

theorem CSt.not_done {S : Bool} {c : Conn} {more : List PFrame} {m : Nat} (h : CSt S c [] more m) :
    c.r.final = false := by
  cases hfin : c.r.final with
  | false => rfl
  | true =>
    have hc := h.cut
    rw [h.finT hfin] at hc
    simp at hc

/-- a data frame on the wire with RSV1 bit `z`: `f.enc S` for `z = false` (`encz_false`), the first
    frame of a compressed message for `z = true` (`ReaderZ.encz_true`) -/
def encz (z S : Bool) (f : PFrame) : Bytes := encode (!S) (f.b0 + if z then 64 else 0) f.key f.payload

theorem encz_false (S : Bool) (f : PFrame) : encz false S f = f.enc S := rfl

theorem encz_length (z S : Bool) (f : PFrame) :
    (encz z S f).length = 2 + (ext f.payload.length).length + (keyBytes S f.key).length + f.payload.length := by
  unfold encz
  rw [encode_eq]
  simp only [List.length_cons, List.length_append, body_length]
  omega

theorem cadv_data (S : Bool) (c : Conn) (z : Bool) (f : PFrame) (fs : List PFrame) (m : Nat) (env : CEnv c)
    (hz : z = true → c.r.nego = true)
    (srv : c.r.isServer = S) (noErr : c.r.readErr = none) (hrem : c.r.remaining = 0)
    (hp : c.r.buf.pending = (encz z S f ++ encAll S fs).take m)
    (hm : m < (encz z S f ++ encAll S fs).length) {t : Nat} (ld : Lead t f fs)
    (hop : (t = 0 ∧ c.r.final = false) ∨ ((t = 1 ∨ t = 2) ∧ c.r.final = true)) (h0 : 0 ≤ c.r.length)
    (n : Nat) (hl : LenOv c (f.payload.length + n)) :
    (∃ e c', advanceFrame c = (.error e, c') ∧ e ≠ .eof) ∨
    (∃ c' m', advanceFrame c = (.ok f.op, c') ∧ CSt S c' (body S f.key f.payload) fs m' ∧ Fr c c' ∧
      c'.r.decompress = z ∧
      LenOv c' n ∧ unmask c' (body S f.key f.payload) = f.payload) := by
  subst srv
  obtain ⟨rfl, hlen, hT, hF⟩ := ld
  unfold LenOv at hl
  have hb0 := lenBase_nonneg f.op c h0
  have hb1 := lenBase_le f.op c h0
  rcases advance_data_cut c _ m f.op f.fin z f.key f.payload hz hrem env.wf env.size hp hop hlen hb0
    (by omega) with ⟨b', h1, h2, _, h3, h4, h5⟩ | ⟨e, c', h1, h2, _⟩
  · right
    have fr := (adv_ok h1 env.wf).1
    refine ⟨_, m - (2 + (ext f.payload.length).length + (keyBytes c.r.isServer f.key).length), h1,
      ⟨env.fr0 fr.toFr0, rfl, noErr, ?_, h3, ?_, hT, hF, ?_⟩, fr, rfl, ?_, ?_⟩
    · show ((f.payload.length : Nat) : Int) = _
      rw [body_length]
    · simp only [List.length_append, encz_length, body_length] at hm ⊢
      omega
    · show 0 ≤ lenBase f.op c + f.payload.length
      omega
    · show lenBase f.op c + f.payload.length + (n : Int) < _
      omega
    · exact unmask_body _ f.key f.payload (fun h => if_pos h) (fun h => if_pos h)
  · left
    exact ⟨e, c', h1, h2⟩

theorem cadv_ctl (S : Bool) (c : Conn) (f : PFrame) (fs : List PFrame) (m : Nat) (env : CEnv c)
    (srv : c.r.isServer = S) (hrem : c.r.remaining = 0)
    (hp : c.r.buf.pending = (f.enc S ++ encAll S fs).take m) (hf : f.ctlOk) :
    (∃ e c', advanceFrame c = (.error e, c') ∧ e ≠ .eof) ∨
    (∃ c', advanceFrame c = (.ok f.op, c') ∧ Fr c c' ∧ CEnv c' ∧ c'.r.remaining = 0 ∧ c'.r.final = c.r.final ∧ c'.r.length = c.r.length ∧
      (f.enc S).length ≤ m ∧ c'.r.buf.pending = (encAll S fs).take (m - (f.enc S).length)) := by
  subst srv
  obtain ⟨hop, hfin, hlen⟩ := hf
  have hp' : c.r.buf.pending = (Codec.encode (!c.r.isServer) (f.op + 128) f.key f.payload ++ encAll c.r.isServer fs).take m := by
    rw [hp]; simp [PFrame.enc, PFrame.b0, hfin]
  rcases advance_ctl_cut c _ m f.op f.key f.payload hrem env.wf env.size hp' hop hlen env.hp env.hq with
    ⟨b', w', h1, h2, h3, h4, h5⟩ | ⟨e, c', h1, h2⟩
  · right
    have fr := (adv_ok h1 env.wf).1
    refine ⟨_, h1, fr, env.fr0 fr.toFr0, rfl, rfl, rfl, ?_, ?_⟩
    · rw [enc_length]; omega
    · show b'.pending = _
      rw [h3, enc_length]
  · left
    exact ⟨e, c', h1, h2⟩

theorem unmask_prefix (c : Conn) (bs wire : Bytes) (h : bs <+: wire) :
    (if c.r.isServer then maskFrom c.r.maskKey c.r.maskPos bs else bs) <+: unmask c wire := by
  obtain ⟨t, rfl⟩ := h
  unfold unmask
  cases c.r.isServer
  · simp only [Bool.false_eq_true, if_false]
    exact List.prefix_append _ _
  · simp only [if_true]
    rw [maskFrom_append]
    exact List.prefix_append _ _

theorem read_cut (b : Buf) (h : WF b) (k : Nat) (hk : 0 < k) (P : Bytes) (m : Nat) (hm : m ≤ P.length)
    (hp : b.pending = P.take m) :
    ∃ bs e b', b.read k = (bs, e, b') ∧ bs.length ≤ k ∧ bs.length ≤ m ∧ bs = P.take bs.length ∧
      b'.pending = (P.drop bs.length).take (m - bs.length) ∧ WF b' ∧ Same2 b b' ∧ (e ≠ none → bs.length = m) := by
  obtain ⟨r1, r2, _, r4, _, r6, r7⟩ := read_spec b h k hk
  have ht := (read_same2 b k).total
  generalize b.read k = r at r1 r2 r4 r6 r7 ht
  obtain ⟨bs, e, b'⟩ := r
  simp only [] at r1 r2 r4 r6 r7 ht
  have hbm : bs.length + b'.pending.length = m := by
    have := congrArg List.length r1
    rw [hp, List.length_append, List.length_take] at this
    omega
  refine ⟨bs, e, b', rfl, r2, by omega, ?_, ?_, r6, ⟨r7.1, r7.2.1, r7.2.2, ht⟩, ?_⟩
  · have h1 := congrArg (List.take bs.length) r1
    rw [List.take_left' rfl, hp, List.take_take, Nat.min_eq_left (by omega)] at h1
    exact h1
  · have h1 := congrArg (List.drop bs.length) r1
    rw [List.drop_left' rfl, hp, List.drop_take] at h1
    exact h1
  · intro he
    cases e with
    | none => exact absurd rfl he
    | some err =>
      rw [(r4 err rfl).1] at hbm
      simpa using hbm

theorem mrRead_cut (S : Bool) (c : Conn) (rid k : Nat) (wire : Bytes) (more : List PFrame) (m : Nat)
    (hst : CSt S c wire more m) (hw : wire ≠ []) (hk : 0 < k) (fuel : Nat) :
    (∃ out c' wire' m', mrReadLoop (fuel + 1) c rid k = ((out, none), c') ∧ CSt S c' wire' more m' ∧
      Keep c c' ∧ c'.r.msgReader = c.r.msgReader ∧ c'.r.length = c.r.length ∧
      unmask c wire = out ++ unmask c' wire') ∨
    (∃ out e c', mrReadLoop (fuel + 1) c rid k = ((out, some e), c') ∧ e ≠ .eof ∧ out <+: unmask c wire) := by
  have hwl : 0 < wire.length := List.length_pos_iff.mpr hw
  have hrem := hst.rem
  have hcut := hst.cut
  have hpos : c.r.remaining > 0 := by omega
  obtain ⟨bs, e, b', hr, hbk, hbm, hpre, hpend, hwf, hsame, herr⟩ :=
    read_cut c.r.buf hst.env.wf (min k c.r.remaining.toNat) (by omega) _ m (Nat.le_of_lt hcut) hst.pend
  have hbw : bs.length ≤ wire.length := by omega
  rw [List.take_append_of_le_length hbw] at hpre
  rw [List.drop_append_of_le_length hbw] at hpend
  have hxs : wire = bs ++ wire.drop bs.length := by
    conv => lhs; rw [← List.take_append_drop bs.length wire]
    rw [← hpre]
  have fr := RobustAux.mrReadLoop_fr0 rid k (fuel + 1) c
  rw [RobustAux.mrReadLoop_on_data fuel c rid k hst.noErr hpos] at fr ⊢
  unfold RobustAux.mrData at fr ⊢
  simp only [hr] at fr ⊢
  cases e with
  | none =>
    left
    have he : ∀ x : Bool, (if (x && decide ((none : Option RErr) = some RErr.eof)) = true
        then some RErr.unexpectedEOF else (none : Option RErr)) = none := by intro x; simp
    simp only [he] at fr ⊢
    refine ⟨_, _, wire.drop bs.length, m - bs.length, rfl,
      ⟨hst.env.fr0 fr, hst.srv, rfl, ?_, hpend, ?_, hst.finT, hst.finF, hst.len0⟩,
      fr.keep, rfl, rfl, ?_⟩
    · show c.r.remaining - (bs.length : Int) = _
      simp only [List.length_drop]
      omega
    · simp only [List.length_append, List.length_drop] at hcut ⊢
      omega
    · exact (congrArg (unmask c) hxs).trans (unmask_append c _ bs _ rfl rfl rfl)
  | some err =>
    right
    -- everything up to the cut has been read, and the cut lies inside the message
    have hbl : bs.length = m := herr (by intro h; cases h)
    have hin : (decide (c.r.remaining - (bs.length : Int) > 0) || !c.r.final) = true := by
      cases hfin : c.r.final with
      | false => simp
      | true =>
        rw [hst.finT hfin] at hcut
        simp only [encAll_nil, List.append_nil] at hcut
        simp only [Bool.not_true, Bool.or_false, decide_eq_true_eq]
        omega
    have hout := unmask_prefix c bs wire ⟨_, hxs.symm⟩
    -- io.EOF inside the message is reported as errUnexpectedEOF
    by_cases hee : err = RErr.eof
    · subst hee
      rw [hin]
      simp only [Bool.true_and, decide_true, if_true]
      exact ⟨_, _, _, rfl, (by intro h; cases h), hout⟩
    · have he : ∀ x : Bool, (if (x && decide (some err = some RErr.eof)) = true
          then some RErr.unexpectedEOF else some err) = some err := by intro x; simp [hee]
      simp only [he]
      exact ⟨_, _, _, rfl, hee, hout⟩

theorem mrReadLoop_err (fuel : Nat) (c : Conn) (rid k : Nat) (e : RErr) (h : c.r.readErr = some e)
    (he : e ≠ .eof) : ∃ e', mrReadLoop fuel c rid k = (([], some e'), c) ∧ e' ≠ .eof := by
  cases fuel with
  | zero => exact ⟨.any, rfl, by intro h; cases h⟩
  | succ f =>
    rw [RobustAux.mrReadLoop_on_latched f c rid k e h, if_neg (by simp [he])]
    exact ⟨e, rfl, he⟩

end WS.CutLoops

namespace WS.CutLoopsL
open WS WS.Codec WS.SrcLaw WS.ReaderDecodes WS.AdvFrame WS.CutAdv WS.CutLoops

theorem cstep_tail (S : Bool) (c : Conn) (more : List PFrame) (m : Nat)
    (hst : CSt S c [] more m) (hfin : c.r.final = false) (extra : Nat)
    (hl : LenOv c ((dataPayload more).length + extra)) :
    (∃ e c', advanceFrame c = (.error e, c') ∧ e ≠ .eof) ∨
    (∃ t c' wire' more' m', advanceFrame c = (.ok t, c') ∧ (t == 1 || t == 2) = false ∧ CSt S c' wire' more' m' ∧
      Fr c c' ∧ LenOv c' ((dataPayload more').length + extra) ∧
      unmask c' wire' ++ dataPayload more' = dataPayload more) := by
  have hp := hst.pend
  have hcut := hst.cut
  have hrem : c.r.remaining = 0 := by simpa using hst.rem
  simp only [List.nil_append] at hp hcut
  obtain ⟨f, fs, rfl, ld | ⟨h1, h4⟩⟩ := (hst.finF hfin).head
  · have h1 := ld.op
    have hd : f.isCtl = false := isCtl_of_data (Or.inl h1)
    rw [encAll_cons, ← encz_false] at hp hcut
    rw [dataPayload_data _ hd, List.length_append, Nat.add_assoc] at hl
    rcases cadv_data S c false f fs m hst.env (fun h => by cases h) hst.srv hst.noErr hrem hp hcut ld
      (Or.inl ⟨rfl, hfin⟩) hst.len0 _ hl with ⟨e, c', a1, a2⟩ | ⟨c', m', a1, a2, fr, _, a7, a8⟩
    · left; exact ⟨e, c', a1, a2⟩
    · right
      refine ⟨f.op, c', _, fs, m', a1, by rw [h1]; rfl, a2, fr, a7, ?_⟩
      rw [a8, dataPayload_data _ hd]
  · have hd : f.isCtl = true := isCtl_of_ctlOk h1
    rw [encAll_cons] at hp hcut
    rw [dataPayload_ctl _ hd] at hl
    rcases cadv_ctl S c f fs m hst.env hst.srv hrem hp h1 with ⟨e, c', a1, a2⟩ |
      ⟨c', a1, fr, a3, a7, a8, a9, a10, a11⟩
    · left; exact ⟨e, c', a1, a2⟩
    · right
      refine ⟨f.op, c', [], fs, m - (f.enc S).length, a1, ?_,
        ⟨a3, fr.isServer.trans hst.srv, fr.readErr.trans hst.noErr, ?_, ?_, ?_, ?_, ?_, ?_⟩, fr, ?_, ?_⟩
      · rcases h1.1 with h | h <;> rw [h] <;> rfl
      · rw [a7]; rfl
      · rw [a11]; rfl
      · simp only [List.nil_append, List.length_append] at hcut ⊢
        omega
      · rw [a8, hfin]; intro h; cases h
      · intro _; exact h4
      · rw [a9]; exact hst.len0
      · unfold LenOv at hl ⊢; rw [a9]; exact hl
      · rw [unmask_nil, List.nil_append, dataPayload_ctl _ hd]

theorem mrReadLoop_cut (S : Bool) (rid k : Nat) (hk : 0 < k) (fuel : Nat) :
    ∀ (c : Conn) (wire : Bytes) (more : List PFrame) (m : Nat), CSt S c wire more m → c.r.msgReader = some rid →
      LenOv c (dataPayload more).length →
      (∃ out c' wire' more' m', mrReadLoop fuel c rid k = ((out, none), c') ∧ CSt S c' wire' more' m' ∧
        c'.r.msgReader = some rid ∧ LenOv c' (dataPayload more').length ∧
        unmask c wire ++ dataPayload more = out ++ (unmask c' wire' ++ dataPayload more')) ∨
      (∃ out e c', mrReadLoop fuel c rid k = ((out, some e), c') ∧ e ≠ .eof ∧
        out <+: unmask c wire ++ dataPayload more) := by
  induction fuel with
  | zero =>
    intro c wire more m _ _ _
    right
    exact ⟨[], .any, c, rfl, (by intro h; cases h), List.nil_prefix⟩
  | succ fuel ih =>
    intro c wire more m hst hm hl
    by_cases hw : wire = []
    · subst hw
      have hrem : ¬ c.r.remaining > 0 := by have := hst.rem; simp at this; omega
      have hfin := hst.not_done
      rw [unmask_nil, List.nil_append]
      rcases cstep_tail S c more m hst hfin 0 (by simpa using hl) with ⟨e, c', a1, a2⟩ |
        ⟨t, c', wire', more', m', a1, a2, a3, fr, a7, a8⟩
      · right
        obtain ⟨e', b1, b2⟩ := mrReadLoop_err fuel { c' with r := { c'.r with readErr := some e } } rid k e rfl a2
        rw [RobustAux.mrReadLoop_on_err fuel c rid k hst.noErr hrem hfin e c' a1, b1]
        exact ⟨[], e', _, rfl, b2, List.nil_prefix⟩
      · rw [RobustAux.mrReadLoop_on_ok fuel c rid k hst.noErr hrem hfin t c' a1, a2, if_neg Bool.false_ne_true, ← a8]
        exact ih c' wire' more' m' a3 (fr.msgReader.trans hm) (by simpa using a7)
    · rcases mrRead_cut S c rid k wire more m hst hw hk fuel with
        ⟨out, c', wire', m', a1, a2, a3, a4, a5, a6⟩ | ⟨out, e, c', a1, a2, a3⟩
      · left
        refine ⟨out, c', wire', more, m', a1, a2, by rw [a4]; exact hm, ?_, ?_⟩
        · unfold LenOv at hl ⊢; rw [a5]; exact hl
        · rw [a6, List.append_assoc]
      · right
        exact ⟨out, e, c', a1, a2, a3.trans (List.prefix_append _ _)⟩

theorem readAllLoop_cut (S : Bool) (rid k : Nat) (hk : 0 < k) (fuel : Nat) :
    ∀ (c : Conn) (wire : Bytes) (more : List PFrame) (m : Nat) (acc : List Bytes), CSt S c wire more m →
      c.r.msgReader = some rid → LenOv c (dataPayload more).length →
      ∃ got e c2, readAllLoop fuel c rid k acc = ((acc.reverse.flatten ++ got, some e), c2) ∧ e ≠ .eof ∧
        got <+: unmask c wire ++ dataPayload more := by
  induction fuel with
  | zero =>
    intro c wire more m acc _ _ _
    exact ⟨[], .any, c, (by simp [readAllLoop]), (by intro h; cases h), List.nil_prefix⟩
  | succ fuel ih =>
    intro c wire more m acc hst hm hl
    have hmr := RobustAux.mrRead_cur c rid k hm
    rcases mrReadLoop_cut S rid k hk (c.fuel + 1) c wire more m hst hm hl with
      ⟨out, c2, w2, m2, n2, b1, b2, b3, b4, b5⟩ | ⟨out, e, c2, b1, b2, b3⟩
    · obtain ⟨got, e, c3, d1, d2, d3⟩ := ih c2 w2 m2 n2 (out :: acc) b2 b3 b4
      refine ⟨out ++ got, e, c3, ?_, d2, ?_⟩
      · rw [RobustAux.readAllLoop_on_data fuel c rid k acc out c2 (hmr.trans b1), d1]
        simp [List.append_assoc]
      · rw [b5]
        exact (List.prefix_append_right_inj out).mpr d3
    · refine ⟨out, e, c2, ?_, b2, b3⟩
      rw [RobustAux.readAllLoop_on_err fuel c rid k acc out e c2 (hmr.trans b1) b2]
      simp

/-- an idle reader in front of a message whose bytes stop arriving after `m` bytes -/
structure CIdle (S : Bool) (t : Nat) (c : Conn) (fs : List PFrame) (m : Nat) : Prop where
  env : CEnv c
  srv : c.r.isServer = S
  noErr : c.r.readErr = none
  rem : c.r.remaining = 0
  fin : c.r.final = true
  len0 : 0 ≤ c.r.length
  pend : c.r.buf.pending = (encAll S fs).take m
  cut : m < (encAll S fs).length
  shape : MsgShape t fs
  lenOk : LenOv c (dataPayload fs).length

theorem nextReaderLoop_cut (S : Bool) (t : Nat) (ht : t = 1 ∨ t = 2) (fuel : Nat) :
    ∀ (c : Conn) (fs : List PFrame) (m : Nat), CIdle S t c fs m →
      (∃ e c1, nextReaderLoop fuel c = (.err e, c1)) ∨
      (∃ c1 wire1 more1 m1, nextReaderLoop fuel c = (.msg t c.r.nextId false, c1) ∧ CSt S c1 wire1 more1 m1 ∧
        c1.r.msgReader = some c.r.nextId ∧ LenOv c1 (dataPayload more1).length ∧
        unmask c1 wire1 ++ dataPayload more1 = dataPayload fs) := by
  induction fuel with
  | zero => intro c fs m _; left; exact ⟨.any, c, rfl⟩
  | succ fuel ih =>
    intro c fs m hi
    have hp := hi.pend
    have hcut := hi.cut
    have hl := hi.lenOk
    obtain ⟨f, fs', rfl, ld | ⟨h1, h4⟩⟩ := hi.shape.head
    · have h1 := ld.op
      have hd : f.isCtl = false := isCtl_of_data (by omega)
      have htb : (f.op == 1 || f.op == 2) = true := by rcases ht with h | h <;> rw [h1, h] <;> rfl
      rw [dataPayload_data _ hd, List.length_append] at hl
      rw [encAll_cons, ← encz_false] at hp hcut
      rcases cadv_data S c false f fs' m hi.env (fun h => by cases h) hi.srv hi.noErr hi.rem hp hcut ld
        (Or.inr ⟨ht, hi.fin⟩) hi.len0 _ hl with
        ⟨e, c', a1, a2⟩ | ⟨c', m', a1, a2, fr, a6, a7, a8⟩
      · left
        rw [RobustAux.nextReaderLoop_on_err fuel c hi.noErr e c' a1]
        exact ⟨_, _, rfl⟩
      · right
        rw [RobustAux.nextReaderLoop_on_msg fuel c hi.noErr f.op c' a1 htb, fr.nextId, a6, h1, dataPayload_data _ hd]
        exact ⟨_, _, fs', m', rfl, a2.congr rfl rfl rfl rfl rfl rfl rfl a2.len0, rfl, a7,
          congrArg (· ++ dataPayload fs') a8⟩
    · have hd : f.isCtl = true := isCtl_of_ctlOk h1
      rw [encAll_cons] at hp hcut
      rcases cadv_ctl S c f fs' m hi.env hi.srv hi.rem hp h1 with ⟨e, c', a1, a2⟩ |
        ⟨c', a1, fr, a3, a7, a8, a9, a10, a11⟩
      · left
        rw [RobustAux.nextReaderLoop_on_err fuel c hi.noErr e c' a1]
        exact ⟨_, _, rfl⟩
      · have htf : (f.op == 1 || f.op == 2) = false := by rcases h1.1 with h | h <;> rw [h] <;> rfl
        have hi' : CIdle S t c' fs' (m - (f.enc S).length) := by
          refine ⟨a3, fr.isServer.trans hi.srv, fr.readErr.trans hi.noErr, a7, ?_, ?_, a11, ?_, h4, ?_⟩
          · rw [a8]; exact hi.fin
          · rw [a9]; exact hi.len0
          · simp only [List.length_append] at hcut
            omega
          · unfold LenOv at hl ⊢
            rw [a9]
            simpa [dataPayload_ctl _ hd] using hl
        rw [RobustAux.nextReaderLoop_on_pass fuel c hi.noErr f.op c' a1 htf, ← fr.nextId, dataPayload_ctl _ hd]
        exact ih c' fs' _ hi'

/-- 1000: NextReader panics on the 1000th failed call, as documented -/
theorem nextReader_cut (S : Bool) (t : Nat) (ht : t = 1 ∨ t = 2) (c : Conn) (fs : List PFrame) (m : Nat)
    (hi : CIdle S t (WS.RobustAux.c0 c) fs m) :
    (∃ c1 rid wire1 more1 m1, nextReader c = (.msg t rid false, c1) ∧ CSt S c1 wire1 more1 m1 ∧
      c1.r.msgReader = some rid ∧ LenOv c1 (dataPayload more1).length ∧
      unmask c1 wire1 ++ dataPayload more1 = dataPayload fs) ∨
    (∃ e c1, nextReader c = (.err e, c1) ∧ c.r.errCount + 1 < 1000) ∨
    (∃ c1, nextReader c = (.panic, c1) ∧ 1000 ≤ c.r.errCount + 1) := by
  rcases nextReaderLoop_cut S t ht c.fuel (WS.RobustAux.c0 c) fs m hi with
    ⟨e, c1, b1⟩ | ⟨c1, w1, m1, n1, b1, b2, b3, b4, b5⟩
  · right
    rw [RobustAux.nextReader_loop_err c hi.noErr e c1 b1]
    by_cases hcnt : c.r.errCount + 1 ≥ 1000
    · right
      rw [if_pos hcnt]
      exact ⟨_, rfl, hcnt⟩
    · left
      rw [if_neg hcnt]
      exact ⟨_, _, rfl, by omega⟩
  · left
    exact ⟨c1, _, w1, m1, n1, RobustAux.nextReader_loop_msg c hi.noErr b1, b2, b3, b4, b5⟩

end WS.CutLoopsL
