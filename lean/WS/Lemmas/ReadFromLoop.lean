import WS.Model.Writer
import WS.Lemmas.Flow
/-
  The loops of a message writer (`copyLoop` behind Write / WriteString, `readFromLoop` behind ReadFrom,
  `feed` behind a flate wrapper) on a healthy connection: one law for `Src.read`, and the loops over
  an abstract invariant `P s m acc` (`acc` = payload accepted so far) that is preserved by a non-final
  flush and by appending to the buffer a chunk that fits. Every call succeeds and `acc` grows by what
  was written.
-/
namespace WS.ReadFromLoop
open WS WS.Flow

theorem size_cons (c : Bytes) (rest : List Bytes) (t : Option Nat) (b : Bool) :
    Src.size { chunks := c :: rest, term := t, together := b } =
      c.length + 1 + Src.size { chunks := rest, term := t, together := b } := by
  simp [Src.size]

/-- `hr`: the source's terminal is io.EOF -/
theorem read_spec (r : Src) (room : Nat) (hroom : 0 < room) (hr : r.term = none) :
    (r.read room).1.length ≤ room ∧
    (((r.read room).2.1 = some none ∧ (r.read room).1 = r.chunks.flatten) ∨
     ((r.read room).2.1 = none ∧ (r.read room).2.2.term = none ∧ (r.read room).2.2.size < r.size ∧
      (r.read room).1 ++ (r.read room).2.2.chunks.flatten = r.chunks.flatten)) := by
  refine ⟨r.read_length room, ?_⟩
  obtain ⟨chunks, term, tog⟩ := r
  dsimp only at hr
  subst hr
  cases chunks with
  | nil => exact Or.inl ⟨rfl, rfl⟩
  | cons c rest =>
    unfold Src.read
    dsimp only
    split
    · rename_i hemp
      have hdrop : c.drop (min room c.length) = [] := by simpa using hemp
      have hge : c.length ≤ min room c.length := by
        have := congrArg List.length hdrop
        simp only [List.length_drop, List.length_nil] at this
        omega
      have htake : c.take (min room c.length) = c := List.take_of_length_le hge
      split
      · rename_i hboth
        simp only [Bool.and_eq_true, List.isEmpty_iff] at hboth
        obtain ⟨hrest, _⟩ := hboth
        subst hrest
        refine Or.inl ⟨rfl, ?_⟩
        dsimp only
        rw [htake]; simp
      · refine Or.inr ⟨rfl, rfl, ?_, ?_⟩
        · dsimp only
          rw [size_cons]; omega
        · dsimp only
          rw [htake]; simp
    · rename_i hemp
      have hne : c.drop (min room c.length) ≠ [] := by simpa using hemp
      have hlt : min room c.length < c.length := by
        have : (c.drop (min room c.length)).length ≠ 0 := by
          intro h0; exact hne (List.length_eq_zero_iff.mp h0)
        simp only [List.length_drop] at this
        omega
      refine Or.inr ⟨rfl, rfl, ?_, ?_⟩
      · dsimp only
        rw [size_cons, size_cons]
        simp only [List.length_drop]
        omega
      · dsimp only
        simp only [List.flatten_cons]
        rw [← List.append_assoc, List.take_append_drop]

structure LoopInv (P : W → MW → Bytes → Prop) : Prop where
  live : ∀ {s m acc}, P s m acc → m.err = none
  room : ∀ {s m acc}, P s m acc → 0 < s.cap ∧ m.buf.length ≤ s.cap
  flush : ∀ {s m acc} (extra : Bytes), P s m acc → s.isServer = true ∨ extra = [] → extra.length < 2 ^ 40 →
    (flushFrame s m false extra).1 = none ∧ (flushFrame s m false extra).2.2.buf = [] ∧
    P (flushFrame s m false extra).2.1 (flushFrame s m false extra).2.2 (acc ++ extra)
  extend : ∀ {s m acc} (chunk : Bytes), P s m acc → chunk.length ≤ s.cap - m.buf.length →
    P s { m with buf := m.buf ++ chunk } (acc ++ chunk)

namespace LoopInv
variable {P : W → MW → Bytes → Prop} (hP : LoopInv P)
include hP

theorem readFromPrep {s m acc} (h : P s m acc) :
    (readFromPrep s m).1 = none ∧ (readFromPrep s m).2.2.buf.length < (readFromPrep s m).2.1.cap ∧
    P (readFromPrep s m).2.1 (readFromPrep s m).2.2 acc := by
  unfold WS.readFromPrep
  split
  · have hf := hP.flush [] h (Or.inr rfl) (by simp)
    rw [List.append_nil] at hf
    refine ⟨hf.1, ?_, hf.2.2⟩
    rw [hf.2.1]
    exact (hP.room hf.2.2).1
  · rename_i hne
    have hne' : m.buf.length ≠ s.cap := by simpa using hne
    have := (hP.room h).2
    exact ⟨rfl, by dsimp only; omega, h⟩

theorem ncopyPrep_eq {s m acc} (h : P s m acc) : ncopyPrep s m = WS.readFromPrep s m := by
  have := (hP.room h).2
  unfold WS.ncopyPrep WS.readFromPrep
  by_cases hc : s.cap ≤ m.buf.length
  · rw [if_pos hc, if_pos (by simp; omega)]
  · rw [if_neg hc, if_neg (by simp; omega)]

theorem copyLoop {s m acc} (p : Bytes) (h : P s m acc) :
    (copyLoop s m p).1 = none ∧ P (copyLoop s m p).2.1 (copyLoop s m p).2.2 (acc ++ p) := by
  induction hl : p.length using Nat.strongRecOn generalizing s m p acc with
  | _ n ih =>
    unfold WS.copyLoop
    split
    · rename_i hp
      subst hp
      rw [List.append_nil]
      exact ⟨rfl, h⟩
    · rename_i hp
      have hpre := hP.readFromPrep h
      rw [hP.ncopyPrep_eq h]
      split
      · rename_i heq
        rw [heq] at hpre
        exact absurd hpre.1 (by simp)
      · rename_i s' m' heq
        rw [heq] at hpre
        obtain ⟨_, hlt, hmid⟩ := hpre
        dsimp only at hlt hmid
        have hpl : p.length ≠ 0 := by simpa using hp
        split
        · omega
        · have hdl : (p.drop (min (s'.cap - m'.buf.length) p.length)).length < n := by
            simp only [List.length_drop]; omega
          have := ih _ hdl _ (hP.extend (p.take (min (s'.cap - m'.buf.length) p.length)) hmid
            (by simp only [List.length_take]; omega)) rfl
          rw [List.append_assoc, List.take_append_drop] at this
          exact this

theorem mwWriteString {s m acc} (p : Bytes) (h : P s m acc) :
    (mwWriteString s m p).1 = none ∧ P (mwWriteString s m p).2.1 (mwWriteString s m p).2.2 (acc ++ p) := by
  unfold WS.mwWriteString
  rw [hP.live h]
  exact hP.copyLoop p h

theorem mwWrite {s m acc} (p : Bytes) (h : P s m acc) (hp : p.length < 2 ^ 40) :
    (mwWrite s m p).1 = none ∧ P (mwWrite s m p).2.1 (mwWrite s m p).2.2 (acc ++ p) := by
  unfold WS.mwWrite
  rw [hP.live h]
  dsimp only
  split
  · rename_i hc
    have hf := hP.flush p h (Or.inl (by simp only [Bool.and_eq_true] at hc; exact hc.2)) hp
    exact ⟨hf.1, hf.2.2⟩
  · exact hP.copyLoop p h

theorem feed {s m acc} (cs : List Bytes) (h : P s m acc) (hcs : ∀ c ∈ cs, c.length < 2 ^ 40) :
    (feed s m cs).1 = none ∧ P (feed s m cs).2.1 (feed s m cs).2.2 (acc ++ cs.flatten) := by
  induction cs generalizing s m acc with
  | nil =>
    rw [List.flatten_nil, List.append_nil]
    exact ⟨rfl, h⟩
  | cons c cs ih =>
    unfold WS.feed
    have hw := hP.mwWrite c h (hcs c (by simp))
    split
    · rename_i heq
      rw [heq] at hw
      exact absurd hw.1 (by simp)
    · rename_i heq
      rw [heq] at hw
      have := ih hw.2 (fun c' hc' => hcs c' (by simp [hc']))
      rw [List.append_assoc] at this
      simpa only [List.flatten_cons] using this

/-- `r.size + 1` fuel reaches io.EOF; in particular the loop never reports `.hang` -/
theorem readFromLoop (fuel : Nat) {s m acc} (r : Src) (nn : Nat)
    (h : P s m acc) (hr : r.term = none) (hfuel : r.size + 1 ≤ fuel) :
    (readFromLoop fuel s m r nn).1 = (nn + r.chunks.flatten.length, none) ∧
    P (readFromLoop fuel s m r nn).2.1 (readFromLoop fuel s m r nn).2.2 (acc ++ r.chunks.flatten) := by
  induction fuel generalizing s m acc r nn with
  | zero => omega
  | succ fuel ih =>
    unfold WS.readFromLoop
    have hpre := hP.readFromPrep h
    split
    · rename_i e s' m' heq
      rw [heq] at hpre
      exact absurd hpre.1 (by simp)
    · rename_i s' m' heq
      rw [heq] at hpre
      obtain ⟨_, hlt, hp'⟩ := hpre
      dsimp only at hlt hp'
      have hrd := read_spec r (s'.cap - m'.buf.length) (by omega) hr
      split
      · rename_i bs r' heq2
        rw [heq2] at hrd
        obtain ⟨hlen, hc | hc⟩ := hrd
        · dsimp only at hlen hc
          obtain ⟨_, hbs⟩ := hc
          subst hbs
          exact ⟨rfl, hP.extend _ hp' hlen⟩
        · exact absurd hc.1 (by simp)
      · rename_i bs id r' heq2
        rw [heq2] at hrd
        obtain ⟨_, hc | hc⟩ := hrd
        · exact absurd hc.1 (by simp)
        · exact absurd hc.1 (by simp)
      · rename_i bs r' heq2
        rw [heq2] at hrd
        obtain ⟨hlen, hc | hc⟩ := hrd
        · exact absurd hc.1 (by simp)
        · dsimp only at hlen hc
          obtain ⟨_, hterm, hsz, hcat⟩ := hc
          have hext := hP.extend _ hp' hlen
          have := ih r' (nn + bs.length) hext hterm (by omega)
          rw [List.append_assoc, hcat] at this
          refine ⟨?_, this.2⟩
          rw [this.1, ← hcat, List.length_append, Nat.add_assoc]

theorem mwReadFrom {s m acc} (r : Src) (h : P s m acc) (hr : r.term = none) :
    (mwReadFrom s m r).1 = (r.chunks.flatten.length, none) ∧
    P (mwReadFrom s m r).2.1 (mwReadFrom s m r).2.2 (acc ++ r.chunks.flatten) := by
  unfold WS.mwReadFrom
  rw [hP.live h]
  dsimp only
  have := hP.readFromLoop (r.size + 2) r 0 h hr (by omega)
  rw [Nat.zero_add] at this
  exact this

end LoopInv

def Plain (s : W) (m : MW) (_acc : Bytes) : Prop :=
  s.writeErr = none ∧ s.faults = [] ∧ m.err = none ∧ 0 < s.cap ∧ m.buf.length ≤ s.cap ∧ isControl m.ft = false

theorem ne8_of_not_control (n : Nat) (h : isControl (n : Int) = false) : ((n : Int) == 8) = false := by
  simp only [isControl, Gen.CloseMessage, Bool.or_eq_false_iff] at h
  exact h.1.1

theorem plain_loopInv : LoopInv Plain where
  live := fun h => h.2.2.1
  room := fun h => ⟨h.2.2.2.1, h.2.2.2.2.1⟩
  flush := fun {s m acc} extra h hx _ => by
    obtain ⟨he, hf, hm, hcap, hb, hft⟩ := h
    have hfl := flushFrame_ok s m false extra he hf (ne8_of_not_control _ hft) hx hm (Or.inl hft)
    rw [hfl.reset rfl]
    exact ⟨hfl.ok, rfl, hfl.keep.writeErr.trans he, hfl.keep.faults.trans hf, hm, by rw [hfl.keep.cap]; exact hcap,
      Nat.zero_le _, (by decide : isControl ((0 : Nat) : Int) = false)⟩
  extend := fun chunk h hc => by
    obtain ⟨he, hf, hm, hcap, hb, hft⟩ := h
    refine ⟨he, hf, hm, hcap, ?_, hft⟩
    simp only [List.length_append]; omega

end WS.ReadFromLoop
