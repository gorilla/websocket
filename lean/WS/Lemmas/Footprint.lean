import WS.Model.Writer
/-
  Two views of the writer state that invariants read, placed below Transport.lean so that the transport lemmas
  can say that they keep them: `PoolInv.key` (the pool bookkeeping; the statements of C20 name it, hence the
  namespace `WS.PoolInv`) and `WFInv.Fr` (configuration, messageWriters, handles; named by statements about
  `WFInv.Good`, hence `WS.WFInv`).  Namespace `WS` holds the list facts about reading and storing back an
  element, and their forms for `getMW` / `setMW` / `setHandle`.
-/
namespace WS

theorem set_same {α : Type} {l : List α} {i : Nat} {a : α} (h : l[i]? = some a) : l.set i a = l := by
  obtain ⟨hi, rfl⟩ := List.getElem?_eq_some_iff.mp h
  exact List.set_getElem_self hi

theorem lt_of_getElem? {α : Type} {l : List α} {i : Nat} {a : α} (h : l[i]? = some a) : i < l.length :=
  (List.getElem?_eq_some_iff.mp h).1

theorem getElem?_set_cases {α : Type} {l : List α} {i j : Nat} {a b : α} (h : (l.set i a)[j]? = some b) :
    (j = i ∧ b = a) ∨ (j ≠ i ∧ l[j]? = some b) := by
  by_cases hji : j = i
  · subst hji
    have hlt : j < l.length := by have := lt_of_getElem? h; rwa [List.length_set] at this
    rw [List.getElem?_set_self hlt] at h
    cases h
    exact Or.inl ⟨rfl, rfl⟩
  · rw [List.getElem?_set_ne (Ne.symm hji)] at h
    exact Or.inr ⟨hji, h⟩

theorem getElem?_snoc_cases {α : Type} (l : List α) (a b : α) (i : Nat) (h : (l ++ [a])[i]? = some b) :
    (i < l.length ∧ l[i]? = some b) ∨ (i = l.length ∧ b = a) := by
  rw [List.getElem?_append] at h
  split at h
  · left; exact ⟨by assumption, h⟩
  · right
    have h0 : i - l.length = 0 := by
      by_cases h0 : i - l.length = 0
      · exact h0
      · simp [h0] at h
    simp [h0] at h
    exact ⟨by omega, h.symm⟩

theorem getMW_eq {s : W} {i : Nat} {m : MW} (h : s.mws[i]? = some m) : getMW s i = m := by
  unfold getMW
  rw [List.getD_eq_getElem?_getD, h]
  rfl

theorem setMW_same {s : W} {i : Nat} {m : MW} (h : s.mws[i]? = some m) : setMW s i m = s := by
  unfold setMW; rw [set_same h]

theorem setHandle_same {s : W} {i : Nat} {x : Handle} (h : s.handles[i]? = some x) : setHandle s i x = s := by
  unfold setHandle; rw [set_same h]

end WS

namespace WS.PoolInv
open WS

def gets (l : List Ev) : Nat := (l.filter (fun e => match e with | .poolGet _ => true | _ => false)).length
def puts (l : List Ev) : Nat := (l.filter (fun e => match e with | .poolPut _ => true | _ => false)).length

def nilPuts (l : List Ev) : Nat := (l.filter (fun e => match e with | .poolPut none => true | _ => false)).length

/-- the part of the state the pool bookkeeping depends on ("key" as in "key fields"; unrelated to masking keys) -/
def key (s : W) : Bool × Bool × BufRef × List MW × List Handle × Option Nat × Nat × Nat × Nat :=
  (s.pool, s.nego, s.bufRef, s.mws, s.handles, s.writer, gets s.log, puts s.log, nilPuts s.log)

theorem key_pool {s s' : W} (h : key s' = key s) : s'.pool = s.pool := congrArg (·.1) h
theorem key_bufRef {s s' : W} (h : key s' = key s) : s'.bufRef = s.bufRef := congrArg (·.2.2.1) h
theorem key_mws {s s' : W} (h : key s' = key s) : s'.mws = s.mws := congrArg (·.2.2.2.1) h
theorem key_handles {s s' : W} (h : key s' = key s) : s'.handles = s.handles := congrArg (·.2.2.2.2.1) h
theorem key_writer {s s' : W} (h : key s' = key s) : s'.writer = s.writer := congrArg (·.2.2.2.2.2.1) h
theorem key_gets {s s' : W} (h : key s' = key s) : gets s'.log = gets s.log := congrArg (·.2.2.2.2.2.2.1) h
theorem key_puts {s s' : W} (h : key s' = key s) : puts s'.log = puts s.log := congrArg (·.2.2.2.2.2.2.2.1) h
theorem key_nilPuts {s s' : W} (h : key s' = key s) : nilPuts s'.log = nilPuts s.log := congrArg (·.2.2.2.2.2.2.2.2) h

theorem key_emit_swd (s : W) (d : Int) (f : Option Nat) : key (emit s (.swd d f)) = key s := by
  simp [key, emit, gets, puts, nilPuts, List.filter_append]

theorem key_emit_wr (s : W) (b : Bytes) (n : Nat) (f : Option Nat) : key (emit s (.wr b n f)) = key s := by
  simp [key, emit, gets, puts, nilPuts, List.filter_append]

end WS.PoolInv

namespace WS.WFInv
open WS

/-- what the functions working on a messageWriter copy never change -/
structure Fr (s s' : W) : Prop where
  isv : s'.isServer = s.isServer
  nego : s'.nego = s.nego
  len : s'.wbufLen = s.wbufLen
  flt : s'.faults = s.faults
  mws : s'.mws = s.mws
  handles : s'.handles = s.handles

theorem Fr.refl (s : W) : Fr s s := ⟨rfl, rfl, rfl, rfl, rfl, rfl⟩

theorem Fr.trans {a b c : W} (h1 : Fr a b) (h2 : Fr b c) : Fr a c :=
  ⟨h2.isv.trans h1.isv, h2.nego.trans h1.nego, h2.len.trans h1.len, h2.flt.trans h1.flt,
    h2.mws.trans h1.mws, h2.handles.trans h1.handles⟩

theorem Fr.cap {s s' : W} (h : Fr s s') : s'.cap = s.cap := by
  unfold W.cap; rw [h.len]

end WS.WFInv

