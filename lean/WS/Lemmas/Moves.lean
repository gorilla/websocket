import WS.Lemmas.Transport
/-
  The write API as sequences of a few moves: every operation of `Op` is, after its validation, a sequence of
  `Move`s (`applyOp_moves`), so an invariant of the writer state is proved by induction on `Move`.  `Move` is
  parametrised by what a development has to know about payloads: `ok` (sizes), `imgC`, `imgD` (a control frame /
  a complete data message as a prepared image), `env` (the compress/flate answers at a Close).  The hypotheses
  on programs that instantiate these in C02 and C20 come first, in the namespaces of the statements that name
  them (`WS.WFInv`, `WS.WireWF`); `Move` is in `WS`.  One level down, `HCall` is what a call on a handle does
  in terms of `MWStep`; the framing, pool and `NoFlate` invariants go through Write, ReadFrom and Close by it, the wire
  invariant through Write and ReadFrom.
-/
namespace WS.WFInv
open WS

/-- the messageWriter a handle wraps -/
def hidx : Handle → Nat
  | .plain i => i
  | .flate i _ _ _ => i

/-- the answers of the compress/flate environment used when closing handle `h` pass the two checks
    of `flateWriteWrapper.Close` (stream ends in 00 00 ff ff; its front is what went downstream) -/
def CloseEnvOK (s : W) (h : Nat) (dn : List Bytes) (full : Bytes) : Prop :=
  ∀ (i : Nat) (sent : Bytes), s.handles[h]? = some (Handle.flate i true none sent) →
    (full.length < 4 || full.drop (full.length - 4) != sync4) = false ∧
    (sent ++ dn.flatten != full.take (full.length - 4)) = false

def PrevEnvOK (s : W) (dnp : List Bytes) (fullp : Bytes) : Prop :=
  ∀ h, s.writer = some h → CloseEnvOK s h dnp fullp

def EnvOK (s : W) : Op → Prop
  | .close h dn full => CloseEnvOK s h dn full
  | .nextWriter _ dnp fullp => PrevEnvOK s dnp fullp
  | .writeMessage t data dnp fullp dn full =>
    PrevEnvOK s dnp fullp ∧
    ∀ h s1, nextWriter s t dnp fullp = (.ok h, s1) → CloseEnvOK (hWrite s1 h data dn).2 h [] full
  | .writeJSON enc dnp fullp dn full =>
    PrevEnvOK s dnp fullp ∧
    ∀ h s1, nextWriter s 1 dnp fullp = (.ok h, s1) → CloseEnvOK (hWrite s1 h enc dn).2 h [] full
  -- `WritePreparedMessage` of a data message first closes the writer the application left open
  | .writePrepared t _ dnp fullp => isData t = true → PrevEnvOK s dnp fullp
  | _ => True

end WS.WFInv

namespace WS.WireWF
open WS WS.Codec

/-- the compress/flate environment is consistent wherever the program closes a flate wrapper -/
def EnvAdmissible (s : W) : List Op → Prop
  | [] => True
  | op :: ops => WFInv.EnvOK s op ∧ EnvAdmissible (applyOp s op).2 ops

def NoOpenWriter (s : W) : Prop := ∀ m ∈ s.mws, m.err.isSome

/-- one control frame (ping / pong / close) for this role; 125 = `maxControlPayload` (RFC 6455 §5.5) -/
def ImgControl (isServer : Bool) (img : Bytes) : Prop :=
  ∃ (t : Nat) (key : Key) (data : Bytes), (t = 8 ∨ t = 9 ∨ t = 10) ∧ data.length ≤ 125 ∧
    img = encode isServer (t + 128) key data

/-- one complete, well-formed data message for this role -/
def ImgData (isServer nego : Bool) (img : Bytes) : Prop :=
  ∃ fs, Spec.decodeStream img = some fs ∧ Spec.WellFormed ⟨!isServer, nego⟩ fs ∧
    Spec.endsInMsg false fs = false ∧ fs ≠ [] ∧ ∀ f ∈ fs, Spec.isControlOp f.opcode = false

end WS.WireWF

namespace WS
open WS.WFInv

/-- nothing can be written through the handle any more: a flate wrapper that failed or was closed -/
def Handle.shut : Handle → Prop
  | .plain _ => False
  | .flate _ fo de _ => de.isSome ∨ fo = false

/-- What Write, ReadFrom (`cl = false`) or Close (`cl = true`) on handle `h` does: nothing; or a wrapper that
    was shut already is marked closed; or the messageWriter the handle wraps runs steps on its copy, which is
    stored back, and the handle is replaced (a plain one by itself). `hd`: a wrapper is only shut over a
    messageWriter that has ended, and Close ends it (`0 < cap`: see `MWRun`). -/
inductive HCall (ok : Bytes → Prop) (cl : Bool) (s : W) (h : Nat) : W → Prop
  | skip (hs : cl = true → ∀ x, s.handles[h]? = some x → x.shut) : HCall ok cl s h s
  | mark {x x' : Handle} (hh : s.handles[h]? = some x) (hx : x.shut) (hx' : x'.shut) (hi : hidx x' = hidx x) :
      HCall ok cl s h (setHandle s h x')
  | run {x x' : Handle} {m1 : MW} {s1 : W} (hh : s.handles[h]? = some x) (hi : hidx x' = hidx x)
      (hp : ∀ i, x = .plain i → x' = x) (st : MWStep ok s (getMW s (hidx x)) s1 m1)
      (hd : 0 < s.cap → x'.shut ∨ cl = true → m1.err ≠ none) :
      HCall ok cl s h (setHandle (setMW s1 (hidx x) m1) h x')

theorem HCall.plain {ok : Bytes → Prop} {cl : Bool} {s s1 : W} {h i : Nat} {m1 : MW}
    (hh : s.handles[h]? = some (.plain i)) (st : MWStep ok s (getMW s i) s1 m1)
    (hd : cl = true → m1.err ≠ none) : HCall ok cl s h (setMW s1 i m1) := by
  have : HCall ok cl s h (setHandle (setMW s1 i m1) h (.plain i)) :=
    .run hh rfl (fun _ _ => rfl) st (fun _ hc => hd (hc.resolve_left id))
  rwa [setHandle_same (s := setMW s1 i m1) (show s1.handles[h]? = _ by rw [st.fr.handles]; exact hh)] at this

section
variable {ok : Bytes → Prop} (s : W) (h : Nat)

theorem hWrite_hcall (p : Bytes) (dn : List Bytes) (a : Bool) (hp : ok p) (hdn : ∀ c ∈ dn, ok c) :
    HCall ok false s h (hWrite s h p dn a).2 := by
  cases hh : s.handles[h]? with
  | none => rw [hWrite_none p dn a hh]; exact .skip nofun
  | some x =>
    cases x with
    | plain i =>
      rw [hWrite_plain hh p dn a _ rfl]
      cases a with
      | true => exact .plain hh (mwWriteString_run s _ p).step nofun
      | false => exact .plain hh (mwWrite_run s _ p hp).step nofun
    | flate i fo de sent =>
      rw [hWrite_flate_snd p dn a hh]
      split
      · have run := feed_run s (getMW s i) dn hdn
        refine .run hh rfl nofun run.step (fun hc hs => ?_)
        -- a flate writer in error has ended its messageWriter
        rcases hs with (hs | hs) | hs
        · exact run.err' hc (Option.isSome_iff_ne_none.mp hs)
        · cases hs
        · cases hs
      · exact .skip nofun

theorem hReadFrom_hcall (r : Src) : HCall ok false s h (hReadFrom s h r).2 := by
  by_cases hh : ∃ i, s.handles[h]? = some (.plain i)
  · obtain ⟨i, hh⟩ := hh
    rw [hReadFrom_plain hh r]
    exact .plain hh (mwReadFrom_step s _ r) nofun
  · rw [hReadFrom_other r (fun i hi => hh ⟨i, hi⟩)]; exact .skip nofun

/-- `flateWriteWrapper.Close` marks the wrapper closed between the feed and the Close of the messageWriter; as
    the latter does not look at the handles, the two lots of steps are one. `hA`: the second lot starts from
    the copy the first one stored. -/
theorem hClose_hcall (dn : List Bytes) (full : Bytes) (hdn : ∀ c ∈ dn, ok c) (henv : CloseEnvOK s h dn full)
    (hA : ∀ i sent, s.handles[h]? = some (.flate i true none sent) → i < s.mws.length) :
    HCall ok true s h (hClose s h dn full).2 := by
  cases hh : s.handles[h]? with
  | none => rw [hClose_none dn full hh]; exact .skip (fun _ x hx => by rw [hh] at hx; cases hx)
  | some x =>
    cases x with
    | plain i =>
      rw [hClose_plain hh dn full]
      exact .plain hh (mwClose_run s _).step (fun _ => mwClose_dead s _)
    | flate i fo de sent =>
      cases fo with
      | false =>
        rw [hClose_closed dn full hh]
        exact .skip (fun _ x hx => by rw [hh] at hx; cases hx; exact Or.inr rfl)
      | true =>
        cases de with
        | some e => rw [hClose_failed dn full hh]; exact .mark hh (Or.inl rfl) (Or.inl rfl) rfl
        | none =>
          cases hf : feed s (getMW s i) dn with
          | mk e1 r =>
            obtain ⟨s1, m1⟩ := r
            have run : MWRun ok s (getMW s i) (e1, s1, m1) := hf ▸ feed_run s _ dn hdn
            rcases hClose_open dn full hh hf _ rfl with ⟨he1, h2⟩ | ⟨_, hbad, _, _⟩ | ⟨rfl, h2⟩
            · rw [h2]
              exact .run hh rfl nofun run.step (fun hc _ => run.err' hc (Option.isSome_iff_ne_none.mp he1))
            · obtain ⟨c1, c2⟩ := henv i sent hh
              rcases hbad with hb | hb
              · rw [c1] at hb; cases hb
              · rw [c2] at hb; cases hb
            · have hi1 : i < s1.mws.length := by rw [run.step.fr.mws]; exact hA _ _ hh
              rw [h2, getMW_eq (show (s1.mws.set i m1)[i]? = some m1 from List.getElem?_set_self hi1),
                mwClose_stored]
              exact .run hh rfl nofun (run.step.trans (mwClose_run s1 m1).step) (fun _ _ => mwClose_dead s1 m1)

end

/-- only settings change: the deadline, the compression switches, the masking-key counter -/
structure Silent (s s' : W) : Prop where
  fr : Fr s s'
  key : PoolInv.key s' = PoolInv.key s
  wire : s'.wire = s.wire
  err : s'.writeErr = s.writeErr

theorem ctlKey_silent (s : W) : Silent s (ctlKey s).2 := by
  unfold ctlKey
  split <;> exact ⟨⟨rfl, rfl, rfl, rfl, rfl, rfl⟩, rfl, rfl, rfl⟩

/-- NextWriter's registration of a messageWriter and its handle as the current writer -/
def push (s : W) (m : MW) (x : Handle) : W :=
  { s with mws := s.mws ++ [m], handles := s.handles ++ [x], writer := some s.handles.length }

variable {ok imgC imgD : Bytes → Prop} {env : W → Nat → List Bytes → Bytes → Prop}

inductive Move (ok imgC imgD : Bytes → Prop) (env : W → Nat → List Bytes → Bytes → Prop) : W → W → Prop
  | refl (s : W) : Move ok imgC imgD env s s
  | trans {s s1 s2 : W} : Move ok imgC imgD env s s1 → Move ok imgC imgD env s1 s2 → Move ok imgC imgD env s s2
  | silent {s s' : W} (h : Silent s s') : Move ok imgC imgD env s s'
  | write (s : W) (h : Nat) (p : Bytes) (dn : List Bytes) (a : Bool) (hp : ok p) (hdn : ∀ c ∈ dn, ok c) :
      Move ok imgC imgD env s (hWrite s h p dn a).2
  | readFrom (s : W) (h : Nat) (r : Src) : Move ok imgC imgD env s (hReadFrom s h r).2
  | close (s : W) (h : Nat) (dn : List Bytes) (full : Bytes) (hdn : ∀ c ∈ dn, ok c)
      (henv : env s h dn full) : Move ok imgC imgD env s (hClose s h dn full).2
  | closePrev (s : W) (dnp : List Bytes) (fullp : Bytes) (hdn : ∀ c ∈ dnp, ok c)
      (henv : ∀ h, s.writer = some h → env s h dnp fullp) : Move ok imgC imgD env s (closePrev s dnp fullp)
  /-- beginMessage succeeded and NextWriter registers messageWriter `m` with handle `x` -/
  | register (s : W) (t : Int) (m : MW) (x : Handle) (hw : s.writer = none) (he : s.writeErr = none)
      (ht : ¬ (!isControl t && !isData t) = true)
      (hx : (m = { ft := t.toNat } ∧ x = .plain (ensureBuf s).mws.length) ∨
        (m = { ft := t.toNat, compress := true } ∧ x = .flate (ensureBuf s).mws.length true none [] ∧
          (ensureBuf s).nego = true ∧ isData t = true)) :
      Move ok imgC imgD env s (push (ensureBuf s) m x)
  /-- beginMessage succeeded and WriteMessage sends the whole message as one frame -/
  | fast (s : W) (t : Int) (data : Bytes) (hw : s.writer = none) (he : s.writeErr = none)
      (ht : ¬ (!isControl t && !isData t) = true) (hd : ok data) :
      Move ok imgC imgD env s (flushFrame (ensureBuf s)
        { ft := t.toNat, buf := data.take (min (ensureBuf s).cap data.length) } true
        (data.drop (min (ensureBuf s).cap data.length))).2.1
  | ctl (s : W) (ft d : Int) (b : Bytes) (hb : imgC b) : Move ok imgC imgD env s (connWrite s ft d b []).2
  /-- a complete data message in one `Conn.write`: it may not land inside a message that a live messageWriter
      has begun, so either no writer is current (the implicit close has run) or all have ended -/
  | data (s : W) (ft d : Int) (b : Bytes) (hb : imgD b) (hw : s.writer = none ∨ WireWF.NoOpenWriter s) :
      Move ok imgC imgD env s (connWrite s ft d b []).2

theorem closePrev_writer (s : W) (dnp : List Bytes) (fullp : Bytes) : (closePrev s dnp fullp).writer = none := by
  unfold closePrev
  split
  · rfl
  · assumption

theorem beginMessage'_cases (s : W) (t : Int) :
    (∃ e, beginMessage' s t = (.error e, s)) ∨
    (¬ (!isControl t && !isData t) = true ∧ s.writeErr = none ∧
      beginMessage' s t = (.ok { ft := t.toNat }, ensureBuf s)) := by
  unfold beginMessage'
  split
  · exact Or.inl ⟨_, rfl⟩
  · rename_i ht
    split
    · exact Or.inl ⟨_, rfl⟩
    · rename_i he
      exact Or.inr ⟨ht, he, rfl⟩

theorem nextWriter_moves (s : W) (t : Int) (dnp : List Bytes) (fullp : Bytes) (hdn : ∀ c ∈ dnp, ok c)
    (henv : ∀ h, s.writer = some h → env s h dnp fullp) : Move ok imgC imgD env s (nextWriter s t dnp fullp).2 := by
  have h1 : Move ok imgC imgD env s (closePrev s dnp fullp) := .closePrev s dnp fullp hdn henv
  have hw := closePrev_writer s dnp fullp
  unfold nextWriter beginMessage
  rcases beginMessage'_cases (closePrev s dnp fullp) t with ⟨e, hb⟩ | ⟨ht, he, hb⟩
  · rw [hb]; exact h1
  · rw [hb]
    dsimp only
    split
    · rename_i hc
      simp only [Bool.and_eq_true] at hc
      exact h1.trans (.register _ t _ _ hw he ht (Or.inr ⟨rfl, rfl, hc.1.1, hc.2⟩))
    · exact h1.trans (.register _ t _ _ hw he ht (Or.inl ⟨rfl, rfl⟩))

def Op.sizes (ok : Bytes → Prop) : Op → Prop
  | .write _ p dn _ => ok p ∧ ∀ c ∈ dn, ok c
  | .close _ dn _ => ∀ c ∈ dn, ok c
  | .writeMessage _ data dnp _ dn _ => ok data ∧ (∀ c ∈ dnp, ok c) ∧ ∀ c ∈ dn, ok c
  | .writeJSON enc dnp _ dn _ => ok enc ∧ (∀ c ∈ dnp, ok c) ∧ ∀ c ∈ dn, ok c
  | .nextWriter _ dnp _ => ∀ c ∈ dnp, ok c
  | .writePrepared t _ dnp _ => isData t = true → ∀ c ∈ dnp, ok c
  | _ => True

def Op.images (imgC imgD : Bytes → Prop) (s : W) : Op → Prop
  | .writeControl t data _ => data.length ≤ maxControlPayload → isControl t = true →
      ∀ key, imgC (controlFrame s.isServer t.toNat data key)
  | .writePrepared t img _ _ => imgC img ∨ (imgD img ∧ (isData t = true ∨ WireWF.NoOpenWriter s))
  | _ => True

/-- `WFInv.EnvOK` with the check at one Close as a parameter -/
def Op.closes (env : W → Nat → List Bytes → Bytes → Prop) (s : W) : Op → Prop
  | .close h dn full => env s h dn full
  | .nextWriter _ dnp fullp => ∀ h, s.writer = some h → env s h dnp fullp
  | .writeMessage t data dnp fullp dn full =>
    (∀ h, s.writer = some h → env s h dnp fullp) ∧
    ∀ h s1, WS.nextWriter s t dnp fullp = (.ok h, s1) → env (hWrite s1 h data dn).2 h [] full
  | .writeJSON enc dnp fullp dn full =>
    (∀ h, s.writer = some h → env s h dnp fullp) ∧
    ∀ h s1, WS.nextWriter s 1 dnp fullp = (.ok h, s1) → env (hWrite s1 h enc dn).2 h [] full
  | .writePrepared t _ dnp fullp => isData t = true → ∀ h, s.writer = some h → env s h dnp fullp
  | _ => True

theorem closes_of_envOK {s : W} {op : Op} (h : EnvOK s op) : op.closes CloseEnvOK s := by
  cases op <;> exact h

theorem applyOp_moves (s : W) (op : Op) (hsz : op.sizes ok) (henv : op.closes env s) (himg : op.images imgC imgD s) :
    Move ok imgC imgD env s (applyOp s op).2 := by
  cases op with
  | nextWriter t dnp fullp =>
    rw [applyOp_nextWriter_snd]
    exact nextWriter_moves s t dnp fullp hsz henv
  | write h p dn a => exact .write s h p dn a hsz.1 hsz.2
  | readFrom h r => exact .readFrom s h r
  | close h dn full => exact .close s h dn full hsz henv
  | writeMessage t data dnp fullp dn full =>
    obtain ⟨hd, hdnp, hdn⟩ := hsz
    obtain ⟨hprev, hcl⟩ := henv
    show Move ok imgC imgD env s (writeMessage s t data dnp fullp dn full).2
    unfold writeMessage
    split
    · have h1 : Move ok imgC imgD env s (closePrev s dnp fullp) := .closePrev s dnp fullp hdnp hprev
      have hw := closePrev_writer s dnp fullp
      unfold beginMessage
      rcases beginMessage'_cases (closePrev s dnp fullp) t with ⟨e, hb⟩ | ⟨ht, he, hb⟩
      · rw [hb]; exact h1
      · rw [hb]; exact h1.trans (.fast _ t data hw he ht hd)
    · have hn := nextWriter_moves (imgC := imgC) (imgD := imgD) (env := env) s t dnp fullp hdnp hprev
      split
      · rename_i e s' heq; rw [heq] at hn; exact hn
      · rename_i h s' heq
        rw [heq] at hn
        have hw : Move ok imgC imgD env s (hWrite s' h data dn).2 := hn.trans (.write s' h data dn false hd hdn)
        have hc := hcl h s' heq
        split
        · rename_i heq'; rw [heq'] at hw; exact hw
        · rename_i heq'; rw [heq'] at hw hc
          exact hw.trans (.close _ h [] full (fun _ hx => by cases hx) hc)
  | writeJSON enc dnp fullp dn full =>
    obtain ⟨hd, hdnp, hdn⟩ := hsz
    obtain ⟨hprev, hcl⟩ := henv
    show Move ok imgC imgD env s (writeJSON s enc dnp fullp dn full).2
    unfold writeJSON
    have hn := nextWriter_moves (imgC := imgC) (imgD := imgD) (env := env) s 1 dnp fullp hdnp hprev
    split
    · rename_i e s' heq; rw [heq] at hn; exact hn
    · rename_i h s' heq
      rw [heq] at hn
      exact (hn.trans (.write s' h enc dn false hd hdn)).trans
        (.close _ h [] full (fun _ hx => by cases hx) (hcl h s' heq))
  | writeControl t data d =>
    show Move ok imgC imgD env s (writeControl s t data d).2
    unfold writeControl
    split
    · exact .refl s
    · rename_i ht
      split
      · exact .refl s
      · rename_i hlen
        have hk : Move ok imgC imgD env s (ctlKey s).2 := .silent (ctlKey_silent s)
        dsimp only
        split
        · exact hk
        · exact hk.trans (.ctl _ t d _ (himg (Nat.le_of_not_lt hlen) (by simpa using ht) _))
  | writePrepared t img dnp fullp =>
    show Move ok imgC imgD env s (writePreparedImage s t img dnp fullp).2
    unfold writePreparedImage
    dsimp only
    by_cases ht : isData t = true
    · rw [if_pos ht]
      have h1 : Move ok imgC imgD env s (closePrev s dnp fullp) := .closePrev s dnp fullp (hsz ht) (henv ht)
      rcases himg with hb | ⟨hb, _⟩
      · exact h1.trans (.ctl _ t _ img hb)
      · exact h1.trans (.data _ t _ img hb (Or.inl (closePrev_writer s dnp fullp)))
    · rw [if_neg ht]
      rcases himg with hb | ⟨hb, hno⟩
      · exact .ctl s t _ img hb
      · exact .data s t _ img hb (Or.inr (hno.resolve_left ht))
  | setWriteDeadline d => exact .silent ⟨⟨rfl, rfl, rfl, rfl, rfl, rfl⟩, rfl, rfl, rfl⟩
  | enableWriteCompression b => exact .silent ⟨⟨rfl, rfl, rfl, rfl, rfl, rfl⟩, rfl, rfl, rfl⟩
  | setCompressionLevel l =>
    show Move ok imgC imgD env s (setCompressionLevel s l).2
    unfold setCompressionLevel
    split
    · exact .silent ⟨⟨rfl, rfl, rfl, rfl, rfl, rfl⟩, rfl, rfl, rfl⟩
    · exact .refl s

/-! ### for developments that need to know nothing about payloads -/

abbrev AnyMove : W → W → Prop := Move (fun _ => True) (fun _ => True) (fun _ => True) CloseEnvOK

theorem Op.sizes_any (op : Op) : op.sizes (fun _ => True) := by
  cases op with
  | write h p dn a => exact ⟨trivial, fun _ _ => trivial⟩
  | close h dn full => exact fun _ _ => trivial
  | writeMessage t data dnp fullp dn full => exact ⟨trivial, fun _ _ => trivial, fun _ _ => trivial⟩
  | writeJSON enc dnp fullp dn full => exact ⟨trivial, fun _ _ => trivial, fun _ _ => trivial⟩
  | nextWriter t dnp fullp => exact fun _ _ => trivial
  | writePrepared t img dnp fullp => exact fun _ _ _ => trivial
  | _ => trivial

theorem Op.images_any (s : W) (op : Op) : op.images (fun _ => True) (fun _ => True) s := by
  cases op with
  | writeControl t data d => exact fun _ _ _ => trivial
  | writePrepared t img dnp fullp => exact Or.inl trivial
  | _ => trivial

theorem applyOp_anyMove (s : W) (op : Op) (henv : EnvOK s op) : AnyMove s (applyOp s op).2 :=
  applyOp_moves s op op.sizes_any (closes_of_envOK henv) (op.images_any s)

end WS
