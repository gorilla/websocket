import WS.Model.Prepared
import WS.Lemmas.Content
import WS.Lemmas.Codec
/-
  C19: a PreparedMessage equals WriteMessage on every connection it is sent to.  This file: the cache
  (`PM.lookup`), the rendering connection `prepConn` is `Idle`, and what `writePrepared` does on a hit and on a
  miss.  Bounds: 4096 is `defaultWriteBufferSize`, the write buffer of the connection `frame()` renders on;
  payloads are below 2^40 as everywhere on the writer side (frame lengths stay below 2^63, see `WFInv.Small`);
  125 is `maxControlPayload`.
-/
namespace WS.PreparedLogic
open WS WS.Content

theorem prepConn_idle (isServer : Bool) (level : Int) (keys : Bytes) (ki : Nat) :
    Idle (prepConn ⟨isServer, false, level⟩ keys ki) where
  healthy := rfl
  noFaults := rfl
  noWriter := rfl
  dead := by intro m hm; cases hm
  size := by
    show maxFrameHeaderSize < defaultWriteBufferSize + maxFrameHeaderSize ∧
      defaultWriteBufferSize + maxFrameHeaderSize < 2 ^ 40
    decide
  whole := ⟨[], rfl, rfl⟩
  plain := rfl

theorem lookup_append (pm : PM) (x : PKey × Bytes) (k : PKey) :
    ({ pm with cache := pm.cache ++ [x] } : PM).lookup k =
      (pm.lookup k).or (if x.1 == k then some x.2 else none) := by
  unfold PM.lookup
  rw [List.find?_append]
  cases pm.cache.find? (·.1 == k) with
  | some y => rfl
  | none => cases hx : x.1 == k <;> simp [hx]

/-- the key WritePreparedMessage uses is computed from the connection's state at the time of the call -/
theorem key_is_live (s : W) (pm : PM) :
    prepKey s pm = ⟨s.isServer, s.nego && s.enableWC && isData pm.t, s.level⟩ := by
  rfl

/-- an uncompressed image is, by construction, what WriteMessage writes on a fresh connection of that
    role with a 4096-byte write buffer -/
theorem render_is_writeMessage (k : PKey) (t : Int) (data keys : Bytes) (ki : Nat) :
    (renderPlain k t data keys ki).2.1 = (writeMessage (prepConn k keys ki) t data).2.wire := by
  rfl

/-- prepared_equiv (uncompressed keys, data messages): the image decodes to exactly one message with the type and
    payload given at creation, for every payload size (larger than the 4096-byte buffer included) and either role -/
theorem prepared_equiv_plain (isServer : Bool) (level : Int) (t : Nat) (ht : t = 1 ∨ t = 2) (data keys : Bytes) (ki : Nat)
    (hd : data.length < 2 ^ 40) :
    let r := renderPlain ⟨isServer, false, level⟩ t data keys ki
    r.1 = none ∧
    Spec.messages (Spec.decodePrefixAux r.2.1.length r.2.1) = [⟨t, false, data⟩] := by
  have hi : Idle (prepConn ⟨isServer, false, level⟩ keys ki) := prepConn_idle isServer level keys ki
  have h := writeMessage_roundtrip _ hi t ht data hd
  have hw : wireMessages (prepConn ⟨isServer, false, level⟩ keys ki) = [] := rfl
  rw [hw, List.nil_append] at h
  exact ⟨h.1, h.2.2.1⟩

theorem closePrev_none (s : W) (dnp : List Bytes) (fullp : Bytes) (h : s.writer = none) :
    closePrev s dnp fullp = s := by
  unfold closePrev; rw [h]

theorem writePreparedImage_eq (s : W) (t : Int) (img : Bytes) (dnp : List Bytes) (fullp : Bytes) :
    writePreparedImage s t img dnp fullp =
      connWrite (if isData t = true then closePrev s dnp fullp else s) t
        (if isData t = true then closePrev s dnp fullp else s).deadline img [] := rfl

theorem writePreparedImage_noWriter (s : W) (t : Int) (img : Bytes) (dnp : List Bytes) (fullp : Bytes)
    (h : isData t = false ∨ s.writer = none) :
    writePreparedImage s t img dnp fullp = connWrite s t s.deadline img [] := by
  rw [writePreparedImage_eq]
  rcases h with h | h
  · rw [h]; rfl
  · rw [closePrev_none s dnp fullp h]; split <;> rfl

theorem writePrepared_hit (s : W) (pm : PM) (env : Option (Bytes × Bytes)) (img : Bytes) (dnp : List Bytes)
    (fullp : Bytes) (h : pm.lookup (prepKey s pm) = some img) :
    writePrepared s pm env dnp fullp =
      ((writePreparedImage s pm.t img dnp fullp).1, (writePreparedImage s pm.t img dnp fullp).2, pm) := by
  unfold writePrepared
  simp only [h]

theorem cached_image_sent (s : W) (pm : PM) (img : Bytes) (dnp : List Bytes) (fullp : Bytes)
    (h : pm.lookup (prepKey s pm) = some img) :
    writePrepared s pm none dnp fullp =
      ((writePreparedImage s pm.t img dnp fullp).1, (writePreparedImage s pm.t img dnp fullp).2, pm) :=
  writePrepared_hit s pm none img dnp fullp h

/-- the variant is cached whether or not rendering failed (as `frame()` does); it is sent if it did not -/
theorem writePrepared_miss_plain (s : W) (pm : PM) (env : Option (Bytes × Bytes)) (dnp : List Bytes) (fullp : Bytes)
    (hmiss : pm.lookup (prepKey s pm) = none) (hplain : (prepKey s pm).compress = false) :
    writePrepared s pm env dnp fullp =
      match renderPlain (prepKey s pm) pm.t pm.data s.keys s.keyIdx with
      | (some e, img, ki) => (some e, { s with keyIdx := ki }, { pm with cache := pm.cache ++ [(prepKey s pm, img)] })
      | (none, img, ki) =>
        ((writePreparedImage { s with keyIdx := ki } pm.t img dnp fullp).1,
         (writePreparedImage { s with keyIdx := ki } pm.t img dnp fullp).2,
         { pm with cache := pm.cache ++ [(prepKey s pm, img)] }) := by
  unfold writePrepared
  simp only [hmiss, hplain, Bool.false_eq_true, if_false]
  rcases renderPlain (prepKey s pm) pm.t pm.data s.keys s.keyIdx with ⟨_ | e, img, ki⟩ <;> rfl

theorem writePrepared_pm (s : W) (pm : PM) (env : Option (Bytes × Bytes)) (dnp : List Bytes) (fullp : Bytes) :
    (writePrepared s pm env dnp fullp).2.2 = pm ∨
    ∃ img, (writePrepared s pm env dnp fullp).2.2 = { pm with cache := pm.cache ++ [(prepKey s pm, img)] } ∧
      ((prepKey s pm).compress = false → pm.lookup (prepKey s pm) = none ∧
        img = (renderPlain (prepKey s pm) pm.t pm.data s.keys s.keyIdx).2.1) := by
  cases hl : pm.lookup (prepKey s pm) with
  | some img => exact .inl (by rw [writePrepared_hit s pm env img dnp fullp hl])
  | none =>
    cases hc : (prepKey s pm).compress with
    | false =>
      rw [writePrepared_miss_plain s pm env dnp fullp hl hc]
      split <;> exact .inr ⟨_, rfl, fun _ => ⟨rfl, by simp only [*]⟩⟩
    | true =>
      unfold writePrepared
      simp only [hl, hc, if_true]
      split
      · exact .inl rfl
      · split
        · exact .inr ⟨_, rfl, nofun⟩
        · exact .inl rfl

theorem cache_monotone (s : W) (pm : PM) (env : Option (Bytes × Bytes)) (dnp : List Bytes) (fullp : Bytes)
    (k : PKey) (img : Bytes) (h : pm.lookup k = some img) :
    (writePrepared s pm env dnp fullp).2.2.lookup k = some img ∧ (writePrepared s pm env dnp fullp).2.2.t = pm.t ∧
    (writePrepared s pm env dnp fullp).2.2.data = pm.data := by
  rcases writePrepared_pm s pm env dnp fullp with e | ⟨_, e, _⟩
  · rw [e]; exact ⟨h, rfl, rfl⟩
  · rw [e, lookup_append, h]; exact ⟨rfl, rfl, rfl⟩

theorem cache_adds_own_key (s : W) (pm : PM) (env : Option (Bytes × Bytes)) (dnp : List Bytes) (fullp : Bytes)
    (hmiss : pm.lookup (prepKey s pm) = none) (hplain : (prepKey s pm).compress = false) :
    (writePrepared s pm env dnp fullp).2.2.cache =
      pm.cache ++ [(prepKey s pm, (renderPlain (prepKey s pm) pm.t pm.data s.keys s.keyIdx).2.1)] := by
  rw [writePrepared_miss_plain s pm env dnp fullp hmiss hplain]
  split <;> simp only [*]

/-- a compressed image supplied by the environment is cached only if it decodes to one complete, well-formed
    compressed message of the right type whose payload is the deflate stream minus its 4-byte tail -/
theorem compressed_image_checked (k : PKey) (t : Int) (full keys : Bytes) (ki : Nat) (img : Bytes)
    (h : imageOk k t full keys ki img = true) :
    ∃ fs, Spec.decodeStream img = some fs ∧ Spec.WellFormed ⟨!k.isServer, true⟩ fs ∧
      Spec.messages fs = [⟨t.toNat, true, full.take (full.length - 4)⟩] := by
  unfold imageOk at h
  split at h
  · cases h
  · rename_i fs hfs
    simp only [Bool.and_eq_true, decide_eq_true_eq, beq_iff_eq] at h
    exact ⟨fs, hfs, h.1.1.1.1.1.1, h.1.1.1.1.1.2⟩

end WS.PreparedLogic
