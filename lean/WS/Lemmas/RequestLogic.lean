import WS.Lemmas.HttpLogic
/-
  C14: `Client.buildRequest` (request assembly). `lookup` reads a header map by wire name. `buildRequest` is
  characterised once (`buildRequest_eq_ok`); the statements about refused URLs, protocol-owned headers, Host and
  the extension offer are read off it.
-/
namespace WS.RequestLogic
open WS WS.Http WS.Client WS.Server

def lookup (h : Client.Hdr) (k : Bytes) : Option (List Bytes) := (h.find? (·.1 == k)).map (·.2)

def CallerOK (d : DCfg) (caller : Client.Hdr) : Prop :=
  (∀ p ∈ caller, canonicalKey p.1 = strBytes "Host" ∨ forbidden d (canonicalKey p.1) = false)

theorem lookup_map_ne (h : Client.Hdr) (k k' : Bytes) (vs : List Bytes) (hne : k ≠ k') :
    lookup (h.map (fun p => if p.1 == k then (k, vs) else p)) k' = lookup h k' := by
  induction h with
  | nil => rfl
  | cons p t ih =>
    unfold lookup at ih ⊢
    simp only [List.map_cons, List.find?_cons]
    by_cases hp : p.1 = k
    · have hkk : (k == k') = false := by simpa using hne
      simp only [hp, beq_self_eq_true, if_true, hkk]
      exact ih
    · have hpk : (p.1 == k) = false := by simpa using hp
      simp only [hpk, Bool.false_eq_true, if_false]
      cases hq : (p.1 == k')
      · simp only; exact ih
      · simp

theorem lookup_set_ne (h : Client.Hdr) (k k' : Bytes) (vs : List Bytes) (hne : k ≠ k') :
    lookup (h.set k vs) k' = lookup h k' := by
  unfold Client.Hdr.set
  split
  · exact lookup_map_ne h k k' vs hne
  · have hkk : (k == k') = false := by simpa using hne
    unfold lookup
    simp [List.find?_append, hkk]

theorem lookup_map_same (h : Client.Hdr) (k : Bytes) (vs : List Bytes) (hany : h.any (·.1 == k) = true) :
    lookup (h.map (fun p => if p.1 == k then (k, vs) else p)) k = some vs := by
  induction h with
  | nil => simp at hany
  | cons p t ih =>
    unfold lookup at ih ⊢
    simp only [List.map_cons, List.find?_cons]
    by_cases hp : p.1 = k
    · simp [hp]
    · have hpk : (p.1 == k) = false := by simpa using hp
      simp only [hpk, Bool.false_eq_true, if_false]
      apply ih
      simpa [hpk] using hany

theorem lookup_set_same (h : Client.Hdr) (k : Bytes) (vs : List Bytes) :
    lookup (h.set k vs) k = some vs := by
  unfold Client.Hdr.set
  split
  · rename_i hany
    exact lookup_map_same h k vs hany
  · rename_i hany
    have hn : h.find? (fun p => p.1 == k) = none := by
      rw [List.find?_eq_none]
      intro x hx hxk
      apply hany
      rw [List.any_eq_true]
      exact ⟨x, hx, hxk⟩
    unfold lookup
    simp [List.find?_append, hn]

/-- the caller-merge step of `buildRequest` -/
def mergeStep (h : Client.Hdr) (p : Bytes × List Bytes) : Client.Hdr :=
  if canonicalKey p.1 == strBytes "Host" then h
  else if canonicalKey p.1 == strBytes "Sec-Websocket-Protocol" then h.set (strBytes "Sec-WebSocket-Protocol") p.2
  else h.set p.1 p.2

theorem lookup_merge (caller : Client.Hdr) (k' : Bytes) (hk1 : strBytes "Sec-WebSocket-Protocol" ≠ k')
    (hk2 : ∀ p ∈ caller, p.1 ≠ k') (h1 : Client.Hdr) :
    lookup (caller.foldl mergeStep h1) k' = lookup h1 k' := by
  induction caller generalizing h1 with
  | nil => rfl
  | cons p t ih =>
    rw [List.foldl_cons, ih (fun q hq => hk2 q (by simp [hq]))]
    unfold mergeStep
    split
    · rfl
    · split
      · exact lookup_set_ne _ _ _ _ hk1
      · exact lookup_set_ne _ _ _ _ (hk2 p (by simp))

/-- the header map before the compression offer is added -/
def baseHdr (d : DCfg) (key : Bytes) : Client.Hdr :=
  let h0 : Client.Hdr := [(strBytes "Upgrade", [strBytes "websocket"]), (strBytes "Connection", [strBytes "Upgrade"]),
                   (strBytes "Sec-WebSocket-Key", [key]), (strBytes "Sec-WebSocket-Version", [strBytes "13"])]
  if d.subprotocols.isEmpty then h0 else h0.set (strBytes "Sec-WebSocket-Protocol") [joinCommaSp d.subprotocols]

def finalHdr (d : DCfg) (key : Bytes) (caller : Client.Hdr) : Client.Hdr :=
  let h2 := caller.foldl mergeStep (baseHdr d key)
  if d.enableCompression then
    h2.set (strBytes "Sec-WebSocket-Extensions") [Agree.offerLit]
  else h2

def hostOf (u : Url) (caller : Client.Hdr) : Bytes :=
  match caller.find? (fun p => canonicalKey p.1 == strBytes "Host" && !p.2.isEmpty) with
  | some (_, v :: _) => v
  | _ => u.host

theorem buildRequest_eq (d : DCfg) (u : Url) (key : Bytes) (caller : Client.Hdr) :
    buildRequest d u key caller =
      if u.scheme != strBytes "ws" && u.scheme != strBytes "wss" then .error .malformedURL
      else if u.hasUser then .error .malformedURL
      else if caller.any (fun p => canonicalKey p.1 != strBytes "Host" && forbidden d (canonicalKey p.1)) then
        .error .duplicateHeader
      else .ok (hostOf u caller, finalHdr d key caller) := rfl

theorem buildRequest_eq_ok (d : DCfg) (u : Url) (key : Bytes) (caller : Client.Hdr) (p : Bytes × Client.Hdr) :
    buildRequest d u key caller = .ok p ↔
      ((u.scheme = strBytes "ws" ∨ u.scheme = strBytes "wss") ∧ u.hasUser = false) ∧
      caller.any (fun p => canonicalKey p.1 != strBytes "Host" && forbidden d (canonicalKey p.1)) = false ∧
      p = (hostOf u caller, finalHdr d key caller) := by
  simp only [buildRequest_eq, HttpLogic.guard_ok, Except.ok.injEq]
  simp [and_assoc, @eq_comm _ p, Decidable.or_iff_not_imp_left]

theorem buildRequest_ok (d : DCfg) (u : Url) (key : Bytes) (caller : Client.Hdr) (host : Bytes) (h : Client.Hdr)
    (hok : buildRequest d u key caller = .ok (host, h)) :
    host = hostOf u caller ∧ h = finalHdr d key caller :=
  Prod.mk.inj ((buildRequest_eq_ok ..).mp hok).2.2

theorem scheme_userinfo_refused_early (d : DCfg) (u : Url) (key : Bytes) (caller : Client.Hdr)
    (h : (u.scheme ≠ strBytes "ws" ∧ u.scheme ≠ strBytes "wss") ∨ u.hasUser = true) :
    buildRequest d u key caller = .error .malformedURL := by
  rw [buildRequest_eq]
  rcases h with ⟨h1, h2⟩ | h
  · rw [if_pos (by simp [h1, h2])]
  · rw [if_pos h, ite_self]

theorem canon_lits (d : DCfg) (k : Bytes) (hf : forbidden d k = true) : canonicalKey k = k := by
  unfold forbidden at hf
  simp only [Bool.or_eq_true, Bool.and_eq_true, beq_iff_eq] at hf
  rcases hf with ((((h | h) | h) | h) | h) | ⟨h, _⟩ <;> subst h <;> rw [strBytes_ofList] <;> decide +kernel

theorem protocol_headers_not_overridable (d : DCfg) (u : Url) (key : Bytes) (caller : Client.Hdr) (k : Bytes) (vs : List Bytes)
    (hu : (u.scheme = strBytes "ws" ∨ u.scheme = strBytes "wss") ∧ u.hasUser = false)
    (hk : (k, vs) ∈ caller) (hf : forbidden d k = true) (hh : k ≠ strBytes "Host") :
    buildRequest d u key caller = .error .duplicateHeader := by
  have hany : caller.any (fun p => canonicalKey p.1 != strBytes "Host" && forbidden d (canonicalKey p.1)) = true :=
    List.any_eq_true.mpr ⟨(k, vs), hk, by simp [canon_lits d k hf, hf, hh]⟩
  have hs : ¬(u.scheme != strBytes "ws" && u.scheme != strBytes "wss") = true := by
    rcases hu.1 with h | h <;> simp [h]
  rw [buildRequest_eq, if_neg hs, if_neg (by simp [hu.2]), if_pos hany]

theorem buildRequest_nil_ok (d : DCfg) (url : Url) (key : Bytes)
    (hs : url.scheme = strBytes "ws" ∨ url.scheme = strBytes "wss") (hnu : url.hasUser = false) :
    buildRequest d url key [] = .ok (url.host, finalHdr d key []) :=
  (buildRequest_eq_ok ..).mpr ⟨⟨hs, hnu⟩, rfl, rfl⟩

theorem lookup_base (d : DCfg) (key : Bytes) (k' : Bytes) (hk1 : strBytes "Sec-WebSocket-Protocol" ≠ k') :
    lookup (baseHdr d key) k' =
      lookup [(strBytes "Upgrade", [strBytes "websocket"]), (strBytes "Connection", [strBytes "Upgrade"]),
              (strBytes "Sec-WebSocket-Key", [key]), (strBytes "Sec-WebSocket-Version", [strBytes "13"])] k' := by
  unfold baseHdr
  simp only
  split
  · rfl
  · exact lookup_set_ne _ _ _ _ hk1

theorem lookup_nil (k : Bytes) : lookup [] k = none := rfl

theorem lookup_cons_self (k : Bytes) (v : List Bytes) (h : Client.Hdr) : lookup ((k, v) :: h) k = some v := by
  simp [lookup]

theorem lookup_cons_ne (k k' : Bytes) (v : List Bytes) (h : Client.Hdr) (hne : (k == k') = false) :
    lookup ((k, v) :: h) k' = lookup h k' := by
  simp [lookup, hne]

/-- the wire spellings of the protocol-owned header names, in the order `buildRequest` sets them -/
def wireNames : List Bytes :=
  [strBytes "Upgrade", strBytes "Connection", strBytes "Sec-WebSocket-Key", strBytes "Sec-WebSocket-Version",
   strBytes "Sec-WebSocket-Protocol", strBytes "Sec-WebSocket-Extensions"]

theorem wireNames_ne : wireNames.Pairwise (fun a b => (a == b) = false) := by decide +kernel

theorem lookup_h0 (v1 v2 v3 v4 : List Bytes) :
    let h0 : Client.Hdr := [(strBytes "Upgrade", v1), (strBytes "Connection", v2),
              (strBytes "Sec-WebSocket-Key", v3), (strBytes "Sec-WebSocket-Version", v4)]
    lookup h0 (strBytes "Upgrade") = some v1 ∧ lookup h0 (strBytes "Connection") = some v2 ∧
    lookup h0 (strBytes "Sec-WebSocket-Key") = some v3 ∧ lookup h0 (strBytes "Sec-WebSocket-Version") = some v4 ∧
    lookup h0 (strBytes "Sec-WebSocket-Extensions") = none := by
  have ne := wireNames_ne
  simp only [wireNames, List.pairwise_cons, List.mem_cons, List.not_mem_nil, or_false, forall_eq_or_imp, forall_eq] at ne
  simp only [lookup_cons_ne, lookup_cons_self, ne, and_self, lookup_nil]

/-- C14: the protocol-owned headers carry the protocol's values whatever the caller supplied -/
theorem request_headers (d : DCfg) (u : Url) (key : Bytes) (caller : Client.Hdr) (host : Bytes) (h : Client.Hdr)
    (hok : buildRequest d u key caller = .ok (host, h))
    (hcan : ∀ p ∈ caller, p.1 ≠ strBytes "Upgrade" ∧ p.1 ≠ strBytes "Connection" ∧ p.1 ≠ strBytes "Sec-WebSocket-Key" ∧
        p.1 ≠ strBytes "Sec-WebSocket-Version" ∧ p.1 ≠ strBytes "Sec-WebSocket-Extensions") :
    lookup h (strBytes "Upgrade") = some [strBytes "websocket"] ∧
    lookup h (strBytes "Connection") = some [strBytes "Upgrade"] ∧
    lookup h (strBytes "Sec-WebSocket-Key") = some [key] ∧
    lookup h (strBytes "Sec-WebSocket-Version") = some [strBytes "13"] := by
  obtain ⟨_, rfl⟩ := buildRequest_ok d u key caller host h hok
  have hfin : ∀ k', strBytes "Sec-WebSocket-Protocol" ≠ k' → strBytes "Sec-WebSocket-Extensions" ≠ k' →
      (∀ p ∈ caller, p.1 ≠ k') →
      lookup (finalHdr d key caller) k' =
        lookup [(strBytes "Upgrade", [strBytes "websocket"]), (strBytes "Connection", [strBytes "Upgrade"]),
              (strBytes "Sec-WebSocket-Key", [key]), (strBytes "Sec-WebSocket-Version", [strBytes "13"])] k' := by
    intro k' h1 h2 h3
    unfold finalHdr
    simp only
    split
    · rw [lookup_set_ne _ _ _ _ h2, lookup_merge caller k' h1 h3, lookup_base d key k' h1]
    · rw [lookup_merge caller k' h1 h3, lookup_base d key k' h1]
  refine ⟨?_, ?_, ?_, ?_⟩
  · rw [hfin _ (by decide +kernel) (by decide +kernel) (fun p hp => (hcan p hp).1)]
    exact (lookup_h0 _ _ _ _).1
  · rw [hfin _ (by decide +kernel) (by decide +kernel) (fun p hp => (hcan p hp).2.1)]
    exact (lookup_h0 _ _ _ _).2.1
  · rw [hfin _ (by decide +kernel) (by decide +kernel) (fun p hp => (hcan p hp).2.2.1)]
    exact (lookup_h0 _ _ _ _).2.2.1
  · rw [hfin _ (by decide +kernel) (by decide +kernel) (fun p hp => (hcan p hp).2.2.2.1)]
    exact (lookup_h0 _ _ _ _).2.2.2.1

/-- `hcan`: the caller did not use the RFC spelling of the header name as a key, which the duplicate check
    refuses anyway -/
theorem offer_iff_enabled (d : DCfg) (u : Url) (key : Bytes) (caller : Client.Hdr) (host : Bytes) (h : Client.Hdr)
    (hok : buildRequest d u key caller = .ok (host, h))
    (hcan : ∀ p ∈ caller, p.1 ≠ strBytes "Sec-WebSocket-Extensions") :
    (lookup h (strBytes "Sec-WebSocket-Extensions")).isSome = d.enableCompression := by
  obtain ⟨_, rfl⟩ := buildRequest_ok d u key caller host h hok
  unfold finalHdr
  simp only
  split
  · rename_i hc
    rw [lookup_set_same, hc]
    rfl
  · rename_i hc
    rw [lookup_merge caller _ (by decide +kernel) hcan, lookup_base d key _ (by decide +kernel)]
    have hc' : d.enableCompression = false := by simpa using hc
    rw [hc', (lookup_h0 _ _ _ _).2.2.2.2]
    rfl

theorem host_from_url_or_override (d : DCfg) (u : Url) (key : Bytes) (caller : Client.Hdr) (host : Bytes) (h : Client.Hdr)
    (hok : buildRequest d u key caller = .ok (host, h))
    (hno : ∀ p ∈ caller, canonicalKey p.1 ≠ strBytes "Host") : host = u.host := by
  obtain ⟨rfl, _⟩ := buildRequest_ok d u key caller host h hok
  unfold hostOf
  have hn : caller.find? (fun p => canonicalKey p.1 == strBytes "Host" && !p.2.isEmpty) = none := by
    rw [List.find?_eq_none]
    intro x hx hxk
    simp only [Bool.and_eq_true, beq_iff_eq] at hxk
    exact hno x hx hxk.1
  rw [hn]

/-- regression sentinel F9: canonicalisation maps the RFC spelling and other capitalisations of the
    protocol-owned names to the canonical spelling, so the duplicate check catches them -/
theorem canonical_catches_rfc_spelling :
    canonicalKey (strBytes "Sec-WebSocket-Version") = strBytes "Sec-Websocket-Version" ∧
    canonicalKey (strBytes "UPGRADE") = strBytes "Upgrade" ∧
    canonicalKey (strBytes "sec-websocket-key") = strBytes "Sec-Websocket-Key" ∧
    canonicalKey (strBytes "connection") = strBytes "Connection" ∧
    canonicalKey (strBytes "SEC-WEBSOCKET-EXTENSIONS") = strBytes "Sec-Websocket-Extensions" := by
  repeat rw [strBytes_ofList]
  decide +kernel

end WS.RequestLogic
