import WS.Lemmas.ReaderMore
import WS.Lemmas.PreparedSend
/-
  Writer (C09 / C10), which error is sticky: a failing transport operation latches the error it returns; a close
  frame that went out latches ErrCloseSent, and every later request fails with exactly that error.
  Reader (C04 / C08): the checks on the body of a close frame (a status code a peer may not send, a reason that is
  not UTF-8: protocol error and a 1002 close frame; no body: CloseError 1005), and a ping handler that fails (its
  error is what the read returns, and it is latched). All three go through `RoleGeneric.advance_ctl`.
-/
namespace WS.AuditGaps
open WS WS.Codec WS.SrcLaw WS.HdrLogic WS.ReaderDecodes WS.ReaderRejects WS.ReaderLift WS.ReaderMore WS.RoleGeneric

section Helpers
open WS.AdvFrame

theorem tSetWD_writeErr (s : W) (d : Int) : (tSetWD s d).2.writeErr = s.writeErr := by
  unfold tSetWD
  dsimp only
  split <;> rfl

theorem tWrite_writeErr (s : W) (b : Bytes) : (tWrite s b).2.writeErr = s.writeErr := by
  unfold tWrite
  dsimp only
  split <;> rfl

theorem writeBufs_writeErr (s : W) (b0 b1 : Bytes) : (writeBufs s b0 b1).2.writeErr = s.writeErr := by
  unfold writeBufs
  split
  · exact tWrite_writeErr s b0
  · split
    · rename_i e s' heq
      have := tWrite_writeErr s b0
      rw [heq] at this; exact this
    · rename_i s' heq
      have := tWrite_writeErr s b0
      rw [heq] at this
      rw [tWrite_writeErr]; exact this

theorem writeFatal_of_none (s : W) (e : WErr) (h : s.writeErr = none) : (writeFatal s e).writeErr = some e := by
  unfold writeFatal
  rw [h]

/-- `s1`: the state after the transport calls, which leave the sticky error alone -/
theorem connWrite_writeErr (s : W) (ft d : Int) (b0 b1 : Bytes) (hs : s.writeErr = none) :
    ∃ s1, s1.writeErr = none ∧
      ((∃ e, connWrite s ft d b0 b1 = (some e, writeFatal s1 e)) ∨
        connWrite s ft d b0 b1 = (none, if ft == 8 then writeFatal s1 .closeSent else s1)) := by
  unfold connWrite
  rw [hs]
  dsimp only
  have h1 := tSetWD_writeErr s d
  split
  · rename_i e1 s1 heq1
    rw [heq1] at h1
    exact ⟨s1, h1.trans hs, Or.inl ⟨e1, rfl⟩⟩
  · rename_i s1 heq1
    rw [heq1] at h1
    have h2 := writeBufs_writeErr s1 b0 b1
    split
    · rename_i e2 s2 heq2
      rw [heq2] at h2
      exact ⟨s2, h2.trans (h1.trans hs), Or.inl ⟨e2, rfl⟩⟩
    · rename_i s2 heq2
      rw [heq2] at h2
      exact ⟨s2, h2.trans (h1.trans hs), Or.inr rfl⟩

theorem closePrev_err (s : W) (dnp : List Bytes) (fullp : Bytes) (e : WErr) (h : s.writeErr = some e) :
    (closePrev s dnp fullp).writeErr = some e ∧ (closePrev s dnp fullp).wire = s.wire := by
  have hc := closePrev_of_err s dnp fullp (by rw [h]; rfl)
  exact ⟨(core_writeErr hc).trans h, core_wire hc⟩

theorem beginMessage'_data_err (s : W) (t : Int) (ht : t = 1 ∨ t = 2) (e : WErr) (h : s.writeErr = some e) :
    beginMessage' s t = (.error e, s) := by
  unfold beginMessage'
  rw [h]
  rcases ht with rfl | rfl
  · rw [if_neg (by decide)]
  · rw [if_neg (by decide)]

theorem beginMessage_data_err (s : W) (t : Int) (ht : t = 1 ∨ t = 2) (dnp : List Bytes) (fullp : Bytes) (e : WErr)
    (h : s.writeErr = some e) :
    beginMessage s t dnp fullp = (.error e, closePrev s dnp fullp) := by
  unfold beginMessage
  exact beginMessage'_data_err _ t ht e (closePrev_err s dnp fullp e h).1

theorem nextWriter_data_err (s : W) (t : Int) (ht : t = 1 ∨ t = 2) (dnp : List Bytes) (fullp : Bytes) (e : WErr)
    (h : s.writeErr = some e) :
    nextWriter s t dnp fullp = (.error e, closePrev s dnp fullp) := by
  unfold nextWriter
  rw [beginMessage_data_err s t ht dnp fullp e h]

theorem writeMessage_data_err (s : W) (t : Int) (ht : t = 1 ∨ t = 2) (data : Bytes) (dnp : List Bytes) (fullp : Bytes)
    (dn : List Bytes) (full : Bytes) (e : WErr) (h : s.writeErr = some e) :
    writeMessage s t data dnp fullp dn full = (some e, closePrev s dnp fullp) := by
  unfold writeMessage
  split
  · rw [beginMessage_data_err s t ht dnp fullp e h]
  · rw [nextWriter_data_err s t ht dnp fullp e h]

theorem ctlKey_err (s : W) : (ctlKey s).2.writeErr = s.writeErr ∧ (ctlKey s).2.wire = s.wire := by
  unfold ctlKey; split
  · exact ⟨rfl, rfl⟩
  · exact ⟨rfl, rfl⟩

theorem writeControl_err (s : W) (t : Int) (ht : t = 8 ∨ t = 9 ∨ t = 10) (data : Bytes) (hl : data.length ≤ 125)
    (d : Int) (hd : 0 ≤ d) (e : WErr) (h : s.writeErr = some e) :
    (writeControl s t data d).1 = some e ∧ (writeControl s t data d).2.wire = s.wire := by
  have hm : maxControlPayload = 125 := by decide
  have hc : isControl t = true := by rcases ht with rfl | rfl | rfl <;> decide
  unfold writeControl
  rw [hc, hm]
  rw [if_neg (by decide), if_neg (by omega)]
  dsimp only
  rw [if_neg (by omega)]
  rw [connWrite_of_err _ _ _ _ _ e ((ctlKey_err s).1.trans h)]
  exact ⟨rfl, (ctlKey_err s).2⟩

theorem writePreparedImage_err (s : W) (t : Int) (img : Bytes) (dnp : List Bytes) (fullp : Bytes) (e : WErr)
    (h : s.writeErr = some e) :
    (writePreparedImage s t img dnp fullp).1 = some e ∧ (writePreparedImage s t img dnp fullp).2.wire = s.wire := by
  unfold writePreparedImage
  dsimp only
  have hc : (if isData t then closePrev s dnp fullp else s).writeErr = some e ∧
      (if isData t then closePrev s dnp fullp else s).wire = s.wire := by
    split
    · exact closePrev_err s dnp fullp e h
    · exact ⟨h, rfl⟩
  rw [connWrite_of_err _ _ _ _ _ e hc.1]
  exact ⟨rfl, hc.2⟩

theorem hpe_healthy (c : Conn) (hw : WHealthy c.w) (msg : String) :
    (handleProtocolError c msg).1 = .protocol msg ∧ (handleProtocolError c msg).2.r = c.r ∧
    (handleProtocolError c msg).2.w.wire = c.w.wire ++ closeFrameBytes c.w ((closePayload 1002 (strBytes msg)).take 125) ∧
    (handleProtocolError c msg).2.w.writeErr = some .closeSent := by
  have hm : maxControlPayload = 125 := by decide
  have h1002 : Gen.CloseProtocolError.toNat = 1002 := by decide
  unfold handleProtocolError
  simp only []
  rw [hm, h1002]
  refine ⟨trivial, trivial, ?_, ?_⟩
  · exact (writeControl_healthy c.w 8 _ hw (by decide) (by rw [List.length_take]; omega)).1
  · exact (writeControl_healthy c.w 8 _ hw (by decide) (by rw [List.length_take]; omega)).2

theorem afDispatch_badcode (h : Hdr) (c : Conn) (hop : h.opcode = 8) (code : Nat) (reason : Bytes)
    (hcode : isValidReceivedCloseCode code = false) (hc16 : code < 65536) :
    afDispatch h (beBytes 2 code ++ reason) c =
      (.error (handleProtocolError c ("bad close code " ++ toString code)).1,
       (handleProtocolError c ("bad close code " ++ toString code)).2) := by
  obtain ⟨hge, hcode', _⟩ := close_body code reason hc16
  unfold afDispatch
  rw [hop]
  simp only [show ((8 : Nat) == 10) = false from rfl, show ((8 : Nat) == 9) = false from rfl,
    Bool.false_eq_true, if_false, if_true, hge, hcode', hcode, decide_true, Bool.not_false,
    Bool.and_true]

theorem afDispatch_badutf (h : Hdr) (c : Conn) (hop : h.opcode = 8) (code : Nat) (reason : Bytes)
    (hcode : isValidReceivedCloseCode code = true) (hc16 : code < 65536) (hutf : Spec.validUtf8 reason = false) :
    afDispatch h (beBytes 2 code ++ reason) c =
      (.error (handleProtocolError c "invalid utf8 payload in close frame").1,
       (handleProtocolError c "invalid utf8 payload in close frame").2) := by
  obtain ⟨hge, hcode', htext⟩ := close_body code reason hc16
  unfold afDispatch
  rw [hop]
  simp only [show ((8 : Nat) == 10) = false from rfl, show ((8 : Nat) == 9) = false from rfl,
    Bool.false_eq_true, if_false, if_true, hge, hcode', htext, hcode, hutf, decide_true, Bool.not_false,
    Bool.not_true, Bool.and_true, Bool.and_false]

theorem afDispatch_empty_close (h : Hdr) (c : Conn) (hop : h.opcode = 8) (hd : c.r.hClose = .dflt) :
    afDispatch h [] c =
      (.error (.close 1005 []),
       { w := (writeControl (emit c.w (.hClose 1005 [])) 8 (closePayload 1005 []) writeWaitDeadline).2,
         r := { c.r with hlog := c.r.hlog ++ [.close 1005 []] } }) := by
  have h1005 : Gen.CloseNoStatusReceived.toNat = 1005 := by decide
  have hge : (([] : Bytes).length ≥ 2) = False := by simp
  unfold afDispatch
  rw [hop]
  simp only [show ((8 : Nat) == 10) = false from rfl, show ((8 : Nat) == 9) = false from rfl,
    Bool.false_eq_true, if_false, hge, h1005, decide_false, Bool.false_and, runHandler, hd]
  rfl

theorem afDispatch_ping_fail (h : Hdr) (payload : Bytes) (c : Conn) (hop : h.opcode = 9) (id : Nat)
    (hd : c.r.hPing = .fail id) :
    afDispatch h payload c =
      (.error (.handler id), { w := (emit c.w (Ev.hPing payload)),
                               r := { c.r with hlog := c.r.hlog ++ [.ping payload] } }) := by
  unfold afDispatch
  rw [hop]
  simp only [show ((9 : Nat) == 10) = false from rfl, show ((9 : Nat) == 9) = true from rfl,
    Bool.false_eq_true, if_false, if_true, runHandler, hd]
  rfl

/-- `hdisp`: the dispatch of the close frame ends in `handleProtocolError` -/
theorem close_rejected (c : Conn) (hc : AtBoundary c) (hw : WHealthy c.w) (key : Key) (code : Nat)
    (reason rest : Bytes) (hl : reason.length ≤ 123)
    (hp : c.r.buf.pending = PFrame.enc c.r.isServer ⟨8, true, key, beBytes 2 code ++ reason⟩ ++ rest)
    (text : String)
    (hdisp : ∀ (h : Hdr) (c2 : Conn), h.opcode = 8 → afDispatch h (beBytes 2 code ++ reason) c2 =
      (.error (handleProtocolError c2 text).1, (handleProtocolError c2 text).2)) :
    ∃ msg c', advanceFrame c = (.error (.protocol msg), c') ∧ c'.r.hlog = c.r.hlog ∧
      c'.w.wire = c.w.wire ++ closeFrameBytes c.w ((closePayload 1002 (strBytes msg)).take 125) ∧
      c'.w.writeErr = some .closeSent := by
  have hPl : (beBytes 2 code ++ reason).length = 2 + reason.length := by
    rw [List.length_append, beBytes_length]
  obtain ⟨c2, a1, e1, e2, e3, e4⟩ := advance_ctl c hc 8 (Or.inl rfl) key (beBytes 2 code ++ reason) rest (by omega) hp
  rw [hdisp _ c2 rfl] at a1
  obtain ⟨p1, p2, p3, p4⟩ := hpe_healthy c2 (by rw [e1]; exact hw) text
  rw [p1] at a1
  rw [e1] at p3
  exact ⟨_, _, a1, by rw [p2, e2], p3, p4⟩

theorem controlFrame_length_pos (S : Bool) (t : Nat) (data : Bytes) (k : Key) : 0 < (controlFrame S t data k).length := by
  unfold controlFrame
  split <;> simp

end Helpers

/-- C10: whatever makes a frame write fail — the sticky error, a failing SetWriteDeadline, a failing or
    short transport write — the connection's sticky write error is set afterwards -/
theorem connWrite_error_is_sticky (s : W) (ft d : Int) (b0 b1 : Bytes) (h : (connWrite s ft d b0 b1).1.isSome) :
    (connWrite s ft d b0 b1).2.writeErr.isSome := by
  cases hs : s.writeErr with
  | some e => rw [connWrite_of_err s ft d b0 b1 e hs, hs]; rfl
  | none =>
    obtain ⟨s1, _, ⟨e, h2⟩ | h2⟩ := connWrite_writeErr s ft d b0 b1 hs
    · rw [h2]; exact writeFatal_isSome s1 e
    · rw [h2] at h; cases h

/-- … and it is the error that was returned when the connection was healthy before -/
theorem connWrite_error_latched (s : W) (ft d : Int) (b0 b1 : Bytes) (e : WErr) (hs : s.writeErr = none)
    (h : (connWrite s ft d b0 b1).1 = some e) : (connWrite s ft d b0 b1).2.writeErr = some e := by
  obtain ⟨s1, h1, ⟨e', h2⟩ | h2⟩ := connWrite_writeErr s ft d b0 b1 hs
  · rw [h2] at h ⊢
    cases h
    exact writeFatal_of_none s1 e h1
  · rw [h2] at h; cases h

/-- C09: a close frame that went out makes ErrCloseSent the sticky error (any path ends in this frame write) -/
theorem close_sets_closeSent (s : W) (d : Int) (b0 b1 : Bytes) (h : (connWrite s 8 d b0 b1).1 = none) :
    (connWrite s 8 d b0 b1).2.writeErr = some .closeSent := by
  cases hs : s.writeErr with
  | some e => rw [connWrite_of_err s 8 d b0 b1 e hs] at h; cases h
  | none =>
    obtain ⟨s1, h1, ⟨e', h2⟩ | h2⟩ := connWrite_writeErr s 8 d b0 b1 hs
    · rw [h2] at h; cases h
    · rw [h2]; exact writeFatal_of_none s1 _ h1

/-- C09: with ErrCloseSent latched every otherwise valid request fails with exactly ErrCloseSent and
    the wire does not change -/
theorem requests_fail_with_closeSent (s : W) (h : s.writeErr = some .closeSent) :
    (∀ t data, (t = 1 ∨ t = 2) → (writeMessage s t data).1 = some .closeSent ∧ (writeMessage s t data).2.wire = s.wire) ∧
    (∀ t, (t = 1 ∨ t = 2) → ∃ s', nextWriter s t = (.error .closeSent, s') ∧ s'.wire = s.wire) ∧
    (∀ t data d, (t = 8 ∨ t = 9 ∨ t = 10) → data.length ≤ 125 → 0 ≤ d →
        (writeControl s t data d).1 = some .closeSent ∧ (writeControl s t data d).2.wire = s.wire) ∧
    (∀ t img, (writePreparedImage s t img).1 = some .closeSent ∧ (writePreparedImage s t img).2.wire = s.wire) := by
  refine ⟨?_, ?_, ?_, ?_⟩
  · intro t data ht
    rw [writeMessage_data_err s t ht data [] [] [] [] _ h]
    exact ⟨rfl, (closePrev_err s [] [] _ h).2⟩
  · intro t ht
    exact ⟨_, nextWriter_data_err s t ht [] [] _ h, (closePrev_err s [] [] _ h).2⟩
  · intro t data d ht hl hd
    exact writeControl_err s t ht data hl d hd _ h
  · intro t img
    exact writePreparedImage_err s t img [] [] _ h

/-- C04: a close frame whose status code is not one a peer may send is a protocol violation: the close
    handler is not run, the error is a protocol error, a 1002 close frame is written (either role) -/
theorem bad_close_code_rejected (c : Conn) (hc : AtBoundary c) (hw : WHealthy c.w)
    (key : Key) (code : Nat) (reason rest : Bytes)
    (hcode : isValidReceivedCloseCode code = false) (hc16 : code < 65536) (hl : reason.length ≤ 123)
    (hp : c.r.buf.pending = PFrame.enc c.r.isServer ⟨8, true, key, beBytes 2 code ++ reason⟩ ++ rest) :
    ∃ msg c', advanceFrame c = (.error (.protocol msg), c') ∧ c'.r.hlog = c.r.hlog ∧
      c'.w.wire = c.w.wire ++ closeFrameBytes c.w ((closePayload 1002 (strBytes msg)).take 125) ∧
      c'.w.writeErr = some .closeSent := by
  exact close_rejected c hc hw key code reason rest hl hp _
    (fun h c2 hop => afDispatch_badcode h c2 hop code reason hcode hc16)

/-- C04: a close reason that is not UTF-8 is a protocol violation, same consequences -/
theorem bad_close_utf8_rejected (c : Conn) (hc : AtBoundary c) (hw : WHealthy c.w)
    (key : Key) (code : Nat) (reason rest : Bytes)
    (hcode : isValidReceivedCloseCode code = true) (hc16 : code < 65536) (hutf : Spec.validUtf8 reason = false)
    (hl : reason.length ≤ 123)
    (hp : c.r.buf.pending = PFrame.enc c.r.isServer ⟨8, true, key, beBytes 2 code ++ reason⟩ ++ rest) :
    ∃ msg c', advanceFrame c = (.error (.protocol msg), c') ∧ c'.r.hlog = c.r.hlog ∧
      c'.w.wire = c.w.wire ++ closeFrameBytes c.w ((closePayload 1002 (strBytes msg)).take 125) ∧
      c'.w.writeErr = some .closeSent := by
  exact close_rejected c hc hw key code reason rest hl hp _
    (fun h c2 hop => afDispatch_badutf h c2 hop code reason hcode hc16 hutf)

/-- C08: a close frame without a body is reported as CloseError 1005 (no status received) with an
    empty reason; the default handler echoes a close frame -/
theorem empty_close_is_1005 (c : Conn) (hc : AtBoundary c) (hw : WHealthy c.w) (hd : c.r.hClose = .dflt)
    (key : Key) (rest : Bytes)
    (hp : c.r.buf.pending = PFrame.enc c.r.isServer ⟨8, true, key, []⟩ ++ rest) :
    ∃ c', advanceFrame c = (.error (.close 1005 []), c') ∧ c'.r.hlog = c.r.hlog ++ [.close 1005 []] ∧
      c'.w.writeErr = some .closeSent ∧ c.w.wire.length < c'.w.wire.length := by
  obtain ⟨c2, a1, e1, e2, e3, e4⟩ := advance_ctl c hc 8 (Or.inl rfl) key [] rest (by simp) hp
  rw [afDispatch_empty_close _ c2 rfl (e3.trans hd)] at a1
  have hwc := writeControl_healthy (emit c2.w (Ev.hClose 1005 [])) 8 (closePayload 1005 []) (by rw [e1]; exact hw)
    (by decide) (closePayload_nil_len 1005)
  refine ⟨_, a1, by rw [e2], hwc.2, ?_⟩
  show c.w.wire.length < (writeControl (emit c2.w (Ev.hClose 1005 [])) 8 (closePayload 1005 []) writeWaitDeadline).2.wire.length
  rw [hwc.1, List.length_append, e1]
  have := controlFrame_length_pos (emit c.w (Ev.hClose 1005 [])).isServer (8 : Int).toNat (closePayload 1005 [])
    (ctlKey (emit c.w (Ev.hClose 1005 []))).1
  show (c.w.wire).length < (c.w.wire).length + _
  omega

/-- a reader between messages, handlers arbitrary (`ReaderIdle` without its two handler fields) -/
structure ReaderIdle' (c : Conn) : Prop where
  noErr : c.r.readErr = none
  rem : c.r.remaining = 0
  fin : c.r.final = true
  wf : WF c.r.buf
  size : 125 ≤ c.r.buf.size
  fuel : c.r.buf.pending.length ≤ c.r.buf.total

/-- C08: the error a ping handler returns is what the read call returns, it is latched, and no pong is
    written (`hcnt`: on reachable states the failed-call counter is 0 while no error is latched,
    `ReaderMore.CountInv`) -/
theorem failing_ping_handler (c : Conn) (hc : ReaderIdle' c) (id : Nat) (hh : c.r.hPing = .fail id)
    (key : Key) (payload rest : Bytes) (hl : payload.length ≤ 125) (hcnt : c.r.errCount = 0)
    (hp : c.r.buf.pending = PFrame.enc c.r.isServer ⟨9, true, key, payload⟩ ++ rest) :
    ∃ c', nextReader c = (.err (.handler id), c') ∧ c'.r.readErr = some (.handler id) ∧
      c'.r.hlog = c.r.hlog ++ [.ping payload] ∧ c'.w.wire = c.w.wire := by
  have hb : AtBoundary (RobustAux.c0 c) := ⟨hc.noErr, hc.rem, hc.wf, hc.size⟩
  obtain ⟨c2, a1, e1, e2, e3, e4, _⟩ := advance_ctl (RobustAux.c0 c) hb 9 (Or.inr (Or.inl rfl)) key payload rest hl hp
  rw [afDispatch_ping_fail _ payload c2 rfl id (e4.trans hh)] at a1
  have hn := RobustAux.nextReader_adv_err c hc.noErr _ _ a1
  rw [hcnt, if_neg (by decide)] at hn
  refine ⟨_, hn, rfl, ?_, ?_⟩
  · show c2.r.hlog ++ [REv.ping payload] = c.r.hlog ++ [REv.ping payload]
    rw [e2]; rfl
  · show c2.w.wire = c.w.wire
    rw [e1]; rfl

end WS.AuditGaps
