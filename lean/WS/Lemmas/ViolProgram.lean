import WS.Lemmas.ReadProgram
import WS.Lemmas.ProgramAnyLimit
import WS.Lemmas.ReaderRejects
/-
  C04 for every read program: whole conformant messages, each within the read limit if one is set, then a frame
  whose header violates RFC 6455 framing (any of the violations the property lists), then any bytes. Up to the
  first NextReader failure (`runProg` models no call after it) the messages reported complete form a sublist of
  the whole messages, in order, and the handlers have been called only for control frames of the whole messages,
  in wire order. Both are read off `viol_sim`: `ReadProgram.run_program` with the violating header as what follows
  the whole messages. `WS.ViolHlog`: the handler-log half.
-/
namespace WS.ViolProgram
open WS WS.Codec WS.HdrLogic WS.ReaderDecodes WS.ReadProgram WS.CutProgram

section Helpers
open WS.LimitHistoryAux WS.RobustAux WS.AdvFrame WS.SrcLaw WS.ReaderRejects
open WS.ProgramAnyLimit

theorem viol_adv (c : Conn) (hc : AtBoundary c) (b0 b1 : UInt8) (rest : Bytes)
    (hp : c.r.buf.pending = b0 :: b1 :: rest)
    (hv : Violates c.r.isServer c.r.nego (!c.r.final) (parseHdr b0 b1)) :
    ∃ e c', advanceFrame c = (.error e, c') ∧ c'.r.hlog = c.r.hlog := by
  obtain ⟨b', h1, _⟩ := advance_head c hc b0 b1 rest hp
  obtain ⟨msg, c', a1, a2, _⟩ := afHdr_viol { c with r := { c.r with buf := b' } } b0 b1 hv
  exact ⟨_, c', h1.trans a1, a2⟩

theorem nrl_viol (S N : Bool) (b0 b1 : UInt8) (tail : Bytes) (hv : Violates S N false (parseHdr b0 b1)) (fuel : Nat)
    (c : Conn) (wire : Bytes) (more : List PFrame) (hst : St S c wire more (b0 :: b1 :: tail)) (hN : c.r.nego = N)
    (hl : LenOk c (dataPayload more).length) (hf : c.r.buf.pending.length < fuel) :
    ∃ e c1, nextReaderLoop fuel c = (.err e, c1) ∧ c1.r.hlog = c.r.hlog ++ ctlEvents more := by
  obtain ⟨f', c', h1, h2, h3, h4, _, h6, _, _, h9, _⟩ := nrl_boundary S _ 0 fuel c wire more hst hl hf
  rcases h1 with h1 | ⟨e, c1, h1, hh⟩
  · obtain ⟨e, x, ha, hx⟩ := viol_adv c' h2.atBoundary b0 b1 tail h4
      (by rw [h2.srv, h9, hN, h3]; exact hv)
    refine ⟨e, _, by rw [h1, RobustAux.nextReaderLoop_on_err f' c' h2.noErr e x ha], ?_⟩
    show x.r.hlog = _
    rw [hx, h6]
  · exact ⟨e, c1, h1, by rw [hh, h6]⟩

theorem viol_tail (S N : Bool) (b0 b1 : UInt8) (tail : Bytes) (hv : Violates S N false (parseHdr b0 b1))
    (L : Int) (tg : Bool) (ops : List ROp) (c : Conn) (cur : Option Nat) (H : List REv)
    (hi : Idle S N L tg (b0 :: b1 :: tail) H c) :
    (∀ cst, completedAux (runProg (.next :: ops) c cur).1 cst = []) ∧
      (runProg (.next :: ops) c cur).2.r.hlog <+: H := by
  obtain ⟨n, hpre, hn, hnL, hN⟩ := hi
  have hlimc := hpre.limit
  obtain ⟨wire, more, hst, hwn, hH, _, _⟩ := hpre
  have hl : LenOk (c0 c) (dataPayload more).length := by
    refine ⟨?_, ?_⟩
    · show (0 : Int) + _ < _
      omega
    · show c.r.limit ≤ 0 ∨ (0 : Int) + _ ≤ c.r.limit
      omega
  obtain ⟨e, c1, h, hh⟩ := nrl_viol S N b0 b1 tail hv c.fuel (c0 c) wire more hst hN hl (c0_pending_lt_fuel hst.env.fuel)
  obtain ⟨hfail, hlog⟩ := nextReader_of_loop_err c hst.noErr e c1 h
  refine ⟨fun cst => (run_next_fail ops c cur hfail cst).1, ?_⟩
  rw [(run_next_fail ops c cur hfail none).2, hlog, hh]
  show c.r.hlog ++ ctlEvents more <+: H
  rw [hH]
  exact List.prefix_refl _

theorem viol_sim (c : Conn) (hc : ReaderIdle c) (msgs : List (Nat × List PFrame)) (hm : MsgsOk c.r.limit msgs)
    (b0 b1 : UInt8) (tail : Bytes) (hv : Violates c.r.isServer c.r.nego false (parseHdr b0 b1))
    (hp : c.r.buf.pending = wireOf c.r.isServer msgs (b0 :: b1 :: tail)) (ops : List ROp) :
    Sim (c.r.hlog ++ ctlAll msgs)
      (fun r => (∀ cst, completedAux r.1 cst = []) ∧ r.2.r.hlog <+: c.r.hlog ++ ctlAll msgs)
      ops (payloads msgs) none false (runProg ops c none) :=
  run_program c hc msgs hm _ hp (Or.inr (by simp)) _ ops
    (Or.inr fun ops' c' cur' hi => viol_tail _ _ b0 b1 tail hv _ _ ops' c' cur' _ hi)

end Helpers

/-- C04, part (1) of `violation_program` (what is reported complete), when every whole message is within the
    read limit -/
theorem violation_program_fits_completed_partial (c : Conn) (hc : ReaderIdle c) (msgs : List (Nat × List PFrame))
    (hm : ∀ m ∈ msgs, (m.1 = 1 ∨ m.1 = 2) ∧ MsgShape m.1 m.2 ∧ (dataPayload m.2).length < 2 ^ 62 ∧
      (c.r.limit ≤ 0 ∨ ((dataPayload m.2).length : Int) ≤ c.r.limit))
    (b0 b1 : UInt8) (tail : Bytes)
    (hv : Violates c.r.isServer c.r.nego false (parseHdr b0 b1))
    (hp : c.r.buf.pending = (msgs.map (fun m => encAll c.r.isServer m.2)).flatten ++ b0 :: b1 :: tail)
    (ops : List ROp) :
    List.Sublist (completed (runProg ops c none).1) (msgs.map (fun m => (m.1, dataPayload m.2))) :=
  (viol_sim c hc msgs hm b0 b1 tail hv hp ops).completed (fun _ h => h.1) none (fun h => nomatch h)

/- NOT PROVED: the same two statements for whole messages above the read limit (needs the steps of a reader
   inside a whole message without `LenOk`).

theorem violation_program (c : Conn) (hc : ReaderIdle c) (msgs : List (Nat × List PFrame))
    (hm : ∀ m ∈ msgs, (m.1 = 1 ∨ m.1 = 2) ∧ MsgShape m.1 m.2 ∧ (dataPayload m.2).length < 2 ^ 62)
    (b0 b1 : UInt8) (tail : Bytes)
    (hv : Violates c.r.isServer c.r.nego false (parseHdr b0 b1))
    (hp : c.r.buf.pending = (msgs.map (fun m => encAll c.r.isServer m.2)).flatten ++ b0 :: b1 :: tail)
    (ops : List ROp) :
    List.Sublist (completed (runProg ops c none).1) (msgs.map (fun m => (m.1, dataPayload m.2))) ∧
    (runProg ops c none).2.r.hlog <+: c.r.hlog ++ (msgs.map (fun m => ctlEvents m.2)).flatten

-/

end WS.ViolProgram

namespace WS.ViolHlog
open WS WS.Codec WS.HdrLogic WS.ReaderDecodes WS.ReadProgram

/-- C04, part (2) of `violation_program` (the handler log), when every whole message is within the read limit;
    the log is taken where `runProg` stops -/
theorem violation_program_hlog_fits_partial (c : Conn) (hc : ReaderIdle c) (msgs : List (Nat × List PFrame))
    (hm : ∀ m ∈ msgs, (m.1 = 1 ∨ m.1 = 2) ∧ MsgShape m.1 m.2 ∧ (dataPayload m.2).length < 2 ^ 62 ∧
      (c.r.limit ≤ 0 ∨ ((dataPayload m.2).length : Int) ≤ c.r.limit))
    (b0 b1 : UInt8) (tail : Bytes)
    (hv : Violates c.r.isServer c.r.nego false (parseHdr b0 b1))
    (hp : c.r.buf.pending = (msgs.map (fun m => encAll c.r.isServer m.2)).flatten ++ b0 :: b1 :: tail)
    (ops : List ROp) :
    (runProg ops c none).2.r.hlog <+: c.r.hlog ++ (msgs.map (fun m => ctlEvents m.2)).flatten :=
  (ViolProgram.viol_sim c hc msgs hm b0 b1 tail hv hp ops).hlog (fun _ h => h.2)

end WS.ViolHlog
