import WS.Lemmas.WFInv
import WS.Lemmas.Moves
/-
  State invariant behind C02 at frame level (namespace `WS.WFInv`), part two: handles and the write API.
  `Good c s`: `Inn` holds, handles and messageWriters come in pairs (`HInv`), and at most one messageWriter is
  live, the one `s.writer` points to, which agrees with the wire (`LiveC`).  Write, ReadFrom and Close on a
  handle run messageWriter-level steps on the copy of one messageWriter and store it back (`good_step`, `Good.hcall`).
  `Good.move`: every move of the write API keeps the invariant.
-/
namespace WS.WFInv
open WS WS.Spec WS.Codec WS.WFSpec WS.WireWF

/-- read by index; `WireWF.NoOpenWriter` reads by membership -/
def AllEnded (mws : List MW) : Prop := ∀ (j : Nat) (m : MW), mws[j]? = some m → m.err.isSome

theorem allEnded_iff_noOpenWriter {s : W} : AllEnded s.mws ↔ NoOpenWriter s :=
  ⟨fun h m hm => by
      obtain ⟨i, _, hi⟩ := List.mem_iff_getElem.mp hm
      exact h i m (by rw [← hi]; exact List.getElem?_eq_getElem _),
   fun h _ m hm => h m (List.mem_of_getElem? hm)⟩

/-- handles and messageWriters are created in pairs; a flate wrapper that failed or was closed has
    ended its messageWriter -/
structure HInv (hs : List Handle) (mws : List MW) : Prop where
  len : hs.length = mws.length
  idx : ∀ (h : Nat) (x : Handle), hs[h]? = some x → hidx x = h
  closed : ∀ (h i : Nat) (fo : Bool) (derr : Option WErr) (sent : Bytes) (m : MW),
    hs[h]? = some (Handle.flate i fo derr sent) → (derr.isSome ∨ fo = false) →
    mws[i]? = some m → m.err.isSome

/-- at most one messageWriter is live; it is `c.writer`, and it agrees with the wire -/
def LiveC (c : Cfg) (mws : List MW) (writer : Option Nat) (we : Option WErr) (o : Bool) : Prop :=
  (∃ i m, mws[i]? = some m ∧ m.err = none ∧ writer = some i ∧ MRel c we o m ∧
    ∀ (j : Nat) (m' : MW), j ≠ i → mws[j]? = some m' → m'.err.isSome) ∨
  (AllEnded mws ∧ (we = none → o = false))

def Good (c : Cfg) (s : W) : Prop :=
  ∃ o, Inn c s o ∧ HInv s.handles s.mws ∧ LiveC c s.mws s.writer s.writeErr o

theorem Inn.of_eq {c : Cfg} {s s' : W} {o : Bool} (h : Inn c s o) (h1 : s'.isServer = s.isServer)
    (h2 : s'.nego = s.nego) (h3 : s'.wbufLen = s.wbufLen) (h4 : s'.faults = s.faults)
    (h5 : s'.wire = s.wire) (h6 : s'.writeErr = s.writeErr) : Inn c s' o :=
  ⟨h1.trans h.isv, h2.trans h.nego, h3.trans h.len, h4.trans h.flt, h.lo, h.hi, by rw [h5, h6]; exact h.wire⟩

theorem HInv.update {hs hs' : List Handle} {mws : List MW} (hH : HInv hs mws) (i : Nat) (x : Handle) (m' : MW)
    (hlen : hs'.length = hs.length) (hat : hs'[i]? = some x) (hne : ∀ j, j ≠ i → hs'[j]? = hs[j]?)
    (hx : hidx x = i)
    (hcl : ∀ i' fo derr sent, x = .flate i' fo derr sent → (derr.isSome ∨ fo = false) → m'.err.isSome) :
    HInv hs' (mws.set i m') := by
  refine ⟨by rw [hlen, List.length_set]; exact hH.len, ?_, ?_⟩
  · intro h y hy
    by_cases hh : h = i
    · subst hh; rw [hat] at hy; cases hy; exact hx
    · rw [hne h hh] at hy; exact hH.idx h y hy
  · -- `closed`: at `i` by `hcl`; elsewhere the handle wraps another messageWriter, which `set i` leaves alone
    intro h i' fo derr sent m hh hc hm
    by_cases heq : h = i
    · subst heq
      rw [hat] at hh
      cases hh
      have hi' : i' = h := hx
      subst hi'
      rw [List.getElem?_set] at hm
      simp only [if_true] at hm
      split at hm
      · cases hm; exact hcl _ _ _ _ rfl hc
      · cases hm
    · rw [hne h heq] at hh
      have hi' : i' = h := hH.idx h _ hh
      subst hi'
      rw [List.getElem?_set_ne (fun hx' => heq hx'.symm)] at hm
      exact hH.closed _ _ _ _ _ _ hh hc hm

theorem LiveC.allEnded {c : Cfg} {mws : List MW} {j : Nat} {we : Option WErr} {o : Bool}
    (h : LiveC c mws (some j) we o) (hj : ∀ m, mws[j]? = some m → m.err.isSome) : AllEnded mws := by
  rcases h with ⟨i, m, hm, hl, hw, _, _⟩ | ⟨h, _⟩
  · cases hw
    have := hj m hm
    rw [hl] at this; cases this
  · exact h

theorem LiveC.allEnded_none {c : Cfg} {mws : List MW} {we : Option WErr} {o : Bool}
    (h : LiveC c mws none we o) : AllEnded mws := by
  rcases h with ⟨i, m, hm, hl, hw, _, _⟩ | ⟨h, _⟩
  · cases hw
  · exact h

theorem LiveC.ofalse {c : Cfg} {mws : List MW} {w : Option Nat} {we : Option WErr} {o : Bool}
    (h : LiveC c mws w we o) (ha : AllEnded mws) : we = none → o = false := by
  rcases h with ⟨i, m, hm, hl, _, _, _⟩ | ⟨_, h⟩
  · have := ha i m hm
    rw [hl] at this; cases this
  · exact h

def SOK (s S : W) (i : Nat) (m' : MW) (x : Handle) : Prop :=
  S.mws = s.mws.set i m' ∧ S.handles.length = s.handles.length ∧ S.handles[i]? = some x ∧
    ∀ j, j ≠ i → S.handles[j]? = s.handles[j]?

/-- `HInv.closed` for one pair -/
def HCl (x : Handle) (m' : MW) : Prop :=
  ∀ (i' : Nat) (fo : Bool) (derr : Option WErr) (sent : Bytes), x = Handle.flate i' fo derr sent →
    (derr.isSome ∨ fo = false) → m'.err.isSome

theorem Good.handle {c : Cfg} {s : W} (hg : Good c s) {j : Nat} {x : Handle} (heq : s.handles[j]? = some x) :
    hidx x = j ∧ ∃ m0, s.mws[j]? = some m0 := by
  obtain ⟨o, _, hH, _⟩ := hg
  refine ⟨hH.idx j x heq, ?_⟩
  have hj : j < s.mws.length := by rw [← hH.len]; exact lt_of_getElem? heq
  exact ⟨s.mws[j], List.getElem?_eq_getElem hj⟩

theorem Good.cap_pos {c : Cfg} {s : W} (hg : Good c s) : 0 < s.cap := by
  obtain ⟨o, hI, _⟩ := hg
  have := hI.lo
  unfold W.cap; rw [hI.len]; omega

theorem Inn.setMW {c : Cfg} {s : W} {o : Bool} (h : Inn c s o) (i : Nat) (m : MW) : Inn c (setMW s i m) o :=
  h.of_eq rfl rfl rfl rfl rfl rfl

theorem Inn.setHandle {c : Cfg} {s : W} {o : Bool} (h : Inn c s o) (i : Nat) (x : Handle) :
    Inn c (setHandle s i x) o :=
  h.of_eq rfl rfl rfl rfl rfl rfl

/-- the common shape of every operation on a live messageWriter `i`: it is the one `c.writer` points to -/
theorem good_live {c : Cfg} {s : W} (hg : Good c s) {i : Nat} {m0 : MW} (hm0 : s.mws[i]? = some m0)
    (hl : m0.err = none) (S : W) (m' : MW) (x : Handle) (hx : hidx x = i)
    (hlive : ∀ o, Inn c s o → MRel c s.writeErr o m0 →
      SOK s S i m' x ∧ HCl x m' ∧
      (∃ o', Inn c S o' ∧ MRel c S.writeErr o' m') ∧ (m'.err = none → S.writer = s.writer)) :
    Good c S ∧ (m'.err.isSome → AllEnded S.mws) := by
  obtain ⟨o, hI, hH, hL⟩ := hg
  have hi : i < s.mws.length := lt_of_getElem? hm0
  have hmain : s.writer = some i ∧ MRel c s.writeErr o m0 ∧
      ∀ j m', j ≠ i → s.mws[j]? = some m' → m'.err.isSome := by
    rcases hL with ⟨i1, m1, hm1, hl1, hw1, hr1, ho1⟩ | ⟨ha, _⟩
    · by_cases hii : i = i1
      · subst hii
        rw [hm0] at hm1; cases hm1
        exact ⟨hw1, hr1, ho1⟩
      · have := ho1 i m0 hii hm0
        rw [hl] at this; cases this
    · have := ha i m0 hm0
      rw [hl] at this; cases this
  obtain ⟨hw, hr, hoth⟩ := hmain
  obtain ⟨⟨hmws, hlen, hat, hne⟩, hcl, ⟨o', hI', hM'⟩, hwr⟩ := hlive o hI hr
  have hHS : HInv S.handles S.mws := by
    rw [hmws]; exact hH.update i x m' hlen hat hne hx hcl
  have hothS : ∀ j m'', j ≠ i → S.mws[j]? = some m'' → m''.err.isSome := by
    intro j m'' hj hmj
    rw [hmws, List.getElem?_set_ne (fun hx' => hj hx'.symm)] at hmj
    exact hoth j m'' hj hmj
  have hSi : S.mws[i]? = some m' := by rw [hmws]; exact List.getElem?_set_self hi
  have hall : m'.err.isSome → AllEnded S.mws := by
    intro he j m'' hmj
    by_cases hj : j = i
    · subst hj; rw [hSi] at hmj; cases hmj; exact he
    · exact hothS j m'' hj hmj
  refine ⟨⟨o', hI', hHS, ?_⟩, hall⟩
  cases hx' : m'.err with
  | none => exact Or.inl ⟨i, m', hSi, hx', (hwr hx').trans hw, hM', hothS⟩
  | some e =>
    have he : m'.err.isSome := by rw [hx']; rfl
    exact Or.inr ⟨hall he, hM'.2 he⟩

theorem good_ended {c : Cfg} {s : W} {i : Nat} {m0 : MW} (x : Handle) (hg : Good c s)
    (hi : i < s.handles.length) (hm0 : s.mws[i]? = some m0) (he : m0.err.isSome) (hx : hidx x = i) :
    Good c (setHandle s i x) ∧ (s.writer = some i → AllEnded s.mws) := by
  obtain ⟨o, hI, hH, hL⟩ := hg
  have hHS : HInv (s.handles.set i x) s.mws := by
    have := hH.update i x m0 List.length_set (List.getElem?_set_self hi)
      (fun _ hj => List.getElem?_set_ne (fun h => hj h.symm)) hx (fun _ _ _ _ _ _ => he)
    rwa [set_same hm0] at this
  refine ⟨⟨o, hI.setHandle i x, hHS, hL⟩, fun hw => ?_⟩
  rw [hw] at hL
  exact hL.allEnded (fun m hm => by rw [hm0] at hm; cases hm; exact he)

theorem good_step {c : Cfg} {s s' : W} {i : Nat} {m0 m' : MW} (hg : Good c s) (hm0 : s.mws[i]? = some m0)
    (hi : i < s.handles.length) (st : MWStep Small s m0 s' m') (x' : Handle) (hx : hidx x' = i)
    (hcl : m0.err = none → HCl x' m') :
    Good c (setHandle (setMW s' i m') i x') ∧
    (s.writer = some i → m'.err.isSome → AllEnded (setHandle (setMW s' i m') i x').mws) := by
  cases hme : m0.err with
  | some e =>
    have he : m0.err.isSome := by rw [hme]; rfl
    obtain ⟨hs, hm⟩ := st.dead (Option.isSome_iff_ne_none.mp he)
    subst s' m'
    rw [setMW_same hm0]
    have := good_ended x' hg hi hm0 he hx
    exact ⟨this.1, fun hw _ => this.2 hw⟩
  | none =>
    have := good_live hg hm0 hme (setHandle (setMW s' i m') i x') m' x' hx (fun o hI hM => ?_)
    · exact ⟨this.1, fun _ => this.2⟩
    · obtain ⟨⟨o', hI', hM'⟩, hfr, hwr⟩ := st.post hI hM
      refine ⟨⟨?_, ?_, ?_, fun j hj => ?_⟩, hcl hme, ⟨o', (hI'.setMW i m').setHandle i x', hM'⟩, hwr⟩
      · show s'.mws.set i m' = _; rw [hfr.mws]
      · show (s'.handles.set i x').length = _; rw [List.length_set, hfr.handles]
      · show (s'.handles.set i x')[i]? = _; rw [hfr.handles]; exact List.getElem?_set_self hi
      · show (s'.handles.set i x')[j]? = _
        rw [hfr.handles]; exact List.getElem?_set_ne (fun h => hj h.symm)

theorem HInv.shut {hs : List Handle} {mws : List MW} (hH : HInv hs mws) {h : Nat} {x : Handle} {m : MW}
    (hh : hs[h]? = some x) (hx : x.shut) (hm : mws[hidx x]? = some m) : m.err.isSome := by
  cases x with
  | plain i => cases hx
  | flate i fo de sent => exact hH.closed _ _ _ _ _ _ hh hx hm

theorem Good.idx_lt {c : Cfg} {s : W} (hg : Good c s) (j : Nat) (x : Handle) (hh : s.handles[j]? = some x) :
    hidx x < s.mws.length := by
  obtain ⟨hij, m0, hm0⟩ := hg.handle hh
  rw [hij]; exact lt_of_getElem? hm0

/-- a call on a handle keeps the invariant, and Close on the current writer leaves no messageWriter live -/
theorem Good.hcall {c : Cfg} {cl : Bool} {s s' : W} {j : Nat} (hg : Good c s) (hc : HCall Small cl s j s') :
    Good c s' ∧ (cl = true → s.writer = some j → AllEnded s'.mws) := by
  cases hc with
  | skip hs =>
    refine ⟨hg, fun hcl hw => ?_⟩
    obtain ⟨o, _, hH, hL⟩ := hg
    rw [hw] at hL
    refine hL.allEnded (fun m hm => ?_)
    have hh := List.getElem?_eq_getElem (show j < s.handles.length by rw [hH.len]; exact lt_of_getElem? hm)
    exact hH.shut hh (hs hcl _ hh) (by rw [hH.idx j _ hh]; exact hm)
  | @mark x x' hh hx hx' hi =>
    obtain ⟨hij, m0, hm0⟩ := hg.handle hh
    have he : m0.err.isSome := by
      obtain ⟨o, _, hH, _⟩ := hg
      exact hH.shut hh hx (by rw [hij]; exact hm0)
    have := good_ended x' hg (lt_of_getElem? hh) hm0 he (hi.trans hij)
    exact ⟨this.1, fun _ => this.2⟩
  | @run x x' m1 s1 hh hi _ st hd =>
    obtain ⟨hij, m0, hm0⟩ := hg.handle hh
    rw [hij] at st hi ⊢
    rw [getMW_eq hm0] at st
    have hdead := fun hc => Option.isSome_iff_ne_none.mpr (hd hg.cap_pos hc)
    have := good_step hg hm0 (lt_of_getElem? hh) st x' hi
      (fun _ i' fo de sent hx hc => hdead (Or.inl (by rw [hx]; exact hc)))
    exact ⟨this.1, fun hcl hw => this.2 hw (hdead (Or.inr hcl))⟩

theorem hClose_good {c : Cfg} {s : W} (j : Nat) (dn : List Bytes) (full : Bytes) (hg : Good c s)
    (hdn : ∀ x ∈ dn, x.length < 2 ^ 40) (henv : CloseEnvOK s j dn full) :
    Good c (hClose s j dn full).2 ∧ (s.writer = some j → AllEnded (hClose s j dn full).2.mws) :=
  have := hg.hcall (hClose_hcall s j dn full hdn henv (fun _ _ => hg.idx_lt j _))
  ⟨this.1, this.2 rfl⟩


/-! ### the implicit close and the registration of a new writer -/

theorem Good.congr {c : Cfg} {s s' : W} (hg : Good c s) (h1 : s'.isServer = s.isServer)
    (h2 : s'.nego = s.nego) (h3 : s'.wbufLen = s.wbufLen) (h4 : s'.faults = s.faults)
    (h5 : s'.wire = s.wire) (h6 : s'.writeErr = s.writeErr) (h7 : s'.mws = s.mws)
    (h8 : s'.handles = s.handles) (h9 : s'.writer = s.writer) : Good c s' := by
  obtain ⟨o, hI, hH, hL⟩ := hg
  exact ⟨o, hI.of_eq h1 h2 h3 h4 h5 h6, by rw [h7, h8]; exact hH, by rw [h7, h9, h6]; exact hL⟩

theorem good_clearWriter {c : Cfg} {s : W} (hg : Good c s) (ha : AllEnded s.mws) : Good c (clearWriter s) := by
  obtain ⟨o, hI, hH, hL⟩ := hg
  exact ⟨o, hI.of_eq rfl rfl rfl rfl rfl rfl, hH, Or.inr ⟨ha, hL.ofalse ha⟩⟩

theorem closePrev_good {c : Cfg} {s : W} (dnp : List Bytes) (fullp : Bytes) (hg : Good c s)
    (hdn : ∀ x ∈ dnp, x.length < 2 ^ 40) (henv : PrevEnvOK s dnp fullp) :
    Good c (closePrev s dnp fullp) ∧ AllEnded (closePrev s dnp fullp).mws ∧
    (closePrev s dnp fullp).writer = none := by
  unfold closePrev
  split
  · rename_i h heq
    have := hClose_good h dnp fullp hg hdn (henv h heq)
    exact ⟨good_clearWriter this.1 (this.2 heq), this.2 heq, rfl⟩
  · rename_i heq
    refine ⟨hg, ?_, heq⟩
    obtain ⟨o, _, _, hL⟩ := hg
    rw [heq] at hL
    exact hL.allEnded_none

theorem ensureBuf_good {c : Cfg} {s : W} (hg : Good c s) :
    Good c (ensureBuf s) ∧ (ensureBuf s).mws = s.mws ∧ (ensureBuf s).writer = s.writer ∧
    (ensureBuf s).writeErr = s.writeErr ∧ (ensureBuf s).nego = s.nego := by
  unfold ensureBuf
  split
  · unfold poolGet
    split <;> exact ⟨hg.congr rfl rfl rfl rfl rfl rfl rfl rfl rfl, rfl, rfl, rfl, rfl⟩
  · exact ⟨hg, rfl, rfl, rfl, rfl⟩

/-- NextWriter's bookkeeping: a fresh live messageWriter with its handle -/
theorem good_push {c : Cfg} {s : W} (hg : Good c s) (ha : AllEnded s.mws) (hwe : s.writeErr = none)
    (m : MW) (hl : m.err = none) (hst : Struct c m) (hft : m.ft ≠ 0) (x : Handle) (hx : hidx x = s.mws.length)
    (hxc : ∀ (i : Nat) (fo : Bool) (derr : Option WErr) (sent : Bytes), x = Handle.flate i fo derr sent →
      ¬ (derr.isSome ∨ fo = false)) :
    Good c (push s m x) := by
  obtain ⟨o, hI, hH, hL⟩ := hg
  have ho : o = false := hL.ofalse ha hwe
  subst ho
  refine ⟨false, hI.of_eq rfl rfl rfl rfl rfl rfl, ⟨?_, ?_, ?_⟩, Or.inl ⟨s.mws.length, m, ?_, hl, ?_, ?_, ?_⟩⟩
  · show (s.handles ++ [x]).length = (s.mws ++ [m]).length
    simp only [List.length_append, List.length_singleton, hH.len]
  · intro h y hy
    show hidx y = h
    have hy' : (s.handles ++ [x])[h]? = some y := hy
    by_cases hh : h < s.handles.length
    · rw [List.getElem?_append_left hh] at hy'
      exact hH.idx h y hy'
    · have hlt := lt_of_getElem? hy'
      simp only [List.length_append, List.length_singleton] at hlt
      have : h = s.handles.length := by omega
      subst this
      rw [List.getElem?_concat_length] at hy'
      cases hy'
      rw [hx, hH.len]
  · -- `HInv.closed`: an old wrapper over an old messageWriter; the new handle is open and has not failed (`hxc`)
    intro h i fo derr sent m' hh hc hm'
    have hh' : (s.handles ++ [x])[h]? = some (Handle.flate i fo derr sent) := hh
    have hm'' : (s.mws ++ [m])[i]? = some m' := hm'
    by_cases hlt : h < s.handles.length
    · rw [List.getElem?_append_left hlt] at hh'
      have hi : i = h := hH.idx h _ hh'
      subst hi
      rw [List.getElem?_append_left (by rw [← hH.len]; exact hlt)] at hm''
      exact hH.closed _ _ _ _ _ _ hh' hc hm''
    · have hlt' := lt_of_getElem? hh'
      simp only [List.length_append, List.length_singleton] at hlt'
      have : h = s.handles.length := by omega
      subst this
      rw [List.getElem?_concat_length] at hh'
      cases hh'
      exact absurd hc (hxc _ _ _ _ rfl)
  · exact List.getElem?_concat_length
  · show some s.handles.length = some s.mws.length
    rw [hH.len]
  · -- the new messageWriter starts a message (`ft ≠ 0`) and no message is open
    exact ⟨fun _ => ⟨hst, fun _ => ⟨fun h => absurd h hft, fun h => by cases h⟩⟩,
      fun he => by rw [hl] at he; cases he⟩
  · -- every other messageWriter is an old one, and those have ended
    intro j m' hj hm'
    have hm'' : (s.mws ++ [m])[j]? = some m' := hm'
    have hlt := lt_of_getElem? hm''
    simp only [List.length_append, List.length_singleton] at hlt
    rw [List.getElem?_append_left (by omega)] at hm''
    exact ha j m' hm''

/-- NextWriter registers the fresh messageWriter: nothing else is live, so no data message is open -/
theorem good_register {c : Cfg} {s : W} (hg : Good c s) (t : Int) (m : MW) (x : Handle) (hw : s.writer = none)
    (he : s.writeErr = none) (ht : ¬ (!isControl t && !isData t) = true)
    (hx : (m = { ft := t.toNat } ∧ x = .plain (ensureBuf s).mws.length) ∨
      (m = { ft := t.toNat, compress := true } ∧ x = .flate (ensureBuf s).mws.length true none [] ∧
        (ensureBuf s).nego = true ∧ isData t = true)) : Good c (push (ensureBuf s) m x) := by
  obtain ⟨hg', hmws, _, hwe, hng⟩ := ensureBuf_good hg
  have ha : AllEnded (ensureBuf s).mws := by
    obtain ⟨o, _, _, hL⟩ := hg
    rw [hmws]; rw [hw] at hL; exact hL.allEnded_none
  obtain ⟨hops, hft0, hdata⟩ := opset_of_type t ht
  rcases hx with ⟨rfl, rfl⟩ | ⟨rfl, rfl, hn, hd⟩
  · exact good_push hg' ha (hwe.trans he) { ft := t.toNat } rfl
      ⟨hops, fun hx => (by cases hx), Nat.zero_le _⟩ hft0 _ rfl (fun i fo derr sent hx => by cases hx)
  · have hcn : c.ng = true := by obtain ⟨o, hI, _⟩ := hg'; rw [← hI.nego]; exact hn
    exact good_push hg' ha (hwe.trans he) { ft := t.toNat, compress := true } rfl
      ⟨hops, fun _ => ⟨hdata hd, hcn⟩, Nat.zero_le _⟩ hft0 _ rfl (fun i fo derr sent hx => by cases hx; simp)


/-! ### the fast path of WriteMessage -/

/-- one final frame from a fresh messageWriter that is never stored -/
theorem good_oneFrame {c : Cfg} {s : W} (m : MW) (extra : Bytes) (hg : Good c s) (ha : AllEnded s.mws)
    (hwe : s.writeErr = none) (hl : m.err = none) (hst : Struct c m) (hft : m.ft ≠ 0)
    (he : extra.length < 2 ^ 40) : Good c (flushFrame s m true extra).2.1 := by
  obtain ⟨o, hI, hH, hL⟩ := hg
  have ho : o = false := hL.ofalse ha hwe
  subst ho
  have hM : MRel c s.writeErr false m :=
    ⟨fun _ => ⟨hst, fun _ => ⟨fun h => absurd h hft, fun h => by cases h⟩⟩, fun h => by rw [hl] at h; cases h⟩
  obtain ⟨⟨o', hI', hM'⟩, hfr, _⟩ := flushFrame_post m true extra hI hM hl he
  have hended := Option.isSome_iff_ne_none.mpr (flushFrame_final_dead s m extra)
  exact ⟨o', hI', by rw [hfr.mws, hfr.handles]; exact hH, Or.inr ⟨by rw [hfr.mws]; exact ha, hM'.2 hended⟩⟩

theorem good_fastpath {c : Cfg} {s : W} (hg : Good c s) (t : Int) (data : Bytes) (hw : s.writer = none)
    (he : s.writeErr = none) (ht : ¬ (!isControl t && !isData t) = true) (hd : data.length < 2 ^ 40) :
    Good c (flushFrame (ensureBuf s) { ft := t.toNat, buf := data.take (min (ensureBuf s).cap data.length) } true
      (data.drop (min (ensureBuf s).cap data.length))).2.1 := by
  obtain ⟨hg', hmws, _, hwe, _⟩ := ensureBuf_good hg
  have ha : AllEnded (ensureBuf s).mws := by
    obtain ⟨o, _, _, hL⟩ := hg
    rw [hmws]; rw [hw] at hL; exact hL.allEnded_none
  obtain ⟨hops, hft0, _⟩ := opset_of_type t ht
  obtain ⟨o, hI, _, _⟩ := id hg'
  have hcap : (ensureBuf s).cap = c.L - maxFrameHeaderSize := by unfold W.cap; rw [hI.len]
  refine good_oneFrame _ _ hg' ha (hwe.trans he) rfl ⟨hops, fun hx => (by cases hx), ?_⟩ hft0 ?_
  · show (data.take (min (ensureBuf s).cap data.length)).length ≤ _
    rw [List.length_take, hcap]; exact Nat.le_trans (Nat.min_le_left _ _) (Nat.min_le_left _ _)
  · rw [List.length_drop]; exact Nat.lt_of_le_of_lt (Nat.sub_le _ _) hd


/-! ### single `Conn.write`s: control frames and prepared images -/

theorem MRel.mono {c : Cfg} {we we' : Option WErr} {o : Bool} {m : MW} (h : MRel c we o m)
    (hw : we' = none → we = none) : MRel c we' o m :=
  ⟨fun hl => ⟨(h.1 hl).1, fun hx => (h.1 hl).2 (hw hx)⟩, fun he hx => h.2 he (hw hx)⟩

theorem LiveC.mono {c : Cfg} {mws : List MW} {w : Option Nat} {we we' : Option WErr} {o : Bool}
    (h : LiveC c mws w we o) (hw : we' = none → we = none) : LiveC c mws w we' o := by
  rcases h with ⟨i, m, h1, h2, h3, h4, h5⟩ | ⟨h1, h2⟩
  · exact Or.inl ⟨i, m, h1, h2, h3, h4.mono hw, h5⟩
  · exact Or.inr ⟨h1, fun hx => h2 (hw hx)⟩

theorem connWrite_we (s : W) (ft d : Int) (b0 b1 : Bytes) :
    (connWrite s ft d b0 b1).2.writeErr = none → s.writeErr = none := by
  intro h
  cases hs : s.writeErr with
  | none => rfl
  | some e =>
    rw [connWrite_of_err s ft d b0 b1 e hs] at h
    rw [hs] at h; cases h

theorem good_connWrite {c : Cfg} {s : W} (ft d : Int) (b0 b1 : Bytes) (gs : List Frame) (hg : Good c s)
    (hgs : s.writeErr = none → decodeStream (b0 ++ b1) = some gs ∧ (∀ f ∈ gs, frameOk c.ctx f = true) ∧
      ∀ o, LiveC c s.mws s.writer s.writeErr o → grammar o gs = true ∧ endsInMsg o gs = o) :
    Good c (connWrite s ft d b0 b1).2 := by
  obtain ⟨o, hI, hH, hL⟩ := hg
  obtain ⟨hI', _, _⟩ := connWrite_inn ft d b0 b1 gs o hI
    (fun hn => ⟨(hgs hn).1, (hgs hn).2.1, ((hgs hn).2.2 o hL).1, ((hgs hn).2.2 o hL).2⟩)
  have hfx := connWrite_fixed s ft d b0 b1
  have hwr := PoolInv.key_writer (connWrite_key s ft d b0 b1)
  refine ⟨o, hI', by rw [W.fixed_mws hfx, W.fixed_handles hfx]; exact hH, ?_⟩
  rw [W.fixed_mws hfx, hwr]
  exact hL.mono (connWrite_we s ft d b0 b1)

theorem grammar_ctl (sv o : Bool) (t : Nat) (key : Key) (data : Bytes) (ht : t = 8 ∨ t = 9 ∨ t = 10) :
    grammar o [frameOf sv (t + 128) key data] = true ∧ endsInMsg o [frameOf sv (t + 128) key data] = o := by
  have := grammar_frameOf sv o t true false key data (Or.inr (Or.inr (Or.inr ht))) (fun h => absurd ht h)
  rw [if_pos ht] at this
  exact this

theorem frameOk_ctl (sv ng : Bool) (t : Nat) (key : Key) (data : Bytes) (ht : t = 8 ∨ t = 9 ∨ t = 10)
    (hd : data.length ≤ 125) : frameOk ⟨!sv, ng⟩ (frameOf sv (t + 128) key data) = true :=
  frameOk_frameOf sv ng t true false key data (Or.inr (Or.inr (Or.inr ht))) (fun h => by cases h) (fun _ => ⟨rfl, hd⟩)

theorem good_ctl {c : Cfg} {s : W} (ft d : Int) (t : Nat) (key : Key) (data : Bytes) (hg : Good c s)
    (ht : t = 8 ∨ t = 9 ∨ t = 10) (hd : data.length ≤ 125) :
    Good c (connWrite s ft d (encode c.sv (t + 128) key data) []).2 := by
  refine good_connWrite ft d _ [] [frameOf c.sv (t + 128) key data] hg (fun _ => ⟨?_, ?_, ?_⟩)
  · rw [List.append_nil]
    exact decodeStream_encode _ _ _ _ (by omega) (by omega)
  · intro f hf
    rw [List.mem_singleton] at hf
    subst hf
    exact frameOk_ctl c.sv c.ng t key data ht hd
  · intro o _
    exact grammar_ctl c.sv o t key data ht

theorem good_dataWrite {c : Cfg} {s : W} (t d : Int) (img : Bytes) (gs : List Frame) (hg : Good c s)
    (hdec : decodeStream img = some gs) (hwf : WellFormed c.ctx gs) (hend : endsInMsg false gs = false)
    (ha : AllEnded s.mws) : Good c (connWrite s t d img []).2 := by
  refine good_connWrite _ _ _ [] gs hg (fun hn => ⟨by rw [List.append_nil]; exact hdec, hwf.1, ?_⟩)
  intro o hL
  have ho : o = false := hL.ofalse ha hn
  subst ho
  exact ⟨hwf.2, hend⟩

theorem Good.move {c : Cfg} {s s' : W} (hg : Good c s)
    (mv : Move Small (ImgControl c.sv) (ImgData c.sv c.ng) CloseEnvOK s s') : Good c s' := by
  induction mv with
  | refl s => exact hg
  | trans _ _ ih1 ih2 => exact ih2 (ih1 hg)
  | silent h =>
    exact hg.congr h.fr.isv h.fr.nego h.fr.len h.fr.flt h.wire h.err h.fr.mws h.fr.handles (PoolInv.key_writer h.key)
  | write s h p dn a hp hdn => exact (hg.hcall (hWrite_hcall s h p dn a hp hdn)).1
  | readFrom s h r => exact (hg.hcall (hReadFrom_hcall s h r)).1
  | close s h dn full hdn henv => exact (hClose_good h dn full hg hdn henv).1
  | closePrev s dnp fullp hdn henv => exact (closePrev_good dnp fullp hg hdn henv).1
  | register s t m x hw he ht hx => exact good_register hg t m x hw he ht hx
  | fast s t data hw he ht hd => exact good_fastpath hg t data hw he ht hd
  | ctl s ft d b hb =>
    obtain ⟨t', key, data, ht', hd, rfl⟩ := hb
    exact good_ctl ft d t' key data hg ht' hd
  | data s ft d b hb hw =>
    obtain ⟨gs, hdec, hwf, hend, _, _⟩ := hb
    refine good_dataWrite ft d b gs hg hdec hwf hend ?_
    rcases hw with hw | hno
    · obtain ⟨o, _, _, hL⟩ := hg
      rw [hw] at hL; exact hL.allEnded_none
    · exact allEnded_iff_noOpenWriter.mpr hno

end WS.WFInv
