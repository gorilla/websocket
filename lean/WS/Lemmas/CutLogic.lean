import WS.Lemmas.ReaderMore
import WS.Lemmas.CutLoops
/-
  C05 (message level): a message cut at any offset strictly inside it is never reported complete,
  whatever read limit is in force. `WS.CutAnyLimit`: the theorem. `WS.CutLogic`: `Outcome` / `openAndRead`
  ("open the next message and read it to the end"), the forms without a read limit, the counterexample
  with 999 failed calls counted, the whole-message counterpart.
-/
namespace WS.CutLogic
open WS

/-- the outcome of "open the next message and read it to the end with reads of size k" -/
inductive Outcome
  | complete (t : Nat) (payload : Bytes)      -- NextReader ok, reader returned io.EOF after `payload`
  | failedOpen (e : RErr)                     -- NextReader returned an error
  | failedRead (t : Nat) (got : Bytes) (e : RErr)  -- NextReader ok, the reader returned error `e` after `got`
  | panicked

def openAndRead (c : Conn) (k : Nat) : Outcome :=
  match nextReader c with
  | (.msg t rid _, c1) =>
    match readAll c1 rid k with
    | ((bs, none), _) => .complete t bs
    | ((bs, some e), _) => .failedRead t bs e
  | (.err e, _) => .failedOpen e
  | (.panic, _) => .panicked

theorem openAndRead_err (c : Conn) (k : Nat) (e : RErr) (c1 : Conn) (h : nextReader c = (.err e, c1)) :
    openAndRead c k = .failedOpen e := by
  unfold openAndRead
  rw [h]

theorem openAndRead_panic (c : Conn) (k : Nat) (c1 : Conn) (h : nextReader c = (.panic, c1)) :
    openAndRead c k = .panicked := by
  unfold openAndRead
  rw [h]

theorem openAndRead_failed (c : Conn) (k t rid : Nat) (z : Bool) (c1 c2 : Conn) (got : Bytes) (e : RErr)
    (h : nextReader c = (.msg t rid z, c1)) (h2 : readAll c1 rid k = ((got, some e), c2)) :
    openAndRead c k = .failedRead t got e := by
  unfold openAndRead
  rw [h]
  simp only []
  rw [h2]

theorem openAndRead_complete (c : Conn) (k t rid : Nat) (z : Bool) (c1 c2 : Conn) (got : Bytes)
    (h : nextReader c = (.msg t rid z, c1)) (h2 : readAll c1 rid k = ((got, none), c2)) :
    openAndRead c k = .complete t got := by
  unfold openAndRead
  rw [h]
  simp only []
  rw [h2]

end WS.CutLogic

namespace WS.CutAnyLimit
open WS WS.Codec WS.ReaderDecodes WS.CutLogic WS.ReaderMore

/-- C05 for any read limit (positive, zero or negative): with a limit the failure may be ErrReadLimit
    instead of the transport's error -/
theorem cut_never_complete_any_limit (c : Conn) (hc : ReaderIdle c) (t : Nat) (ht : t = 1 ∨ t = 2)
    (fs : List PFrame)
    (hs : MsgShape t fs) (cut : Nat) (hcut : cut < (encAll c.r.isServer fs).length)
    (hp : c.r.buf.pending = (encAll c.r.isServer fs).take cut)
    (hsz : (dataPayload fs).length < 2 ^ 62)
    (k : Nat) (hk : 0 < k) :
    (∃ e, openAndRead c k = .failedOpen e ∧ c.r.errCount + 1 < 1000) ∨
    (∃ got e, openAndRead c k = .failedRead t got e ∧ e ≠ .eof ∧ got <+: dataPayload fs) ∨
    (1000 ≤ c.r.errCount + 1 ∧ openAndRead c k = .panicked) := by
  have hl : WS.CutLoopsL.LenOv (WS.RobustAux.c0 c) (dataPayload fs).length := by
    show (0 : Int) + ((dataPayload fs).length : Int) < 9223372036854775808
    omega
  have hi : WS.CutLoopsL.CIdle c.r.isServer t (WS.RobustAux.c0 c) fs cut :=
    ⟨.ofIdle hc, rfl, hc.noErr, hc.rem, hc.fin, Int.le_refl 0, hp, hcut, hs, hl⟩
  rcases WS.CutLoopsL.nextReader_cut c.r.isServer t ht c fs cut hi with
    ⟨c1, rid, w1, m1, n1, h1, h2, h3, h4, h5⟩ | ⟨e, c1, h1, h2⟩ | ⟨c1, h1, h2⟩
  · right; left
    obtain ⟨got, e, c2, d1, d2, d3⟩ :=
      WS.CutLoopsL.readAllLoop_cut c.r.isServer rid k hk (c1.fuel + 2) c1 w1 m1 n1 [] h2 h3 h4
    refine ⟨got, e, ?_, d2, by rw [← h5]; exact d3⟩
    apply openAndRead_failed c k t rid false c1 c2 got e h1
    unfold readAll
    rw [d1]
    simp
  · left
    exact ⟨e, openAndRead_err c k e c1 h1, h2⟩
  · right; right
    exact ⟨h2, openAndRead_panic c k c1 h1⟩

end WS.CutAnyLimit

namespace WS.CutLogic
open WS WS.Codec WS.SrcLaw WS.ReaderDecodes

/-
  Without `hec`, `cut_never_complete_partial` below is FALSE (`cut_never_complete_counterexample`): `ReaderIdle`
  does not bound the failed-call counter, and with `errCount = 999` the cut makes NextReader fail for the 1000th
  time and panic ("repeated read on failed websocket connection"). In Go the counter only grows once `readErr`
  is set, so that state is not reachable (`ReaderMore.CountInv`).
-/

def cxF : PFrame := { op := 1, fin := true, key := default, payload := [1, 2, 3] }

def cxC : Conn :=
  { w := { isServer := false, wbufLen := 0, pool := false, nego := false },
    r := { isServer := false, nego := false, errCount := 999,
           buf := { size := 4096, t := { chunks := [[129]], term := .eof }, total := 1 } } }

theorem cut_never_complete_counterexample :
    ReaderIdle cxC ∧ MsgShape 1 [cxF] ∧ 1 < (encAll cxC.r.isServer [cxF]).length ∧
    cxC.r.buf.pending = (encAll cxC.r.isServer [cxF]).take 1 ∧ (dataPayload [cxF]).length < 2 ^ 62 ∧
    cxC.r.limit ≤ 0 ∧ openAndRead cxC 1 = .panicked := by
  refine ⟨⟨rfl, rfl, rfl, ⟨by decide, by decide, ?_, ?_⟩, by decide, by decide, ?_, ?_⟩, ?_, by decide, by decide,
    by decide, by decide, rfl⟩
  · intro c hc
    have : c = [129] := by simpa [cxC] using hc
    rw [this]; exact List.cons_ne_nil _ _
  · intro e he; cases he
  · intro id h; cases h
  · intro id h; cases h
  · exact MsgShape.single cxF rfl rfl (by decide)

/-- C05 (general form): the transport ends (EOF, error or timeout; alone or together with the last
    bytes) strictly inside a conformant message, at any byte offset `cut`, for any chunking, buffer size
    and read size; the message is never reported complete. `hlim` is not used. -/
theorem cut_never_complete_or_panic_partial (c : Conn) (hc : ReaderIdle c) (t : Nat) (ht : t = 1 ∨ t = 2)
    (fs : List PFrame)
    (hs : MsgShape t fs) (cut : Nat) (hcut : cut < (encAll c.r.isServer fs).length)
    (hp : c.r.buf.pending = (encAll c.r.isServer fs).take cut)
    (hsz : (dataPayload fs).length < 2 ^ 62) (hlim : c.r.limit ≤ 0)
    (k : Nat) (hk : 0 < k) :
    (∃ e, openAndRead c k = .failedOpen e ∧ c.r.errCount + 1 < 1000) ∨
    (∃ got e, openAndRead c k = .failedRead t got e ∧ e ≠ .eof ∧ got <+: dataPayload fs) ∨
    (1000 ≤ c.r.errCount + 1 ∧ openAndRead c k = .panicked) :=
  WS.CutAnyLimit.cut_never_complete_any_limit c hc t ht fs hs cut hcut hp hsz k hk

/-- C05 without the panic alternative: by `hec` the reader is not one failed call away from the panic -/
theorem cut_never_complete_partial (c : Conn) (hc : ReaderIdle c) (t : Nat) (ht : t = 1 ∨ t = 2) (fs : List PFrame)
    (hs : MsgShape t fs) (cut : Nat) (hcut : cut < (encAll c.r.isServer fs).length)
    (hp : c.r.buf.pending = (encAll c.r.isServer fs).take cut)
    (hsz : (dataPayload fs).length < 2 ^ 62) (hlim : c.r.limit ≤ 0)
    (hec : c.r.errCount + 1 < 1000)
    (k : Nat) (hk : 0 < k) :
    (∃ e, openAndRead c k = .failedOpen e) ∨
    (∃ got e, openAndRead c k = .failedRead t got e ∧ e ≠ .eof ∧ got <+: dataPayload fs) := by
  rcases cut_never_complete_or_panic_partial c hc t ht fs hs cut hcut hp hsz hlim k hk with
    ⟨e, h1, _⟩ | h | ⟨h1, _⟩
  · exact Or.inl ⟨e, h1⟩
  · exact Or.inr h
  · omega

/-- the counterpart of C05: the whole message arrived, the terminal error comes after the last byte (`htog`) -/
theorem whole_message_then_error (c : Conn) (hc : ReaderIdle c) (t : Nat) (ht : t = 1 ∨ t = 2) (fs : List PFrame)
    (hs : MsgShape t fs)
    (hp : c.r.buf.pending = encAll c.r.isServer fs) (htog : c.r.buf.t.together = false)
    (hsz : (dataPayload fs).length < 2 ^ 62) (hlim : c.r.limit ≤ 0)
    (k : Nat) (hk : 0 < k) :
    openAndRead c k = .complete t (dataPayload fs) := by
  obtain ⟨c1, rid, h1, c2, h2, _⟩ := read_message c hc t ht fs hs [] (by rw [hp]; simp) (Or.inl htog) hsz
    (Or.inl hlim) k hk
  exact openAndRead_complete c k t rid false c1 c2 _ h1 h2

end WS.CutLogic
