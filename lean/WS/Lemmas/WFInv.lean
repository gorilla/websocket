import WS.Lemmas.WFSpec
import WS.Lemmas.Transport
/-
  State invariant behind C02 at frame level, part one: the connection and one messageWriter copy.
  `Inn c s o`: the wire of `s` decodes to a well-formed frame list whose fragmentation state (`endsInMsg`) is `o`
  (`o` = a data message is open at the end of the wire); `MRel` ties a messageWriter copy to `o`.  Both are
  carried through every step of the messageWriter-level functions (`MWStep.post`).  Handles and the write API
  follow in WFOps.lean.
-/
namespace WS.WFInv
open WS WS.Spec WS.Codec WS.WFSpec

structure Cfg where
  sv : Bool
  ng : Bool
  L : Nat
  F : List (Nat × Fault)

def Cfg.ctx (c : Cfg) : Ctx := ⟨!c.sv, c.ng⟩

/-- Frame lengths must stay below 2^63 (the strict decoder rejects a 64-bit length with the top bit set); a frame
    carries the buffer (below 2^40, `Inn.hi`) and one more payload, so any bound well below 2^62 would do. -/
abbrev Small (b : Bytes) : Prop := b.length < 2 ^ 40

/-- the wire, possibly completed by the unsent rest of a failed write, decodes to well-formed frames;
    `o` = a data message is open at the end -/
def WOK (c : Cfg) (wire : Bytes) (we : Option WErr) (o : Bool) : Prop :=
  ∃ (more : Bytes) (fs : List Frame), decodeStream (wire ++ more) = some fs ∧ WellFormed c.ctx fs ∧
    ((we = none ∨ c.F = []) → more = []) ∧ (we = none → endsInMsg false fs = o)

theorem WOK.of_some {c : Cfg} {w : Bytes} {e : WErr} {o o' : Bool} (h : WOK c w (some e) o) :
    WOK c w (some e) o' := by
  obtain ⟨more, fs, h1, h2, h3, _⟩ := h
  exact ⟨more, fs, h1, h2, h3, fun h => by cases h⟩

theorem WOK.to_some {c : Cfg} {w : Bytes} {o o' : Bool} (e : WErr) (h : WOK c w none o) :
    WOK c w (some e) o' := by
  obtain ⟨more, fs, h1, h2, h3, _⟩ := h
  exact ⟨more, fs, h1, h2, fun _ => h3 (Or.inl rfl), fun h => by cases h⟩

structure Inn (c : Cfg) (s : W) (o : Bool) : Prop where
  isv : s.isServer = c.sv
  nego : s.nego = c.ng
  len : s.wbufLen = c.L
  flt : s.faults = c.F
  lo : maxFrameHeaderSize < c.L
  hi : c.L < 2 ^ 40
  wire : WOK c s.wire s.writeErr o

theorem Inn.fr {c : Cfg} {s s' : W} {o o' : Bool} (h : Inn c s o) (f : Fr s s')
    (hw : WOK c s'.wire s'.writeErr o') : Inn c s' o' :=
  ⟨f.isv.trans h.isv, f.nego.trans h.nego, f.len.trans h.len, f.flt.trans h.flt, h.lo, h.hi, hw⟩

theorem Inn.same {c : Cfg} {s s' : W} {o : Bool} (h : Inn c s o) (f : Fr s s')
    (h1 : s'.wire = s.wire) (h2 : s'.writeErr = s.writeErr) : Inn c s' o :=
  h.fr f (by rw [h1, h2]; exact h.wire)

theorem Inn.reo {c : Cfg} {s : W} {o o' : Bool} (h : Inn c s o) (he : s.writeErr.isSome) : Inn c s o' := by
  refine h.fr (Fr.refl s) ?_
  have := h.wire
  cases hx : s.writeErr with
  | none => rw [hx] at he; cases he
  | some e => rw [hx] at this; exact this.of_some

theorem Inn.writeFatal {c : Cfg} {s : W} {o o' : Bool} (e : WErr) (h : Inn c s o) :
    Inn c (writeFatal s e) o' := by
  unfold WS.writeFatal
  split
  · rename_i hn
    refine h.fr ⟨rfl, rfl, rfl, rfl, rfl, rfl⟩ ?_
    have := h.wire
    rw [hn] at this
    exact this.to_some e
  · rename_i e' hs
    exact h.reo (by rw [hs]; rfl)

theorem Inn.of_fixed_core {c : Cfg} {s s' : W} {o : Bool} (h : Inn c s o) (hf : s'.fixed = s.fixed)
    (hc : s'.core = s.core) : Inn c s' o :=
  h.same (.of_fixed hf) (core_wire hc) (core_writeErr hc)

theorem Inn.wrote {c : Cfg} {s : W} {o : Bool} {f : Bytes} {cl : Bool} {r : Option WErr × W} (h : Inn c s o)
    (hn : s.writeErr = none) (hw : Wrote s f cl r) (gs : List Frame) (o1 : Bool)
    (hdec : decodeStream f = some gs) (hfok : ∀ g ∈ gs, frameOk c.ctx g = true) (hgr : grammar o gs = true)
    (hend : endsInMsg o gs = o1) : Inn c r.2 o1 := by
  have hw0 := h.wire
  rw [hn] at hw0
  obtain ⟨more, fs, hd0, hwf0, hm0, ho0⟩ := hw0
  have hmore : more = [] := hm0 (Or.inl rfl)
  subst hmore
  rw [List.append_nil] at hd0
  have ho : endsInMsg false fs = o := ho0 rfl
  have hwfall : WellFormed c.ctx (fs ++ gs) := WFSpec.WellFormed.append hwf0 hfok (by rw [ho]; exact hgr)
  obtain ⟨p, q, hpq, hwire, hq⟩ := hw.sent
  refine h.fr (.of_fixed hw.fixed) ?_
  rw [hwire]
  cases hr : r.1 with
  | none =>
    rw [hq hr, List.append_nil] at hpq
    subst hpq
    exact ⟨[], fs ++ gs, by rw [List.append_nil]; exact decodeStream_append hd0 hdec, hwfall, fun _ => rfl,
      fun _ => by rw [endsInMsg_append, ho]; exact hend⟩
  | some e =>
    have hF : c.F ≠ [] := by
      have := hw.fault (by rw [hr]; rfl)
      rwa [h.flt] at this
    rw [hw.err e hr]
    exact ⟨q, fs ++ gs, by rw [List.append_assoc, hpq]; exact decodeStream_append hd0 hdec, hwfall,
      fun hh => hh.elim (fun h => by cases h) (fun h => absurd h hF), fun hh => by cases hh⟩

theorem connWrite_inn {c : Cfg} {s : W} {o : Bool} (ft d : Int) (b0 b1 : Bytes) (gs : List Frame) (o1 : Bool)
    (h : Inn c s o)
    (hg : s.writeErr = none → decodeStream (b0 ++ b1) = some gs ∧ (∀ f ∈ gs, frameOk c.ctx f = true) ∧
      grammar o gs = true ∧ endsInMsg o gs = o1) :
    Inn c (connWrite s ft d b0 b1).2 o1 ∧
    ((connWrite s ft d b0 b1).1.isSome → (connWrite s ft d b0 b1).2.writeErr.isSome) ∧
    ((connWrite s ft d b0 b1).1 = none → s.writeErr = none) := by
  cases hn : s.writeErr with
  | some e =>
    rw [connWrite_of_err s ft d b0 b1 e hn]
    exact ⟨h.reo (by rw [hn]; rfl), fun _ => by rw [hn]; rfl, fun hx => by cases hx⟩
  | none =>
    obtain ⟨hdec, hfok, hgr, hend⟩ := hg hn
    have hw := (connWrite_spec s ft d b0 b1 hn).1
    refine ⟨h.wrote hn hw gs o1 hdec hfok hgr hend, fun he => ?_, fun _ => rfl⟩
    obtain ⟨e, he'⟩ := Option.isSome_iff_exists.mp he
    rw [hw.err e he']; rfl

def Struct (c : Cfg) (m : MW) : Prop :=
  OpSet m.ft ∧ (m.compress = true → (m.ft = 1 ∨ m.ft = 2) ∧ c.ng = true) ∧
    m.buf.length ≤ c.L - maxFrameHeaderSize

def MRel (c : Cfg) (we : Option WErr) (o : Bool) (m : MW) : Prop :=
  (m.err = none → Struct c m ∧ (we = none → (m.ft = 0 ↔ o = true))) ∧
  (m.err.isSome → we = none → o = false)

/-- connection `s'` and copy `m'` after work that started from connection `s` -/
def Post (c : Cfg) (s s' : W) (m' : MW) : Prop :=
  (∃ o', Inn c s' o' ∧ MRel c s'.writeErr o' m') ∧ Fr s s' ∧ (m'.err = none → s'.writer = s.writer)

theorem Post.refl {c : Cfg} {s : W} {o : Bool} {m : MW} (h : Inn c s o) (hm : MRel c s.writeErr o m) :
    Post c s s m := ⟨⟨o, h, hm⟩, Fr.refl s, fun _ => rfl⟩

theorem Post.trans {c : Cfg} {s s1 s2 : W} {m1 m2 : MW} (h1 : Post c s s1 m1) (h2 : Post c s1 s2 m2)
    (hl : m2.err = none → m1.err = none) : Post c s s2 m2 :=
  ⟨h2.1, h1.2.1.trans h2.2.1, fun h => (h2.2.2 h).trans (h1.2.2 (hl h))⟩

theorem post_end {c : Cfg} {s s1 : W} {o1 : Bool} (m1 : MW) (e : WErr) (h1 : Inn c s1 o1) (hf : Fr s s1)
    (ho : s1.writeErr = none → o1 = false) : Post c s (endMessage s1 m1 e).1 (endMessage s1 m1 e).2 := by
  have hc := endMessage_core s1 m1 e
  have hfx := endMessage_fixed s1 m1 e
  have hme := endMessage_dead s1 m1 e
  exact ⟨⟨o1, h1.of_fixed_core hfx hc, fun hx => absurd hx hme, fun _ hx => ho (core_writeErr hc ▸ hx)⟩,
    hf.trans (.of_fixed hfx), fun hx => absurd hx hme⟩

theorem frameWrite_inn {c : Cfg} {s : W} {o : Bool} (m : MW) (final : Bool) (extra : Bytes) (h : Inn c s o)
    (hst : Struct c m) (hrel : s.writeErr = none → (m.ft = 0 ↔ o = true)) (he : extra.length < 2 ^ 40)
    (hctl : IsCtl m.ft → final = true ∧ m.buf.length + extra.length ≤ 125) :
    Inn c (frameWrite s m final extra).2 (if m.ft = 8 ∨ m.ft = 9 ∨ m.ft = 10 then o else !final) ∧
    ((frameWrite s m final extra).1.isSome → (frameWrite s m final extra).2.writeErr.isSome) ∧
    ((frameWrite s m final extra).1 = none → s.writeErr = none) := by
  obtain ⟨hft, hcomp, hbuf⟩ := hst
  cases hn : s.writeErr with
  | some e =>
    have hs : s.writeErr.isSome := by rw [hn]; rfl
    obtain ⟨h1, hc⟩ := frameWrite_of_err s m final extra hs
    have hs' := isSome_of_core hc hs
    exact ⟨(h.of_fixed_core (frameWrite_fixed ..) hc).reo hs', fun _ => hs', fun hx => by rw [hx] at h1; cases h1⟩
  | none =>
    by_cases hx : s.isServer = true ∨ extra = []
    · obtain ⟨hw, _⟩ := frameWrite_spec s m final extra hn hx
      have hL := h.hi
      have hg := grammar_frameOf s.isServer o m.ft final m.compress (KeyFlow.keyOf s.keys s.keyIdx) (m.buf ++ extra)
        hft (fun _ => hrel hn)
      have hok : frameOk c.ctx (frameOf s.isServer (b0Of m.ft final m.compress) (KeyFlow.keyOf s.keys s.keyIdx)
          (m.buf ++ extra)) = true := by
        unfold Cfg.ctx
        rw [← h.isv]
        exact frameOk_frameOf s.isServer c.ng m.ft final m.compress _ _ hft hcomp
          (fun hc => by rw [List.length_append]; exact hctl hc)
      refine ⟨h.wrote hn hw _ _ (decodeStream_encode _ _ _ _ (b0Of_lt m.ft final m.compress hft)
        (by rw [List.length_append]; omega)) (fun f hf => ?_) hg.1 hg.2, fun he => ?_, fun _ => rfl⟩
      · rw [List.mem_singleton] at hf
        subst hf
        exact hok
      · obtain ⟨e, he'⟩ := Option.isSome_iff_exists.mp he
        rw [hw.err e he']; rfl
    · -- a client asked to send a second buffer: internal error, nothing is written
      have hsv : s.isServer = false := by simpa using fun h => hx (Or.inl h)
      have hex : (!extra.isEmpty) = true := by simpa using fun h => hx (Or.inr h)
      unfold frameWrite
      simp only [hsv, hex, Bool.false_eq_true, if_false, if_true]
      exact ⟨(h.of_fixed_core (s' := (newKey s).2) rfl rfl).writeFatal _, fun _ => writeFatal_isSome _ _,
        fun hx => by cases hx⟩

/-- Proved on `flushFrame` as a whole and not as an `MWInv`: between `frameWrite` and the reset of the copy `MRel`
    does not hold, and that a control frame is final and short is checked by `flushFrame`, not by `frameWrite`. -/
theorem flushFrame_post {c : Cfg} {s : W} {o : Bool} (m : MW) (final : Bool) (extra : Bytes) (h : Inn c s o)
    (hm : MRel c s.writeErr o m) (hl : m.err = none) (he : extra.length < 2 ^ 40) :
    Post c s (flushFrame s m final extra).2.1 (flushFrame s m final extra).2.2 := by
  obtain ⟨hst, hrel⟩ := hm.1 hl
  have hctlIff := isControl_cast m.ft
  have hmc : maxControlPayload = 125 := by decide
  have hoctl : IsCtl m.ft → s.writeErr = none → o = false := by
    intro hctl hn
    have := hrel hn
    unfold IsCtl at hctl
    cases o with
    | false => rfl
    | true => have := this.mpr rfl; omega
  unfold flushFrame
  split
  · rename_i hc
    simp only [Bool.and_eq_true] at hc
    exact post_end m .invalidControl h (Fr.refl s) (hoctl (hctlIff.mp hc.1))
  · rename_i hc
    have hctl : IsCtl m.ft → final = true ∧ m.buf.length + extra.length ≤ 125 := by
      intro hx
      have h1 := hctlIff.mpr hx
      rw [h1, hmc] at hc
      simp at hc
      exact hc
    have hfw := frameWrite_inn m final extra h hst hrel he hctl
    have hq : Fr s (frameWrite s m final extra).2 := .of_fixed (frameWrite_fixed ..)
    have hwr := PoolInv.key_writer (frameWrite_key s m final extra)
    split
    · rename_i e s' heq
      rw [heq] at hfw hq
      obtain ⟨f1, f4, _⟩ := hfw
      exact post_end { m with compress := false } e f1 hq
        (fun hn => by have := f4 rfl; rw [hn] at this; cases this)
    · rename_i s' heq
      rw [heq] at hfw hq hwr
      obtain ⟨f1, _, f5⟩ := hfw
      dsimp only at f1 f5 hq hwr
      have hsn := f5 rfl
      split
      · rename_i hfin
        refine post_end { m with compress := false } .writeClosed f1 hq (fun _ => ?_)
        split
        · rename_i hx; exact hoctl hx hsn
        · rw [hfin]; rfl
      · rename_i hfin
        have hnc : ¬ (m.ft = 8 ∨ m.ft = 9 ∨ m.ft = 10) := fun hx => hfin (hctl hx).1
        rw [if_neg hnc] at f1
        have hff : final = false := by simpa using hfin
        refine ⟨⟨_, f1, fun _ => ?_, fun hx => ?_⟩, hq, fun _ => hwr⟩
        · refine ⟨⟨Or.inl rfl, fun hx => (by cases hx), Nat.zero_le _⟩, fun _ => ?_⟩
          rw [hff]; simp
        · have : ({ m with compress := false, buf := [], ft := 0 } : MW).err = none := hl
          rw [this] at hx; cases hx

theorem MRel.setBuf {c : Cfg} {we : Option WErr} {o : Bool} {m : MW} (hm : MRel c we o m) (b : Bytes)
    (hb : b.length ≤ c.L - maxFrameHeaderSize) : MRel c we o { m with buf := b } :=
  ⟨fun hl => ⟨⟨(hm.1 hl).1.1, (hm.1 hl).1.2.1, hb⟩, (hm.1 hl).2⟩, hm.2⟩

theorem _root_.WS.MWStep.post {c : Cfg} {s s' : W} {m m' : MW} {o : Bool} (st : MWStep Small s m s' m')
    (h : Inn c s o) (hm : MRel c s.writeErr o m) : Post c s s' m' := by
  induction st generalizing o with
  | refl s m => exact Post.refl h hm
  | buf s m chunk hl hc =>
    have hcap : s.cap = c.L - maxFrameHeaderSize := by unfold W.cap; rw [h.len]
    have := (hm.1 hl).1.2.2
    exact Post.refl h (hm.setBuf _ (by rw [List.length_append]; omega))
  | flush s m final extra hl he =>
    refine flushFrame_post m final extra h hm hl ?_
    rcases he with rfl | he
    · exact Nat.two_pow_pos 40
    · exact he
  | trans _ st2 ih1 ih2 =>
    have h1 := ih1 h hm
    obtain ⟨⟨o1, hI1, hM1⟩, _, _⟩ := id h1
    exact h1.trans (ih2 hI1 hM1) st2.was_live

end WS.WFInv
