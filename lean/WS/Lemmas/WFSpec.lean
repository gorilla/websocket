import WS.Lemmas.Stream
/-
  Spec-level lemmas for C02 (frame level): whole-frame streams concatenate, `decodePrefixAux` of a prefix is a
  prefix, the fragmentation grammar composes over `++`, and the frames the writer builds satisfy `frameOk` and
  the grammar, opcode class by opcode class (control 8, 9, 10; first data frame 1, 2; continuation 0).
-/
namespace WS.WFSpec
open WS WS.Spec WS.Codec

theorem decodeFrame_ne_nil {a r : Bytes} {f : Frame} (h : decodeFrame a = some (f, r)) : a ≠ [] := by
  intro ha; subst ha; simp [decodeFrame] at h

theorem decodeStream_append {a b : Bytes} {fs gs : List Frame} (ha : decodeStream a = some fs)
    (hb : decodeStream b = some gs) : decodeStream (a ++ b) = some (fs ++ gs) := by
  rw [Stream.decodeStream_append a b fs ha, hb]; rfl

theorem decodePrefixAux_prefix (x : Bytes) :
    ∀ (n : Nat) (a : Bytes) (m : Nat) (fs : List Frame), decodeStreamAux m (a ++ x) = some fs →
      decodePrefixAux n a <+: fs := by
  intro n
  induction n with
  | zero => intro a m fs _; simp [decodePrefixAux]
  | succ n ih =>
    intro a m fs h
    simp only [decodePrefixAux]
    cases hd : decodeFrame a with
    | none => simp
    | some p =>
      obtain ⟨f, r⟩ := p
      simp only []
      have hmono := Stream.decodeFrame_append x hd
      have hne := decodeFrame_ne_nil hd
      cases a with
      | nil => exact absurd rfl hne
      | cons y a =>
        simp only [List.cons_append] at h hmono
        cases m with
        | zero => simp [decodeStreamAux] at h
        | succ m =>
          simp only [decodeStreamAux, hmono, Option.map_eq_some_iff] at h
          obtain ⟨fs', hfs', rfl⟩ := h
          exact List.cons_prefix_cons.mpr ⟨rfl, ih r m fs' hfs'⟩

theorem grammar_append (o : Bool) (fs gs : List Frame) :
    grammar o (fs ++ gs) = (grammar o fs && grammar (endsInMsg o fs) gs) := by
  induction fs generalizing o with
  | nil => simp [grammar, endsInMsg]
  | cons f fs ih =>
    simp only [List.cons_append, grammar, endsInMsg]
    split
    · exact ih o
    · split
      · rw [ih, Bool.and_assoc]
      · rw [ih, Bool.and_assoc]

theorem endsInMsg_append (o : Bool) (fs gs : List Frame) :
    endsInMsg o (fs ++ gs) = endsInMsg (endsInMsg o fs) gs := by
  induction fs generalizing o with
  | nil => simp [endsInMsg]
  | cons f fs ih =>
    simp only [List.cons_append, endsInMsg]
    split
    · exact ih o
    · exact ih _

theorem WellFormed.prefix {ctx : Ctx} {fs gs : List Frame} (h : WellFormed ctx gs) (hp : fs <+: gs) :
    WellFormed ctx fs := by
  obtain ⟨t, rfl⟩ := hp
  obtain ⟨h1, h2⟩ := h
  refine ⟨fun f hf => h1 f (List.mem_append_left _ hf), ?_⟩
  rw [grammar_append, Bool.and_eq_true] at h2
  exact h2.1

theorem WellFormed.append {ctx : Ctx} {fs gs : List Frame} (h : WellFormed ctx fs)
    (hg : ∀ f ∈ gs, frameOk ctx f = true) (hgr : grammar (endsInMsg false fs) gs = true) :
    WellFormed ctx (fs ++ gs) := by
  refine ⟨?_, ?_⟩
  · intro f hf
    rcases List.mem_append.mp hf with h' | h'
    · exact h.1 f h'
    · exact hg f h'
  · rw [grammar_append, h.2, hgr]; rfl

def b0Of (ft : Nat) (fin comp : Bool) : Nat := ft + (if fin then 128 else 0) + (if comp then 64 else 0)

def OpSet (ft : Nat) : Prop := ft = 0 ∨ ft = 1 ∨ ft = 2 ∨ ft = 8 ∨ ft = 9 ∨ ft = 10
def IsCtl (ft : Nat) : Prop := ft = 8 ∨ ft = 9 ∨ ft = 10

theorem isControlOp_iff {ft : Nat} : isControlOp ft = true ↔ IsCtl ft := by
  simp [isControlOp, IsCtl, or_assoc]

theorem isControlOp_of_not {ft : Nat} (h : ¬ IsCtl ft) : isControlOp ft = false :=
  Bool.eq_false_iff.mpr (fun hc => h (isControlOp_iff.mp hc))

theorem OpSet.classes {ft : Nat} (h : OpSet ft) :
    IsCtl ft ∨ ((ft = 1 ∨ ft = 2) ∧ ¬ IsCtl ft) ∨ (ft = 0 ∧ ¬ IsCtl ft) := by
  unfold OpSet at h
  unfold IsCtl
  omega

theorem frameOf_b0Of (sv : Bool) (ft : Nat) (fin comp : Bool) (key : Key) (payload : Bytes) (h : OpSet ft) :
    frameOf sv (b0Of ft fin comp) key payload =
      ⟨fin, comp, false, false, ft, if sv then none else some key, payload⟩ :=
  frameOf_bits sv ft (by unfold OpSet at h; omega) fin comp key payload

theorem frameOk_frameOf (sv ng : Bool) (ft : Nat) (fin comp : Bool) (key : Key) (payload : Bytes)
    (hft : OpSet ft) (hc : comp = true → (ft = 1 ∨ ft = 2) ∧ ng = true)
    (hctl : IsCtl ft → fin = true ∧ payload.length ≤ 125) :
    frameOk ⟨!sv, ng⟩ (frameOf sv (b0Of ft fin comp) key payload) = true := by
  rw [frameOf_b0Of sv ft fin comp key payload hft]
  have hmask : ((if sv then none else some key : Option Key).isSome == !sv) = true := by cases sv <;> rfl
  -- RSV1 goes with opcodes 1 and 2 only
  have hnc : ¬ (ft = 1 ∨ ft = 2) → comp = false := fun hn => by
    cases comp with
    | false => rfl
    | true => exact absurd (hc rfl).1 hn
  unfold frameOk
  dsimp only
  rw [hmask]
  rcases hft.classes with hk | ⟨hd, hnk⟩ | ⟨h0, hnk⟩
  · -- control: final, at most 125 bytes, RSV1 clear
    obtain ⟨hf, hl⟩ := hctl hk
    rw [isControlOp_iff.mpr hk, hf, hnc (by unfold IsCtl at hk; omega)]
    simpa using hl
  · -- first frame of a data message: RSV1 only if negotiated
    have hdo : isDataOp ft = true := by rcases hd with rfl | rfl <;> rfl
    rw [isControlOp_of_not hnk, hdo]
    cases comp with
    | false => rfl
    | true => rw [(hc rfl).2]; rfl
  · -- continuation: RSV1 clear
    rw [isControlOp_of_not hnk, hnc (by omega), h0]
    rfl

theorem grammar_single (o : Bool) (f : Frame) :
    grammar o [f] = (if isControlOp f.opcode then true else if f.opcode == 0 then o else !o) ∧
    endsInMsg o [f] = (if isControlOp f.opcode then o else !f.fin) := by
  simp [grammar, endsInMsg]

theorem grammar_frameOf (sv : Bool) (o : Bool) (ft : Nat) (fin comp : Bool) (key : Key) (payload : Bytes)
    (hft : OpSet ft) (h0 : ¬ IsCtl ft → (ft = 0 ↔ o = true)) :
    grammar o [frameOf sv (b0Of ft fin comp) key payload] = true ∧
    endsInMsg o [frameOf sv (b0Of ft fin comp) key payload] = (if ft = 8 ∨ ft = 9 ∨ ft = 10 then o else !fin) := by
  rw [frameOf_b0Of sv ft fin comp key payload hft]
  obtain ⟨hg, he⟩ := grammar_single o ⟨fin, comp, false, false, ft, if sv then none else some key, payload⟩
  rw [hg, he]
  dsimp only
  by_cases hk : IsCtl ft
  · rw [isControlOp_iff.mpr hk, if_pos (show ft = 8 ∨ ft = 9 ∨ ft = 10 from hk)]
    exact ⟨rfl, rfl⟩
  · rw [isControlOp_of_not hk, if_neg (show ¬ (ft = 8 ∨ ft = 9 ∨ ft = 10) from hk)]
    refine ⟨?_, rfl⟩
    by_cases h00 : ft = 0
    · simp [h00, (h0 hk).mp h00]
    · have ho : o = false := by
        cases o with
        | false => rfl
        | true => exact absurd ((h0 hk).mpr rfl) h00
      simp [h00, ho]

theorem isControl_cast (ft : Nat) : isControl (ft : Int) = true ↔ IsCtl ft := by
  unfold IsCtl
  simp only [isControl, Gen.CloseMessage, Gen.PingMessage, Gen.PongMessage, Bool.or_eq_true, beq_iff_eq]
  omega

theorem b0Of_lt (ft : Nat) (fin comp : Bool) (h : OpSet ft) : b0Of ft fin comp < 256 := by
  unfold OpSet at h
  unfold b0Of
  split <;> split <;> omega

/-! ### message types accepted by `beginMessage` -/

theorem type_cases (t : Int) (h : ¬ (!isControl t && !isData t) = true) :
    t = 8 ∨ t = 9 ∨ t = 10 ∨ t = 1 ∨ t = 2 := by
  simp only [isControl, isData, Gen.CloseMessage, Gen.PingMessage, Gen.PongMessage, Gen.TextMessage,
    Gen.BinaryMessage, Bool.and_eq_true, Bool.not_eq_true', Bool.or_eq_false_iff, beq_eq_false_iff_ne, ne_eq,
    not_and, Classical.not_not] at h
  omega

theorem ctl_cases (t : Int) (h : isControl t = true) : t = 8 ∨ t = 9 ∨ t = 10 := by
  simp only [isControl, Gen.CloseMessage, Gen.PingMessage, Gen.PongMessage, Bool.or_eq_true, beq_iff_eq] at h
  omega

theorem opset_of_type (t : Int) (h : ¬ (!isControl t && !isData t) = true) :
    OpSet t.toNat ∧ t.toNat ≠ 0 ∧ (isData t = true → t.toNat = 1 ∨ t.toNat = 2) := by
  unfold OpSet
  rcases type_cases t h with rfl | rfl | rfl | rfl | rfl <;> decide

theorem encode_ne_nil (sv : Bool) (b0 : Nat) (key : Key) (payload : Bytes) (hb : b0 < 256)
    (hl : payload.length < 2 ^ 63) : encode sv b0 key payload ≠ [] := by
  intro h
  have := decode_encode sv b0 key payload [] hb hl
  rw [h] at this
  simp [decodeFrame] at this

theorem decodeStream_encode (sv : Bool) (b0 : Nat) (key : Key) (payload : Bytes) (hb : b0 < 256)
    (hl : payload.length < 2 ^ 63) :
    decodeStream (encode sv b0 key payload) = some [frameOf sv b0 key payload] := by
  have h1 := decodeStream_cons (encode sv b0 key payload) [] _ (decode_encode sv b0 key payload [] hb hl)
    (encode_ne_nil sv b0 key payload hb hl)
  rw [List.append_nil] at h1
  rw [h1, decodeStream_nil]
  rfl

end WS.WFSpec
