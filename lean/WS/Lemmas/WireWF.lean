import WS.Lemmas.WireInv
import WS.Lemmas.WFOps
/-
  C02: everything a connection writes is well-formed RFC 6455 framing, at the level of decoded frame records:
  masked iff client, RSV2/RSV3 clear, RSV1 only on the first frame of a data message and only if
  permessage-deflate was negotiated, control frames unfragmented with at most 125 payload bytes, each data
  message one text/binary frame followed only by continuations.  The two theorems read the result off
  `WFInv.Good` (WFInv.lean, WFOps.lean).
-/
namespace WS.WireWF
open WS WS.Codec WS.WireInv

/-- side conditions of a program, checked along its execution: sizes as in `WireInv.OpOK`, and a prepared image
    is one control frame or one complete data message for this role.  `WritePreparedMessage` of a data message
    first closes the message writer the application left open.  The model's `Op.writePrepared t img` takes type
    and image separately; for "data image sent with a control type", which `WritePreparedMessage` never
    produces, nothing is closed first, and there `NoOpenWriter` is asked for. -/
def Admissible (s : W) : List Op → Prop
  | [] => True
  | op :: ops =>
    OpOK s.isServer op ∧
    (match op with
     | .writePrepared t img _ _ =>
       ImgControl s.isServer img ∨ (ImgData s.isServer s.nego img ∧ (isData t = true ∨ NoOpenWriter s))
     | _ => True) ∧
    Admissible (applyOp s op).2 ops

/-
  Without a hypothesis on the compress/flate answers the two statements below are FALSE
  (`wire_wellformed_false`, `wire_wellformed_prefix_false`):

  theorem wire_wellformed (s0 : W) (h0 : Fresh s0) (hf : s0.faults = []) (ops : List Op) (ha : Admissible s0 ops) :
      ∃ fs, Spec.decodeStream (run s0 ops).wire = some fs ∧ Spec.WellFormed ⟨!s0.isServer, s0.nego⟩ fs

  theorem wire_wellformed_prefix (s0 : W) (h0 : Fresh s0) (ops : List Op) (ha : Admissible s0 ops) :
      Spec.WellFormed ⟨!s0.isServer, s0.nego⟩ (Spec.decodePrefixAux (run s0 ops).wire.length (run s0 ops).wire)

  Counterexample (`cexS`, `cexOps`; no faults): after one non-final frame, Close on the flate wrapper is
  answered with a deflate stream that does not end in 00 00 ff ff.  `flateWriteWrapper.Close` returns an error
  without closing the messageWriter, and the next NextWriter (its implicit `c.writer.Close()` is a no-op) starts
  a text message inside the unfinished one: TEXT(fin=0) TEXT(fin=1).

  `wire_wellformed_partial` and `wire_wellformed_prefix_partial` add `EnvAdmissible`: wherever a flate wrapper
  is closed, the deflate answers pass the two checks of `flateWriteWrapper.Close` (`WFInv.CloseEnvOK`).
-/

def cexS : W := { isServer := true, wbufLen := 15, pool := false, nego := true }
def cexOps : List Op := [
  .nextWriter 1 [] [],
  .write 0 [] [List.replicate 31 0] false,
  .close 0 [] [],
  .nextWriter 1 [] [],
  .close 1 [] [0, 0, 0xff, 0xff] ]

theorem cex_fresh : Fresh cexS := ⟨rfl, rfl, rfl, rfl, rfl, by decide, by decide⟩

theorem cex_admissible : Admissible cexS cexOps := by
  have h31 : ∀ c ∈ [List.replicate 31 (0 : UInt8)], c.length < 2 ^ 40 := by
    intro c hc
    rw [List.mem_singleton] at hc
    subst hc
    decide
  exact ⟨nofun, trivial, ⟨by decide, h31⟩, trivial, nofun, trivial, nofun, trivial, nofun, trivial, trivial⟩

theorem cex_wire : (run cexS cexOps).wire = [65, 31] ++ List.replicate 31 0 ++ [193, 0] := by
  rfl

theorem cex_decode : Spec.decodeStream ([65, 31] ++ List.replicate 31 0 ++ [193, 0]) =
    some [⟨false, true, false, false, 1, none, List.replicate 31 0⟩, ⟨true, true, false, false, 1, none, []⟩] := by
  decide

theorem wire_wellformed_false :
    ¬ ∀ (s0 : W), Fresh s0 → s0.faults = [] → ∀ (ops : List Op), Admissible s0 ops →
      ∃ fs, Spec.decodeStream (run s0 ops).wire = some fs ∧ Spec.WellFormed ⟨!s0.isServer, s0.nego⟩ fs := by
  intro h
  obtain ⟨fs, hdec, hwf⟩ := h cexS cex_fresh rfl cexOps cex_admissible
  rw [cex_wire, cex_decode] at hdec
  cases hdec
  revert hwf
  decide

theorem wire_wellformed_prefix_false :
    ¬ ∀ (s0 : W), Fresh s0 → ∀ (ops : List Op), Admissible s0 ops →
      Spec.WellFormed ⟨!s0.isServer, s0.nego⟩
        (Spec.decodePrefixAux (run s0 ops).wire.length (run s0 ops).wire) := by
  intro h
  have hwf := h cexS cex_fresh cexOps cex_admissible
  rw [cex_wire] at hwf
  revert hwf
  decide

theorem images_of_good {c : WFInv.Cfg} {s : W} (hg : WFInv.Good c s) (op : Op)
    (hpre : match op with
      | .writePrepared t img _ _ =>
        ImgControl s.isServer img ∨ (ImgData s.isServer s.nego img ∧ (isData t = true ∨ NoOpenWriter s))
      | _ => True) : op.images (ImgControl c.sv) (ImgData c.sv c.ng) s := by
  have hsv : s.isServer = c.sv := by obtain ⟨o, hI, _⟩ := hg; exact hI.isv
  have hng : s.nego = c.ng := by obtain ⟨o, hI, _⟩ := hg; exact hI.nego
  cases op with
  | writePrepared t img dnp fullp =>
    dsimp only at hpre
    rw [hsv, hng] at hpre
    exact hpre
  | writeControl t data d =>
    intro hlen ht key
    have hlen' : data.length ≤ 125 := by
      have : maxControlPayload = 125 := by decide
      omega
    have ht' : t.toNat = 8 ∨ t.toNat = 9 ∨ t.toNat = 10 := by
      rcases WFSpec.ctl_cases t ht with rfl | rfl | rfl <;> decide
    rw [hsv, controlFrame_encode _ _ _ _ hlen']
    exact ⟨t.toNat, key, data, ht', hlen', rfl⟩
  | _ => trivial

theorem run_good {c : WFInv.Cfg} (s : W) (ops : List Op) (hg : WFInv.Good c s)
    (ha : Admissible s ops) (he : EnvAdmissible s ops) : WFInv.Good c (run s ops) := by
  induction ops generalizing s with
  | nil => exact hg
  | cons op ops ih =>
    obtain ⟨h1, h2, h3⟩ := ha
    obtain ⟨e1, e2⟩ := he
    unfold run
    exact ih _ (hg.move (applyOp_moves s op (sizes_of_opOK h1) (closes_of_envOK e1) (images_of_good hg op h2))) h3 e2

theorem good_of_fresh {s : W} (h : Fresh s) : WFInv.Good ⟨s.isServer, s.nego, s.wbufLen, s.faults⟩ s := by
  obtain ⟨hw, he, hm, hh, hwr, hlo, hhi⟩ := h
  refine ⟨false, ⟨rfl, rfl, rfl, rfl, hlo, hhi, ?_⟩, ?_, Or.inr ⟨?_, fun _ => rfl⟩⟩
  · rw [hw]
    exact ⟨[], [], rfl, ⟨fun f hf => (by cases hf), rfl⟩, fun _ => rfl, fun _ => rfl⟩
  · rw [hm, hh]
    exact ⟨rfl, fun h x hx => by simp at hx, fun h i fo derr sent m hx => by simp at hx⟩
  · rw [hm]; intro j m hm'; simp at hm'

/-- C02 (frame level), no transport faults: whatever the other environment answers, buffer size, role and
    compression settings, the wire decodes (strictly) to a well-formed frame sequence. -/
theorem wire_wellformed_partial (s0 : W) (h0 : Fresh s0) (hf : s0.faults = []) (ops : List Op)
    (ha : Admissible s0 ops) (he : EnvAdmissible s0 ops) :
    ∃ fs, Spec.decodeStream (run s0 ops).wire = some fs ∧ Spec.WellFormed ⟨!s0.isServer, s0.nego⟩ fs := by
  obtain ⟨o, hI, _, _⟩ := run_good s0 ops (good_of_fresh h0) ha he
  obtain ⟨more, fs, hdec, hwf, hmore, _⟩ := hI.wire
  have : more = [] := hmore (Or.inr hf)
  subst this
  rw [List.append_nil] at hdec
  exact ⟨fs, hdec, hwf⟩

/-- C02 with transport faults: the whole frames that reached the wire are well-formed -/
theorem wire_wellformed_prefix_partial (s0 : W) (h0 : Fresh s0) (ops : List Op) (ha : Admissible s0 ops)
    (he : EnvAdmissible s0 ops) :
    Spec.WellFormed ⟨!s0.isServer, s0.nego⟩
      (Spec.decodePrefixAux (run s0 ops).wire.length (run s0 ops).wire) := by
  obtain ⟨o, hI, _, _⟩ := run_good s0 ops (good_of_fresh h0) ha he
  obtain ⟨more, fs, hdec, hwf, _, _⟩ := hI.wire
  exact WFSpec.WellFormed.prefix hwf (WFSpec.decodePrefixAux_prefix more _ _ _ fs hdec)

end WS.WireWF
