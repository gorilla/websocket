import WS.Lemmas.ReadMsgs
import WS.Lemmas.KeyFlow
/-
  C01 end to end, as one theorem: what `WriteMessage(t, data)` on one connection puts on the wire is
  read by a connection of the opposite role as exactly `(t, data)`, for every payload, every write
  buffer size of the writer, every read buffer size / transport chunking / read size of the reader.
  The writer side is `writeMessage_wire`: the wire gains exactly the frames `framesOf` (the payload cut at
  the buffer capacity, each frame with the next key), as reader-side `PFrame`s; `read_message` reads
  them. `2 ^ 62` is `read_message`'s bound on a frame payload; the writer's `2 ^ 40` is below it.
-/
namespace WS.PairRoundtrip
open WS WS.Codec WS.ReaderDecodes

/-! ### the frames flushed so far, as an invariant

  `FrSt` describes the wire in the middle of a message by the frames already flushed.
  `writeMessage_frames` goes through the explicit list `framesOf` instead; of this section it uses
  `enc_mk` only (as does Sequences.lean). -/
section Helpers
open WS.Flow WS.Content WS.ZFlow

def Conts (fs : List PFrame) : Prop := ∀ g ∈ fs, g.op = 0 ∧ g.fin = false ∧ g.payload.length < 2 ^ 62

/-- frames flushed so far for the message being written (opcode `t`), relative to the wire `w0` at
    the start of the message -/
structure FrSt (w0 : Bytes) (sv : Bool) (t : Nat) (s : W) (m : MW) (acc : Bytes) : Prop where
  srv : s.isServer = sv
  fr : ∃ fs : List PFrame, s.wire = w0 ++ encAll (!sv) fs ∧ dataPayload fs ++ m.buf = acc ∧ ctlEvents fs = [] ∧
    ((m.ft = t ∧ fs = []) ∨
     (m.ft = 0 ∧ ∃ f rest, fs = f :: rest ∧ f.op = t ∧ f.fin = false ∧ f.payload.length < 2 ^ 62 ∧ Conts rest))

theorem encAll_snoc (S : Bool) (fs : List PFrame) (g : PFrame) : encAll S (fs ++ [g]) = encAll S fs ++ g.enc S := by
  simp [encAll]

theorem dataPayload_snoc (fs : List PFrame) (g : PFrame) (h : g.isCtl = false) :
    dataPayload (fs ++ [g]) = dataPayload fs ++ g.payload := by
  simp [dataPayload, List.filter_append, h]

theorem ctlEvents_snoc (fs : List PFrame) (g : PFrame) (h : g.isCtl = false) :
    ctlEvents (fs ++ [g]) = ctlEvents fs := by
  simp [ctlEvents, List.filter_append, h]

theorem enc_mk (sv : Bool) (op : Nat) (fin : Bool) (key : Key) (payload : Bytes) :
    PFrame.enc (!sv) ⟨op, fin, key, payload⟩ = encode sv (op + (if fin then 128 else 0)) key payload := by
  simp [PFrame.enc, PFrame.b0]

theorem tail_of_conts (rest : List PFrame) (g : PFrame) (hc : Conts rest) (h1 : g.op = 0) (h2 : g.fin = true)
    (h3 : g.payload.length < 2 ^ 62) : Tail (rest ++ [g]) := by
  induction rest with
  | nil => exact Tail.last g h1 h2 h3
  | cons f rest ih =>
    have hf := hc f (by simp)
    exact Tail.cont f _ hf.1 hf.2.1 hf.2.2 (ih (fun x hx => hc x (by simp [hx])))

theorem FrSt.snoc {w0 sv t s m acc} (h : FrSt w0 sv t s m acc) (ht : t = 1 ∨ t = 2) (fin : Bool) (key : Key)
    (extra : Bytes) :
    ∃ fs : List PFrame,
      ((m.ft = t ∧ fs = []) ∨
       (m.ft = 0 ∧ ∃ f rest, fs = f :: rest ∧ f.op = t ∧ f.fin = false ∧ f.payload.length < 2 ^ 62 ∧ Conts rest)) ∧
      s.wire ++ encode sv (m.ft + (if fin then 128 else 0)) key (m.buf ++ extra) =
        w0 ++ encAll (!sv) (fs ++ [⟨m.ft, fin, key, m.buf ++ extra⟩]) ∧
      dataPayload (fs ++ [⟨m.ft, fin, key, m.buf ++ extra⟩]) = acc ++ extra ∧
      ctlEvents (fs ++ [⟨m.ft, fin, key, m.buf ++ extra⟩]) = [] := by
  obtain ⟨fs, hw0, hacc, hce, hsh⟩ := h.fr
  have hd : (⟨m.ft, fin, key, m.buf ++ extra⟩ : PFrame).isCtl = false :=
    isCtl_of_data (by
      show m.ft = 0 ∨ m.ft = 1 ∨ m.ft = 2
      rcases hsh with ⟨h, _⟩ | ⟨h, _⟩ <;> omega)
  refine ⟨fs, hsh, ?_, ?_, ?_⟩
  · rw [hw0, encAll_snoc, enc_mk, List.append_assoc]
  · rw [dataPayload_snoc _ _ hd, ← hacc, List.append_assoc]
  · rw [ctlEvents_snoc _ _ hd]; exact hce

theorem FrSt.finish {w0 sv t s m acc} (h : FrSt w0 sv t s m acc) (ht : t = 1 ∨ t = 2) (wire' : Bytes)
    (key : Key) (extra : Bytes)
    (hw : wire' = s.wire ++ encode sv (m.ft + 128) key (m.buf ++ extra))
    (hlen : (m.buf ++ extra).length < 2 ^ 62) :
    ∃ fs : List PFrame, MsgShape t fs ∧ dataPayload fs = acc ++ extra ∧ ctlEvents fs = [] ∧
      wire' = w0 ++ encAll (!sv) fs := by
  obtain ⟨fs, hsh, hw', hdp, hce⟩ := h.snoc ht true key extra
  refine ⟨_, ?_, hdp, hce, hw.trans hw'⟩
  rcases hsh with ⟨hft, rfl⟩ | ⟨hft, f, rest, rfl, hf1, hf2, hf3, hc⟩
  · exact MsgShape.single _ hft rfl hlen
  · exact MsgShape.frag f _ hf1 hf2 hf3 (tail_of_conts rest _ hc hft rfl hlen)

end Helpers

/-! ### the frames of one WriteMessage, explicitly -/
section Frames
open WS.Flow WS.Content WS.ZFlow

/-- `data` cut at the write-buffer capacity: full buffers, then what is left (at least one chunk; the
    last one is empty only if `data` is) -/
def chunks (cap : Nat) (data : Bytes) : List Bytes :=
  if data.length ≤ cap ∨ cap = 0 then [data] else data.take cap :: chunks cap (data.drop cap)
termination_by data.length
decreasing_by
  rename_i h
  simp only [List.length_drop]
  omega

/-- one fragmented message: opcode `op` on the first frame, continuations after it, FIN on the last;
    the `i`-th frame carries the draw `k + i` of the key source -/
def fragFrames (keys : Bytes) : Nat → Nat → List Bytes → List PFrame
  | _, _, [] => []
  | k, op, [c] => [⟨op, true, KeyFlow.keyOf keys k, c⟩]
  | k, op, c :: c' :: cs => ⟨op, false, KeyFlow.keyOf keys k, c⟩ :: fragFrames keys (k + 1) 0 (c' :: cs)

/-- the frames `WriteMessage(t, data)` sends on a connection that does not compress: a server sends one
    frame (conn.go's fast path: buffer and remainder leave in one `Conn.write`), a client one frame per
    buffer-full, each masked with the next draw -/
def framesOf (cap : Nat) (isServer : Bool) (keys : Bytes) (k0 : Nat) (t : Nat) (data : Bytes) : List PFrame :=
  fragFrames keys k0 t (if isServer then [data] else chunks cap data)

theorem chunks_le {cap : Nat} {data : Bytes} (h : data.length ≤ cap) : chunks cap data = [data] := by
  rw [chunks, if_pos (Or.inl h)]

theorem chunks_gt {cap : Nat} {data : Bytes} (hc : 0 < cap) (h : cap < data.length) :
    chunks cap data = data.take cap :: chunks cap (data.drop cap) := by
  rw [chunks, if_neg (by omega)]

theorem chunks_ne_nil (cap : Nat) (data : Bytes) : chunks cap data ≠ [] := by
  rw [chunks]; split <;> simp

theorem chunks_full {cap : Nat} (hc : 0 < cap) {buf q : Bytes} (hb : buf.length = cap) (hq : q ≠ []) :
    chunks cap (buf ++ q) = buf :: chunks cap q := by
  have hql : q.length ≠ 0 := fun h => hq (List.length_eq_zero_iff.mp h)
  rw [chunks_gt hc (by rw [List.length_append]; omega), List.take_left' hb, List.drop_left' hb]

theorem fragFrames_cons (keys : Bytes) (k op : Nat) (c : Bytes) {cs : List Bytes} (h : cs ≠ []) :
    fragFrames keys k op (c :: cs) = ⟨op, false, KeyFlow.keyOf keys k, c⟩ :: fragFrames keys (k + 1) 0 cs := by
  cases cs with
  | nil => exact absurd rfl h
  | cons c' cs => rfl

section
variable {s : W} {m : MW} (he : s.writeErr = none) (hf : s.faults = []) (hcl : s.isServer = false)
  (hm : m.err = none) (hc : m.compress = false) (hft : m.ft < 3) (hcap : 0 < s.cap) (hb : m.buf.length ≤ s.cap)
include he hf hcl hm hc hft hcap hb

/-- after the flush of a full buffer at the start of a copy, the frames still to come, counted from the
    new state, are the frames that were to come -/
theorem ncopyPrep_frames :
    ∃ s1 m1, ncopyPrep s m = (none, s1, m1) ∧ s1.writeErr = none ∧ s1.faults = [] ∧ s1.isServer = false ∧
      s1.cap = s.cap ∧ m1.err = none ∧ m1.compress = false ∧ m1.ft < 3 ∧ m1.buf.length < s.cap ∧
      ∀ q : Bytes, q ≠ [] →
        s1.wire ++ encAll true (fragFrames s1.keys s1.keyIdx m1.ft (chunks s1.cap (m1.buf ++ q))) =
        s.wire ++ encAll true (fragFrames s.keys s.keyIdx m.ft (chunks s.cap (m.buf ++ q))) := by
  unfold ncopyPrep
  split
  · rename_i hge
    have hfl := flushFrame_data s m false [] he hf (by omega) (Or.inr rfl) hm
    have hks := W.fixed_keys (flushFrame_fixed s m false [])
    generalize flushFrame s m false [] = r at hfl hks
    obtain ⟨e, s1, m1⟩ := r
    have h1 : e = none := hfl.ok
    have hm' : m1 = { m with compress := false, buf := [], ft := 0 } := hfl.reset rfl
    have hk : Keep s s1 := hfl.keep
    have hw := hfl.wire
    have hki := hfl.keyIdx
    dsimp only at hw hki hks
    subst h1 hm'
    refine ⟨s1, _, rfl, hk.writeErr.trans he, hk.faults.trans hf, hk.isServer.trans hcl, hk.cap, hm, rfl,
      Nat.zero_lt_succ 2, hcap, fun q hq => ?_⟩
    rw [hk.cap, chunks_full hcap (Nat.le_antisymm hb hge) hq, fragFrames_cons _ _ _ _ (chunks_ne_nil _ _), hw, hks, hki,
      hcl, hc]
    simp [encAll, PFrame.enc, PFrame.b0]
  · exact ⟨s, m, rfl, he, hf, hcl, rfl, hm, hc, hft, by omega, fun _ _ => rfl⟩

/-- Write followed by the final flush, from any state `S2` that agrees with the one Write leaves on core
    and key source: the wire gains the buffer and `p`, cut at the capacity -/
theorem copyLoop_frames (p : Bytes) :
    (copyLoop s m p).1 = none ∧ (copyLoop s m p).2.2.err = none ∧
    ∀ S2 : W, S2.core = (copyLoop s m p).2.1.core → S2.keys = (copyLoop s m p).2.1.keys →
      S2.keyIdx = (copyLoop s m p).2.1.keyIdx →
      (flushFrame S2 (copyLoop s m p).2.2 true []).2.1.wire =
        s.wire ++ encAll true (fragFrames s.keys s.keyIdx m.ft (chunks s.cap (m.buf ++ p))) := by
  induction hl : p.length using Nat.strongRecOn generalizing s m p with
  | _ n ih =>
    unfold copyLoop
    split
    · rename_i hp
      subst hp
      refine ⟨rfl, hm, fun S2 h1 h2 h3 => ?_⟩
      rw [(flushFrame_data S2 m true [] ((core_writeErr h1).trans he) ((core_faults h1).trans hf) (by omega)
          (Or.inr rfl) hm).wire, core_wire h1, core_isServer h1, hcl, h2, h3, hc, List.append_nil, chunks_le hb]
      simp [fragFrames, encAll, PFrame.enc, PFrame.b0]
    · rename_i hp
      obtain ⟨s1, m1, heq, he1, hf1, hcl1, hcap1, hm1, hc1, hft1, hb1, hfr⟩ :=
        ncopyPrep_frames he hf hcl hm hc hft hcap hb
      rw [heq]
      dsimp only
      have hpl : p.length ≠ 0 := by simpa using hp
      rw [dif_neg (by rw [hcap1]; omega)]
      have hdl : (p.drop (min (s1.cap - m1.buf.length) p.length)).length < n := by
        simp only [List.length_drop]; omega
      have := @ih _ hdl s1 { m1 with buf := m1.buf ++ p.take (min (s1.cap - m1.buf.length) p.length) }
        he1 hf1 hcl1 hm1 hc1 hft1 (by rw [hcap1]; exact hcap)
        (by simp only [List.length_append, List.length_take]; omega) _ rfl
      rw [List.append_assoc, List.take_append_drop, hfr p hp] at this
      exact this

end

theorem writeMessage_wire (s : W) (hi : Content.Idle s) (t : Nat) (ht : t = 1 ∨ t = 2) (data : Bytes) :
    (writeMessage s t data).2.wire =
      s.wire ++ encAll (!s.isServer) (framesOf s.cap s.isServer s.keys s.keyIdx t data) := by
  open WS.Flow WS.Content in
  have hk := Keep.ensureBuf s
  have hks := W.fixed_keys (ensureBuf_fixed s)
  have hki := ensureBuf_keyIdx s
  have hw0 := (ensureBuf_wire s).1
  unfold writeMessage
  split
  · rename_i hc
    have hsv := server_of_fast hc
    rw [beginMessage_ok hi.noWriter hi.healthy t (by omega)]
    dsimp only
    rw [(flushFrame_data (ensureBuf s) { ft := t, buf := data.take (min (ensureBuf s).cap data.length) } true
        (data.drop (min (ensureBuf s).cap data.length)) (hk.writeErr.trans hi.healthy) (hk.faults.trans hi.noFaults)
        (by show t < 8; omega) (Or.inl (hk.isServer.trans hsv)) rfl).wire, hw0, hk.isServer, hks, hki, List.take_append_drop, hsv]
    simp [framesOf, fragFrames, encAll, PFrame.enc, PFrame.b0]
  · rename_i hc
    have hcl := client_of_not_fast hi.plain hc
    have hnw := nextWriter_plain hi.noWriter hi.healthy t (by omega) (by rw [hi.plain]; rfl)
    obtain ⟨S1, hS⟩ : ∃ S1, S1 = (nextWriter s (t : Int) [] []).2 := ⟨_, rfl⟩
    have h1 : nextWriter s (t : Int) [] [] = (.ok (nextHandle s), S1) := by rw [hS, hnw]
    have hc1 : S1.core = (ensureBuf s).core ∧ S1.keys = (ensureBuf s).keys ∧ S1.keyIdx = (ensureBuf s).keyIdx ∧
        S1.cap = (ensureBuf s).cap := by rw [hS, hnw]; exact ⟨rfl, rfl, rfl, rfl⟩
    have hh : S1.handles[nextHandle s]? = some (.plain (ensureBuf s).mws.length) := by
      rw [hS, hnw]; simp [nextHandle, hk.handles]
    have hm : S1.mws = (ensureBuf s).mws ++ [{ ft := t }] := by rw [hS, hnw]
    clear hS hnw
    rw [h1]
    dsimp only
    have hcap : 0 < S1.cap := by
      have := hi.size
      rw [hc1.2.2.2, hk.cap]; unfold W.cap; omega
    obtain ⟨hC1, hCe, hCw⟩ := copyLoop_frames (s := S1) (m := { ft := t })
      ((core_writeErr hc1.1).trans (hk.writeErr.trans hi.healthy))
      ((core_faults hc1.1).trans (hk.faults.trans hi.noFaults))
      ((core_isServer hc1.1).trans (hk.isServer.trans hcl)) rfl rfl (by show t < 3; omega) hcap (Nat.zero_le _) data
    have hf := (fixedInv S1.fixed).step (copyLoop_run S1 { ft := t } data rfl).step rfl
    rw [hWrite_plain hh data [] false _ rfl, getMW_last _ _ _ hm]
    simp only [Bool.false_eq_true, if_false]
    unfold mwWrite
    simp only [(core_isServer hc1.1).trans (hk.isServer.trans hcl), Bool.and_false, Bool.false_eq_true, if_false]
    -- of the copy loop only `hC1`, `hCe`, `hCw` (the wire after a final flush) and `hf` are used from here on
    generalize copyLoop S1 { ft := t } data = w at hC1 hCe hCw hf ⊢
    simp only [hC1]
    rw [hClose_plain (i := (ensureBuf s).mws.length) (by
        show w.2.1.handles[_]? = _
        rw [W.fixed_handles hf]; exact hh),
      getMW_last _ (ensureBuf s).mws _ (by
        show w.2.1.mws.set _ _ = _
        rw [W.fixed_mws hf, hm]; exact set_last _ _ _),
      mwClose_live hCe]
    have := hCw (setMW w.2.1 (ensureBuf s).mws.length w.2.2) rfl rfl rfl
    generalize flushFrame (setMW w.2.1 (ensureBuf s).mws.length w.2.2) w.2.2 true [] = r at this ⊢
    show r.2.1.wire = _
    rw [this, core_wire hc1.1, hc1.2.1, hc1.2.2.1, hc1.2.2.2, hw0, hks, hki, hk.cap, hcl]
    rfl

theorem chunks_flatten (cap : Nat) (data : Bytes) : (chunks cap data).flatten = data := by
  induction hl : data.length using Nat.strongRecOn generalizing data with
  | _ n ih =>
    rw [chunks]
    split
    · simp
    · rename_i h
      rw [List.flatten_cons, ih _ (by simp only [List.length_drop]; omega) _ rfl, List.take_append_drop]

theorem chunks_length (cap : Nat) (data : Bytes) : ∀ c ∈ chunks cap data, c.length ≤ data.length := by
  induction hl : data.length using Nat.strongRecOn generalizing data with
  | _ n ih =>
    rw [chunks]
    split
    · intro c hc
      rw [List.mem_singleton.mp hc]; omega
    · rename_i h
      intro c hc
      rcases List.mem_cons.mp hc with rfl | hc
      · simp only [List.length_take]; omega
      · have := ih _ (by simp only [List.length_drop]; omega) _ rfl c hc
        simp only [List.length_drop] at this
        omega

theorem fragFrames_spec (keys : Bytes) (k op : Nat) (hop : op = 0 ∨ op = 1 ∨ op = 2) (cs : List Bytes) :
    dataPayload (fragFrames keys k op cs) = cs.flatten ∧ ctlEvents (fragFrames keys k op cs) = [] ∧
    (cs ≠ [] → (∀ c ∈ cs, c.length < 2 ^ 62) → op = 0 → Tail (fragFrames keys k op cs)) := by
  induction cs generalizing k op with
  | nil => exact ⟨rfl, rfl, fun h => absurd rfl h⟩
  | cons c cs ih =>
    have hd : ∀ fin, (⟨op, fin, KeyFlow.keyOf keys k, c⟩ : PFrame).isCtl = false := fun _ => isCtl_of_data hop
    cases cs with
    | nil =>
      refine ⟨by simp [fragFrames, dataPayload_data _ (hd true)], by simp [fragFrames, ctlEvents_data _ (hd true)],
        fun _ hl h0 => Tail.last _ h0 rfl (hl c (by simp))⟩
    | cons c' cs =>
      obtain ⟨h1, h2, h3⟩ := ih (k + 1) 0 (Or.inl rfl)
      refine ⟨?_, ?_, fun _ hl h0 => ?_⟩
      · rw [fragFrames, dataPayload_data _ (hd false), h1]; rfl
      · rw [fragFrames, ctlEvents_data _ (hd false), h2]
      · exact Tail.cont _ _ h0 rfl (hl c (by simp)) (h3 (by simp) (fun x hx => hl x (by simp [hx])) rfl)

theorem fragFrames_shape (keys : Bytes) (k t : Nat) (cs : List Bytes) (hne : cs ≠ [])
    (hl : ∀ c ∈ cs, c.length < 2 ^ 62) : MsgShape t (fragFrames keys k t cs) := by
  match cs, hne with
  | [c], _ => exact MsgShape.single _ rfl rfl (hl c (by simp))
  | c :: c' :: cs, _ =>
    exact MsgShape.frag _ _ rfl rfl (hl c (by simp))
      ((fragFrames_spec keys (k + 1) 0 (Or.inl rfl) (c' :: cs)).2.2 (by simp) (fun x hx => hl x (by simp [hx])) rfl)

end Frames

theorem writeMessage_frames (s : W) (hi : Content.Idle s) (t : Nat) (ht : t = 1 ∨ t = 2) (data : Bytes)
    (hd : data.length < 2 ^ 40) :
    ∃ fs : List PFrame, MsgShape t fs ∧ dataPayload fs = data ∧ ctlEvents fs = [] ∧
      (writeMessage s t data).2.wire = s.wire ++ encAll (!s.isServer) fs := by
  have hcs : ∀ cs : List Bytes, cs = (if s.isServer then [data] else chunks s.cap data) →
      cs ≠ [] ∧ cs.flatten = data ∧ ∀ c ∈ cs, c.length < 2 ^ 62 := by
    intro cs hcs
    subst hcs
    split
    · exact ⟨by simp, by simp, fun c hc => by rw [List.mem_singleton.mp hc]; omega⟩
    · exact ⟨chunks_ne_nil _ _, chunks_flatten _ _, fun c hc => by have := chunks_length _ _ c hc; omega⟩
  obtain ⟨h1, h2, h3⟩ := hcs _ rfl
  have hsp := fragFrames_spec s.keys s.keyIdx t (by omega) (if s.isServer then [data] else chunks s.cap data)
  exact ⟨_, fragFrames_shape _ _ t _ h1 h3, hsp.1.trans h2, hsp.2.1, writeMessage_wire s hi t ht data⟩

/-- C01 round trip through a connected pair (one message), the receiver's read limit being absent or
    not below the payload length -/
theorem pair_roundtrip_keep (s : W) (hi : Content.Idle s) (t : Nat) (ht : t = 1 ∨ t = 2) (data : Bytes)
    (hd : data.length < 2 ^ 40)
    (c : Conn) (hc : ReaderIdle c) (hrole : c.r.isServer = !s.isServer) (rest : Bytes)
    (hp : c.r.buf.pending = (writeMessage s t data).2.wire.drop s.wire.length ++ rest)
    (hend : c.r.buf.t.together = false ∨ rest ≠ [])
    (hlim : c.r.limit ≤ 0 ∨ (data.length : Int) ≤ c.r.limit) (k : Nat) (hk : 0 < k) :
    ∃ c1 rid, nextReader c = (.msg t rid false, c1) ∧
      ∃ c2, readAll c1 rid k = ((data, none), c2) ∧ ReaderIdle c2 ∧ c2.r.buf.pending = rest ∧
        c2.r.hlog = c.r.hlog ∧ Keep c c2 := by
  obtain ⟨fs, hs, hdp, hce, hw⟩ := writeMessage_frames s hi t ht data hd
  have hp' : c.r.buf.pending = encAll c.r.isServer fs ++ rest := by
    rw [hp, hw, List.drop_left, hrole]
  rw [← hdp] at hlim ⊢
  obtain ⟨c1, rid, h1, c2, h2, h3, h4, h5, h6⟩ :=
    read_message_keep c hc t ht fs hs rest hp' hend (by rw [hdp]; omega) hlim k hk
  exact ⟨c1, rid, h1, c2, h2, h3, h4, by rw [h5, hce, List.append_nil], h6⟩

/-- C01 round trip through a connected pair (one message) -/
theorem pair_roundtrip (s : W) (hi : Content.Idle s) (t : Nat) (ht : t = 1 ∨ t = 2) (data : Bytes)
    (hd : data.length < 2 ^ 40)
    (c : Conn) (hc : ReaderIdle c) (hrole : c.r.isServer = !s.isServer) (rest : Bytes)
    (hp : c.r.buf.pending = (writeMessage s t data).2.wire.drop s.wire.length ++ rest)
    (hend : c.r.buf.t.together = false ∨ rest ≠ []) (hlim : c.r.limit ≤ 0) (k : Nat) (hk : 0 < k) :
    ∃ c1 rid, nextReader c = (.msg t rid false, c1) ∧
      ∃ c2, readAll c1 rid k = ((data, none), c2) ∧ ReaderIdle c2 ∧ c2.r.buf.pending = rest ∧
        c2.r.hlog = c.r.hlog := by
  obtain ⟨c1, rid, h1, c2, h2, h3, h4, h5, _⟩ :=
    pair_roundtrip_keep s hi t ht data hd c hc hrole rest hp hend (Or.inl hlim) k hk
  exact ⟨c1, rid, h1, c2, h2, h3, h4, h5⟩

end WS.PairRoundtrip
