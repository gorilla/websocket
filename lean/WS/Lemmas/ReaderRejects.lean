import WS.Lemmas.Transport
import WS.Lemmas.ReaderDecodes
/-
  C04 / C05 / C06 / C08 (decision core of the reader): a framing violation, a read-limit breach or a received close
  frame ends reading with a permanent error, delivers nothing of the offending frame to the application or to a
  handler, and (where the property says so) writes exactly one close frame with the right status; errors are sticky.
  `WS.ReaderRejects`: statements about the two header bytes `b0 b1` as they are (any bytes) and, at the end of the
  file, about a client-side reader, whose peer's frames are unmasked; the latter are instances of `WS.RoleGeneric`
  (in between), about a frame given as `PFrame.enc c.r.isServer f`.
-/
namespace WS.ReaderRejects
open WS WS.SrcLaw WS.HdrLogic WS.AdvFrame

/-- a reader positioned at a frame boundary (possibly inside a fragmented message: `final = false`) -/
structure AtBoundary (c : Conn) : Prop where
  noErr : c.r.readErr = none
  rem : c.r.remaining = 0
  wf : WF c.r.buf
  size : 125 ≤ c.r.buf.size

/-- the write side is healthy and fault-free, so a best-effort close frame actually goes out -/
def WHealthy (w : W) : Prop := w.writeErr = none ∧ w.faults = []

/-- the control frame `writeControl` puts on the wire for this connection (key drawn from the key source) -/
def closeFrameBytes (w : W) (payload : Bytes) : Bytes := controlFrame w.isServer 8 payload (ctlKey w).1

theorem ctlKey_fields (w : W) : (ctlKey w).2.writeErr = w.writeErr ∧ (ctlKey w).2.faults = w.faults ∧
    (ctlKey w).2.wire = w.wire := by
  unfold ctlKey; split <;> exact ⟨rfl, rfl, rfl⟩

/-- `connWrite_spec` without its failure cases -/
theorem connWrite_healthy (s : W) (ft d : Int) (b : Bytes) (he : s.writeErr = none) (hf : s.faults = []) :
    (connWrite s ft d b []).2.wire = s.wire ++ b ∧
    (connWrite s ft d b []).2.writeErr = (if ft == 8 then some .closeSent else none) := by
  obtain ⟨h, _⟩ := connWrite_spec s ft d b [] he
  have hok : (connWrite s ft d b []).1 = none := Option.not_isSome_iff_eq_none.mp fun hs => h.fault hs hf
  obtain ⟨p, q, hpq, hwire, hq⟩ := h.sent
  rw [hq hok, List.append_nil, List.append_nil] at hpq
  exact ⟨by rw [hwire, hpq], h.ok hok⟩

theorem writeControl_healthy (w : W) (t : Int) (data : Bytes) (hw : WHealthy w)
    (ht : isControl t = true) (hd : data.length ≤ 125) :
    (writeControl w t data writeWaitDeadline).2.wire = w.wire ++ controlFrame w.isServer t.toNat data (ctlKey w).1 ∧
    (writeControl w t data writeWaitDeadline).2.writeErr = (if t == 8 then some .closeSent else none) := by
  have hm : maxControlPayload = 125 := by decide
  obtain ⟨k1, k2, k3⟩ := ctlKey_fields w
  unfold writeControl
  have h1 : ¬ data.length > 125 := by omega
  have h2 : ¬ (1000000 : Int) < 0 := by decide
  simp only [ht, Bool.not_true, Bool.false_eq_true, if_false, hm, h1, writeWaitDeadline, h2]
  have := connWrite_healthy (ctlKey w).2 t 1000000 (controlFrame w.isServer t.toNat data (ctlKey w).1)
    (k1.trans hw.1) (k2.trans hw.2)
  rw [k3] at this
  exact this

theorem ctlKey_emit (w : W) (e : Ev) : (ctlKey (emit w e)).1 = (ctlKey w).1 := by
  unfold ctlKey emit newKey
  simp only []
  split <;> rfl

theorem closePayload_nil_len (code : Nat) : (closePayload code []).length ≤ 125 := by
  unfold closePayload
  split <;> simp

theorem sendTooBig_healthy (c : Conn) (hw : WHealthy c.w) :
    (sendTooBig c).r = c.r ∧
    (sendTooBig c).w.wire = c.w.wire ++ closeFrameBytes c.w (closePayload 1009 []) ∧
    (sendTooBig c).w.writeErr = some .closeSent := by
  have h1009 : Gen.CloseMessageTooBig.toNat = 1009 := by decide
  have hwc := writeControl_healthy c.w 8 (closePayload 1009 []) hw (by decide) (closePayload_nil_len 1009)
  unfold sendTooBig
  rw [h1009]
  exact ⟨rfl, hwc.1, hwc.2⟩

theorem wrap64_neg (x : Nat) (h1 : 2 ^ 63 ≤ x) (h2 : x < 2 ^ 64) : wrap64 (x : Int) < 0 := by
  unfold wrap64 two63 two64
  omega

theorem mask_of_ok (isServer nego inMsg : Bool) (h : Hdr) (hok : ¬ Violates isServer nego inMsg h) :
    h.mask = isServer :=
  -- a wrong mask bit is the last of the nine disjuncts of `Violates`
  Decidable.of_not_not fun hne => hok (.inr (.inr (.inr (.inr (.inr (.inr (.inr (.inr hne))))))))

theorem _root_.WS.ReaderDecodes.ReaderIdle.atBoundary_c0 {c : Conn} (h : ReaderDecodes.ReaderIdle c) :
    AtBoundary (RobustAux.c0 c) :=
  ⟨h.noErr, h.rem, h.wf, h.size⟩

theorem _root_.WS.ReaderDecodes.St.atBoundary {S : Bool} {c : Conn} {more : List ReaderDecodes.PFrame} {rest : Bytes}
    (h : ReaderDecodes.St S c [] more rest) : AtBoundary c :=
  ⟨h.noErr, h.rem, h.env.wf, h.env.size⟩

/-! ### the two header bytes as they are -/

theorem advance_head (c : Conn) (hc : AtBoundary c) (b0 b1 : UInt8) (rest : Bytes)
    (hp : c.r.buf.pending = b0 :: b1 :: rest) :
    ∃ b', advanceFrame c = afHdr { c with r := { c.r with buf := b' } } b0 b1 ∧ b'.pending = rest ∧ WF b' ∧
      Same2 c.r.buf b' := by
  rw [advanceFrame_eq]
  obtain ⟨b1', s1, s2, s3, s4⟩ := afSkip_ok c [] _ (by rw [hc.rem]; rfl) hc.wf hp
  rw [s1]
  simp only []
  obtain ⟨b2, t1, t2, t3, t4⟩ := afHead_ok { c with r := { c.r with buf := b1' } } b0 b1 rest s3
    (by have := s4.size; have := hc.size; simp only [] at this ⊢; omega) s2
  rw [t1]
  exact ⟨b2, rfl, t2, t3, s4.trans t4⟩

theorem afHdr_viol (c : Conn) (b0 b1 : UInt8)
    (hv : Violates c.r.isServer c.r.nego (!c.r.final) (parseHdr b0 b1)) :
    ∃ msg c', afHdr c b0 b1 = (.error (.protocol msg), c') ∧ c'.r.hlog = c.r.hlog ∧ c'.r.buf = c.r.buf ∧
      c'.w = (writeControl c.w 8 ((closePayload 1002 (strBytes msg)).take 125) writeWaitDeadline).2 := by
  have hne : (!(headerErrors c.r.isServer c.r.nego c.r.final (parseHdr b0 b1)).isEmpty) = true := by
    cases hh : headerErrors c.r.isServer c.r.nego c.r.final (parseHdr b0 b1) with
    | nil => exact absurd hv ((headerErrors_nil_iff _ _ _ _).mp hh)
    | cons _ _ => rfl
  unfold afHdr
  simp only [hne, if_true]
  exact ⟨_, _, rfl, rfl, rfl, rfl⟩

theorem afHdr_small (c : Conn) (b0 b1 : UInt8) (hclient : c.r.isServer = false)
    (hok : ¬ Violates c.r.isServer c.r.nego (!c.r.final) (parseHdr b0 b1)) (hlen : (parseHdr b0 b1).len7 < 126) :
    afHdr c b0 b1 = afRest (parseHdr b0 b1)
      { c with r := { c.r with remaining := ((parseHdr b0 b1).len7 : Int),
                               decompress := (parseHdr b0 b1).rsv1 && c.r.nego,
                               final := finalAfter (parseHdr b0 b1).opcode (parseHdr b0 b1).fin c } } := by
  have hmask : (parseHdr b0 b1).mask = false := by rw [mask_of_ok _ _ _ _ hok, hclient]
  have h126 : ¬ ((parseHdr b0 b1).len7 = 126) := by omega
  have h127 : ¬ ((parseHdr b0 b1).len7 = 127) := by omega
  rw [afHdr_eq_tail c b0 b1 ((headerErrors_nil_iff _ _ _ _).mpr hok)]
  unfold afTail afLen afKey
  simp only [Bool.false_eq_true, if_false, h126, h127, hmask]

theorem advance_small (c : Conn) (hc : AtBoundary c) (b0 b1 : UInt8) (rest : Bytes)
    (hclient : c.r.isServer = false) (hp : c.r.buf.pending = b0 :: b1 :: rest)
    (hok : ¬ Violates c.r.isServer c.r.nego (!c.r.final) (parseHdr b0 b1)) (hlen : (parseHdr b0 b1).len7 < 126) :
    ∃ b', advanceFrame c = afRest (parseHdr b0 b1)
        { c with r := { c.r with buf := b', remaining := ((parseHdr b0 b1).len7 : Int),
                                 decompress := (parseHdr b0 b1).rsv1 && c.r.nego,
                                 final := finalAfter (parseHdr b0 b1).opcode (parseHdr b0 b1).fin c } } ∧
      b'.pending = rest := by
  obtain ⟨b', h1, h2, _, _⟩ := advance_head c hc b0 b1 rest hp
  exact ⟨b', h1.trans (afHdr_small _ b0 b1 hclient hok hlen), h2⟩

/-- C04: the first two bytes of the next frame violate the framing rules ⇒ advanceFrame fails with a
    protocol error, no handler runs, exactly one close frame with status 1002 (and a reason cut to
    125 bytes) is written, and the frame's own payload is never looked at. -/
theorem header_violation_rejected (c : Conn) (hc : AtBoundary c) (hw : WHealthy c.w) (b0 b1 : UInt8) (rest : Bytes)
    (hp : c.r.buf.pending = b0 :: b1 :: rest)
    (hv : Violates c.r.isServer c.r.nego (!c.r.final) (parseHdr b0 b1)) :
    ∃ msg c', advanceFrame c = (.error (.protocol msg), c') ∧
      c'.r.hlog = c.r.hlog ∧ c'.r.buf.pending = rest ∧
      c'.w.wire = c.w.wire ++ closeFrameBytes c.w ((closePayload 1002 (strBytes msg)).take 125) ∧
      c'.w.writeErr = some .closeSent := by
  obtain ⟨b', h1, h2, _, _⟩ := advance_head c hc b0 b1 rest hp
  obtain ⟨msg, c', a1, a2, a3, a4⟩ := afHdr_viol { c with r := { c.r with buf := b' } } b0 b1 hv
  have hwc := writeControl_healthy c.w 8 ((closePayload 1002 (strBytes msg)).take 125) hw (by decide)
    (by rw [List.length_take]; omega)
  refine ⟨msg, c', h1.trans a1, a2, by rw [a3]; exact h2, ?_, ?_⟩
  · rw [a4]; exact hwc.1
  · rw [a4]; exact hwc.2

/-- C04 / C06: a 64-bit length with the top bit set is refused with ErrReadLimit before any payload
    is looked at; no handler runs; a best-effort 1009 close frame is written (not a 1002) -/
theorem topbit_length_rejected (c : Conn) (hc : AtBoundary c) (hw : WHealthy c.w) (b0 b1 : UInt8) (ext rest : Bytes)
    (hp : c.r.buf.pending = b0 :: b1 :: ext ++ rest) (hext : ext.length = 8)
    (hok : ¬ Violates c.r.isServer c.r.nego (!c.r.final) (parseHdr b0 b1))
    (h127 : (parseHdr b0 b1).len7 = 127) (htop : 2 ^ 63 ≤ beVal ext) :
    ∃ c', advanceFrame c = (.error .readLimit, c') ∧ c'.r.hlog = c.r.hlog ∧ c'.r.buf.pending = rest ∧
      c'.w.wire = c.w.wire ++ closeFrameBytes c.w (closePayload 1009 []) ∧ c'.w.writeErr = some .closeSent := by
  obtain ⟨b', h1, h2, h3, h4⟩ := advance_head c hc b0 b1 (ext ++ rest) (by rw [hp]; simp)
  obtain ⟨b'', hT2, hc1, _, _⟩ := take_exact b' h3 8 (by have := h4.size; have := hc.size; omega) ext rest h2 hext
  have h126 : ((127 : Nat) = 126) = False := by simp
  have hlt : beVal ext < 2 ^ 64 := by have := beVal_lt ext; rw [hext] at this; exact this
  have hneg := wrap64_neg (beVal ext) htop hlt
  rw [h1, afHdr_eq_tail { c with r := { c.r with buf := b' } } b0 b1 ((headerErrors_nil_iff _ _ _ _).mpr hok)]
  unfold afTail afLen
  simp only [h126, h127, if_false, if_true, hT2, hneg]
  exact ⟨_, rfl, rfl, hc1, (sendTooBig_healthy _ hw).2.1, (sendTooBig_healthy _ hw).2.2⟩

/-- errors are permanent: once NextReader has failed, every later call returns the same error (up to the
    documented panic after 1000 calls), runs no handler, writes nothing and consumes nothing -/
theorem nextReader_sticky (c : Conn) (e : RErr) (he : c.r.readErr = some e) (hn : c.r.errCount + 1 < 1000) :
    ∃ c', nextReader c = (.err e, c') ∧ c'.r.readErr = some e ∧ c'.w = c.w ∧ c'.r.hlog = c.r.hlog ∧
      c'.r.buf = c.r.buf ∧ c'.r.errCount = c.r.errCount + 1 := by
  have hn' : ¬ (c.r.errCount + 1 ≥ 1000) := by omega
  unfold nextReader
  simp only [he, hn', if_false, Option.getD_some]
  exact ⟨_, rfl, rfl, rfl, rfl, rfl, rfl⟩

/-- and the documented exception: the 1000th failed call panics -/
theorem nextReader_panics_at_1000 (c : Conn) (e : RErr) (he : c.r.readErr = some e) (hn : 1000 ≤ c.r.errCount + 1) :
    ∃ c', nextReader c = (.panic, c') := by
  have hn' : (c.r.errCount + 1 ≥ 1000) := by omega
  unfold nextReader
  simp only [he, hn', if_true]
  exact ⟨_, rfl⟩

/-- the error is io.EOF for a stale reader, else the latched one (a latched io.EOF as ErrUnexpectedEOF) -/
theorem mrRead_failed (c : Conn) (e : RErr) (he : c.r.readErr = some e) (rid k : Nat) :
    ∃ e', mrRead c rid k = (([], some e'), c) := by
  by_cases hm : c.r.msgReader = some rid
  · exact ⟨_, (RobustAux.mrRead_cur c rid k hm).trans (RobustAux.mrReadLoop_on_latched _ c rid k e he)⟩
  · exact ⟨_, RobustAux.mrRead_stale c rid k hm⟩

theorem mrRead_after_error (c : Conn) (e : RErr) (he : c.r.readErr = some e) (rid k : Nat) :
    ((mrRead c rid k).1).1 = [] ∧ ((mrRead c rid k).1).2.isSome ∧ (mrRead c rid k).2.w = c.w := by
  obtain ⟨e', h⟩ := mrRead_failed c e he rid k
  rw [h]
  exact ⟨rfl, rfl, rfl⟩

/-- the running sum a data frame is added to: a text / binary frame starts a new message.
    This is `AdvFrame.lenBase h.opcode c` (`sumBase_eq`); the proofs below turn to `lenBase` at once. -/
def sumBase (c : Conn) (h : Hdr) : Int := if h.opcode = 0 then c.r.length else 0

theorem sumBase_eq (c : Conn) (h : Hdr) : sumBase c h = lenBase h.opcode c := by
  unfold sumBase lenBase
  simp only [beq_iff_eq]

/-- C06: the data frame whose header makes the running sum exceed the limit is refused before any byte of its
    payload is consumed: ErrReadLimit, a 1009 close frame (client reader, 7-bit length) -/
theorem limit_refuses_small (c : Conn) (hc : AtBoundary c) (hw : WHealthy c.w) (b0 b1 : UInt8) (rest : Bytes)
    (hclient : c.r.isServer = false) (hp : c.r.buf.pending = b0 :: b1 :: rest)
    (hok : ¬ Violates c.r.isServer c.r.nego (!c.r.final) (parseHdr b0 b1))
    (hdata : (parseHdr b0 b1).opcode ≤ 2) (hlen : (parseHdr b0 b1).len7 < 126)
    (hlim : 0 < c.r.limit) (hsum : 0 ≤ c.r.length) (hsmall : c.r.length < 2 ^ 62)
    (hover : c.r.limit < sumBase c (parseHdr b0 b1) + (parseHdr b0 b1).len7) :
    ∃ c', advanceFrame c = (.error .readLimit, c') ∧ c'.r.buf.pending = rest ∧ c'.r.hlog = c.r.hlog ∧
      c'.w.wire = c.w.wire ++ closeFrameBytes c.w (closePayload 1009 []) ∧ c'.w.writeErr = some .closeSent := by
  obtain ⟨b', h1, h2⟩ := advance_small c hc b0 b1 rest hclient hp hok hlen
  have hop : ((parseHdr b0 b1).opcode == 0 || (parseHdr b0 b1).opcode == 1 || (parseHdr b0 b1).opcode == 2) = true := by
    simp only [Bool.or_eq_true, beq_iff_eq]; omega
  have hB0 := lenBase_nonneg (parseHdr b0 b1).opcode c hsum
  have hB1 := lenBase_le (parseHdr b0 b1).opcode c hsum
  rw [sumBase_eq] at hover
  unfold afRest at h1
  simp only [hop, if_true] at h1
  have h1' := h1.trans (afData_over _ _ (parseHdr b0 b1).len7 rfl hB0
    (by show lenBase _ c + _ < _; omega) hlim hover)
  exact ⟨_, h1', h2, rfl, (sendTooBig_healthy _ hw).2.1, (sendTooBig_healthy _ hw).2.2⟩

theorem data_small_accepted (c : Conn) (hc : AtBoundary c) (b0 b1 : UInt8) (rest : Bytes)
    (hclient : c.r.isServer = false) (hp : c.r.buf.pending = b0 :: b1 :: rest)
    (hok : ¬ Violates c.r.isServer c.r.nego (!c.r.final) (parseHdr b0 b1))
    (hdata : (parseHdr b0 b1).opcode ≤ 2) (hlen : (parseHdr b0 b1).len7 < 126)
    (hB0 : 0 ≤ sumBase c (parseHdr b0 b1)) (hB1 : sumBase c (parseHdr b0 b1) < 2 ^ 62)
    (hunder : c.r.limit ≤ 0 ∨ sumBase c (parseHdr b0 b1) + (parseHdr b0 b1).len7 ≤ c.r.limit) :
    ∃ c', advanceFrame c = (.ok (parseHdr b0 b1).opcode, c') ∧
      c'.r.length = sumBase c (parseHdr b0 b1) + (parseHdr b0 b1).len7 ∧ c'.r.buf.pending = rest ∧ c'.w = c.w := by
  obtain ⟨b', h1, h2⟩ := advance_small c hc b0 b1 rest hclient hp hok hlen
  have hop : ((parseHdr b0 b1).opcode == 0 || (parseHdr b0 b1).opcode == 1 || (parseHdr b0 b1).opcode == 2) = true := by
    simp only [Bool.or_eq_true, beq_iff_eq]; omega
  rw [sumBase_eq] at hB0 hB1 hunder ⊢
  unfold afRest at h1
  simp only [hop, if_true] at h1
  have h1' := h1.trans (afData_ok _ _ (parseHdr b0 b1).len7 rfl hB0
    (by show lenBase _ c + _ < _; omega) hunder)
  exact ⟨_, h1', rfl, h2, rfl⟩

/-- C06 (history independence): a text / binary frame within the limit is admitted whatever running
    sum an abandoned earlier message left behind (regression sentinel for finding F2) -/
theorem new_message_restarts_sum (c : Conn) (hc : AtBoundary c) (b0 b1 : UInt8) (rest : Bytes)
    (hclient : c.r.isServer = false) (hp : c.r.buf.pending = b0 :: b1 :: rest)
    (hok : ¬ Violates c.r.isServer c.r.nego (!c.r.final) (parseHdr b0 b1))
    (hdata : (parseHdr b0 b1).opcode = 1 ∨ (parseHdr b0 b1).opcode = 2) (hlen : (parseHdr b0 b1).len7 < 126)
    (hlim : ((parseHdr b0 b1).len7 : Int) ≤ c.r.limit) :
    ∃ c', advanceFrame c = (.ok (parseHdr b0 b1).opcode, c') ∧ c'.r.length = (parseHdr b0 b1).len7 ∧
      c'.r.buf.pending = rest ∧ c'.w = c.w := by
  -- the sum the frame is added to is 0 whatever `c.r.length` is
  have hbase : sumBase c (parseHdr b0 b1) = 0 := by
    unfold sumBase; rw [if_neg (by omega)]
  obtain ⟨c', h1, h2, h3⟩ := data_small_accepted c hc b0 b1 rest hclient hp hok (by omega) hlen
    (by rw [hbase]; decide) (by rw [hbase]; decide) (Or.inr (by rw [hbase]; omega))
  exact ⟨c', h1, by rw [h2, hbase]; omega, h3⟩

end WS.ReaderRejects

/-! ### encoded frames, either role -/

namespace WS.RoleGeneric
open WS WS.Codec WS.SrcLaw WS.HdrLogic WS.ReaderDecodes WS.ReaderRejects WS.AdvFrame

theorem advance_prefix (c : Conn) (hc : AtBoundary c) (tail : Bytes) (op : Nat) (fin : Bool) (key : Key) (payload : Bytes)
    (hp : c.r.buf.pending = PFrame.enc c.r.isServer ⟨op, fin, key, payload⟩ ++ tail)
    (hop16 : op < 16)
    (herrs : headerErrors c.r.isServer c.r.nego c.r.final ⟨op, fin, false, false, false, c.r.isServer, l7 payload.length⟩ = [])
    (hlen : payload.length < 2 ^ 62) :
    ∃ b', advanceFrame c =
        afRest ⟨op, fin, false, false, false, c.r.isServer, l7 payload.length⟩
          { c with r := { c.r with buf := b', remaining := (payload.length : Int), decompress := false, final := finalAfter op fin c, maskPos := (if c.r.isServer then 0 else c.r.maskPos), maskKey := (if c.r.isServer then key else c.r.maskKey) } } ∧
      b'.pending = body c.r.isServer key payload ++ tail ∧ WF b' ∧ Same2 c.r.buf b' :=
  advance_prefix_raw c [] tail op fin key payload (by rw [hc.rem]; rfl) hc.wf hc.size hp hop16 herrs hlen

theorem advance_ctl (c : Conn) (hc : AtBoundary c) (op : Nat) (hop : op = 8 ∨ op = 9 ∨ op = 10)
    (key : Key) (payload rest : Bytes) (hl : payload.length ≤ 125)
    (hp : c.r.buf.pending = PFrame.enc c.r.isServer ⟨op, true, key, payload⟩ ++ rest) :
    ∃ c2, advanceFrame c = afDispatch ⟨op, true, false, false, false, c.r.isServer, l7 payload.length⟩ payload c2 ∧
      c2.w = c.w ∧ c2.r.hlog = c.r.hlog ∧ c2.r.hClose = c.r.hClose ∧ c2.r.hPing = c.r.hPing ∧
      c2.r.buf.pending = rest ∧ c2.r.readErr = c.r.readErr ∧ c2.r.final = c.r.final := by
  have hsz := hc.size
  have hopb : (op == 0 || op == 1 || op == 2) = false := by
    rcases hop with rfl | rfl | rfl <;> rfl
  have hfin : finalAfter op true c = c.r.final := by
    rcases hop with rfl | rfl | rfl <;> rfl
  obtain ⟨b1, a1, a2, a3, a4⟩ := advance_prefix c hc rest op true key payload hp (by omega)
    (hdrErrs_ctl3 _ _ _ op _ hop (by rw [l7_small _ hl]; exact hl)) (by omega)
  obtain ⟨b2, r1, r2, r3, r4⟩ := afRest_ctl ⟨op, true, false, false, false, c.r.isServer, l7 payload.length⟩
    { c with r := { c.r with buf := b1, remaining := (payload.length : Int), decompress := false, final := finalAfter op true c, maskPos := (if c.r.isServer then 0 else c.r.maskPos), maskKey := (if c.r.isServer then key else c.r.maskKey) } }
    key payload rest hopb rfl a3 (by have := a4.size; simp only [] at this ⊢; omega) a2
    (by intro h; simp only [] at h ⊢; rw [if_pos h])
  rw [r1] at a1
  exact ⟨_, a1, rfl, rfl, rfl, rfl, r2, rfl, hfin⟩

/-- C08 default_ping_pong, either role: a ping of 0..125 bytes reaches the ping handler once with its
    exact (unmasked) payload and the default handler answers with one pong carrying it -/
theorem ping_answered_any (c : Conn) (hc : AtBoundary c) (hw : WHealthy c.w) (hd : c.r.hPing = .dflt)
    (key : Key) (payload rest : Bytes) (hl : payload.length ≤ 125)
    (hp : c.r.buf.pending = PFrame.enc c.r.isServer ⟨9, true, key, payload⟩ ++ rest) :
    ∃ c', advanceFrame c = (.ok 9, c') ∧ c'.r.hlog = c.r.hlog ++ [.ping payload] ∧ c'.r.buf.pending = rest ∧
      c'.w.wire = c.w.wire ++ controlFrame c.w.isServer 10 payload (ctlKey c.w).1 ∧
      c'.r.readErr = none ∧ c'.r.final = c.r.final := by
  obtain ⟨c2, a1, e1, e2, _, e4, e5, e6, e7⟩ := advance_ctl c hc 9 (Or.inr (Or.inl rfl)) key payload rest hl hp
  rw [afDispatch_ping _ _ _ rfl (e4.trans hd), e1, e2] at a1
  have hwc := writeControl_healthy (emit c.w (Ev.hPing payload)) 10 payload hw (by decide) hl
  rw [ctlKey_emit] at hwc
  exact ⟨_, a1, rfl, e5, hwc.1, e6.trans hc.noErr, e7⟩

/-- C08 default_close_echo, either role: a close frame with an accepted code and a UTF-8 reason is handed to the
    close handler once, echoed (default handler) by a close frame with the same code and no reason, and reported as
    CloseError{code, reason} -/
theorem close_echoed_any (c : Conn) (hc : AtBoundary c) (hw : WHealthy c.w) (hd : c.r.hClose = .dflt)
    (key : Key) (code : Nat) (reason rest : Bytes)
    (hcode : isValidReceivedCloseCode code = true) (hc16 : code < 65536) (hutf : Spec.validUtf8 reason = true)
    (hl : reason.length ≤ 123)
    (hp : c.r.buf.pending = PFrame.enc c.r.isServer ⟨8, true, key, beBytes 2 code ++ reason⟩ ++ rest) :
    ∃ c', advanceFrame c = (.error (.close code reason), c') ∧ c'.r.hlog = c.r.hlog ++ [.close code reason] ∧
      c'.w.wire = c.w.wire ++ controlFrame c.w.isServer 8 (closePayload code []) (ctlKey c.w).1 ∧
      c'.w.writeErr = some .closeSent := by
  have hPl : (beBytes 2 code ++ reason).length ≤ 125 := by
    rw [List.length_append, beBytes_length]; omega
  obtain ⟨c2, a1, e1, e2, e3, _⟩ := advance_ctl c hc 8 (Or.inl rfl) key (beBytes 2 code ++ reason) rest hPl hp
  rw [afDispatch_close _ _ rfl (e3.trans hd) code reason hcode hc16 hutf, e1, e2] at a1
  have hwc := writeControl_healthy (emit c.w (Ev.hClose code reason)) 8 (closePayload code []) hw (by decide)
    (closePayload_nil_len code)
  rw [ctlKey_emit] at hwc
  exact ⟨_, a1, rfl, hwc.1, hwc.2⟩

/-- C06 limit_refuses, either role, any length encoding the writer can produce for a payload below 2^16: the
    data frame (first of a message, or a continuation when one is open) whose length takes the running sum over
    the limit is refused: ErrReadLimit, the payload is not consumed, a 1009 close frame is written -/
theorem limit_refuses_any (c : Conn) (hc : AtBoundary c) (hw : WHealthy c.w)
    (op : Nat) (fin : Bool) (key : Key) (payload rest : Bytes) (hl : payload.length < 65536)
    (hop : (c.r.final = true ∧ (op = 1 ∨ op = 2)) ∨ (c.r.final = false ∧ op = 0))
    (hp : c.r.buf.pending = PFrame.enc c.r.isServer ⟨op, fin, key, payload⟩ ++ rest)
    (hlim : 0 < c.r.limit) (hsum : 0 ≤ c.r.length) (hsmall : c.r.length < 2 ^ 62)
    (hover : c.r.limit < (if op = 0 then c.r.length else 0) + payload.length) :
    ∃ c', advanceFrame c = (.error .readLimit, c') ∧
      c'.r.buf.pending = (if c.r.isServer then maskFrom key 0 payload else payload) ++ rest ∧
      c'.r.hlog = c.r.hlog ∧
      c'.w.wire = c.w.wire ++ closeFrameBytes c.w (closePayload 1009 []) ∧ c'.w.writeErr = some .closeSent := by
  have hsz := hc.size
  have hop16 : op < 16 := by omega
  have herrs := hdrErrs_data c.r.isServer c.r.nego c.r.final fin false op (l7 payload.length) (fun h => nomatch h)
    (by rcases hop with ⟨h1, h2⟩ | ⟨h1, h2⟩
        · exact Or.inr ⟨h2, h1⟩
        · exact Or.inl ⟨h2, h1⟩)
  obtain ⟨b1, a1, a2, a3, a4⟩ := advance_prefix c hc rest op fin key payload hp hop16 herrs (by omega)
  have hopb : (op == 0 || op == 1 || op == 2) = true := by
    rcases hop with ⟨_, rfl | rfl⟩ | ⟨_, rfl⟩ <;> rfl
  have hb : lenBase op c = (if op = 0 then c.r.length else 0) := by
    unfold lenBase; simp only [beq_iff_eq]
  have hb0 : 0 ≤ lenBase op c := lenBase_nonneg op c hsum
  have hb1 : lenBase op c ≤ c.r.length := lenBase_le op c hsum
  unfold afRest at a1
  simp only [hopb, if_true] at a1
  have a1' := a1.trans (afData_over _ _ payload.length rfl hb0
    (by show lenBase op c + _ < _; omega) hlim
    (by show c.r.limit < lenBase op c + _; rw [hb]; exact hover))
  exact ⟨_, a1', a2, rfl, (sendTooBig_healthy _ hw).2.1, (sendTooBig_healthy _ hw).2.2⟩

end WS.RoleGeneric

/-! ### the same for a client-side reader: peer frames are unmasked -/

namespace WS.ReaderRejects
open WS.ReaderDecodes WS.RoleGeneric WS.AdvFrame WS.Codec

theorem enc_client_small (op : Nat) (fin : Bool) (key : Key) (payload : Bytes) (hl : payload.length ≤ 125) :
    PFrame.enc false ⟨op, fin, key, payload⟩ =
      [UInt8.ofNat (op + if fin then 128 else 0), UInt8.ofNat payload.length] ++ payload := by
  have hx : ext payload.length = [] := by
    unfold ext; rw [if_neg (by omega), if_neg (by omega)]
  unfold PFrame.enc PFrame.b0
  rw [encode_eq false, l7_small _ hl, hx]
  simp [mbit, keyBytes, body]

/-- `ping_answered_any` for a client reader: peer frames are unmasked -/
theorem ping_answered (c : Conn) (hc : AtBoundary c) (hw : WHealthy c.w) (hclient : c.r.isServer = false)
    (hd : c.r.hPing = .dflt) (payload rest : Bytes) (hl : payload.length ≤ 125)
    (hp : c.r.buf.pending = [137, UInt8.ofNat payload.length] ++ payload ++ rest) :
    ∃ c', advanceFrame c = (.ok 9, c') ∧ c'.r.hlog = c.r.hlog ++ [.ping payload] ∧ c'.r.buf.pending = rest ∧
      c'.w.wire = c.w.wire ++ controlFrame c.w.isServer 10 payload (ctlKey c.w).1 ∧
      c'.r.readErr = none ∧ c'.r.final = c.r.final :=
  ping_answered_any c hc hw hd default payload rest hl (by rw [hclient, enc_client_small 9 true _ _ hl]; exact hp)

/-- `close_echoed_any` for a client reader -/
theorem close_echoed (c : Conn) (hc : AtBoundary c) (hw : WHealthy c.w) (hclient : c.r.isServer = false)
    (hd : c.r.hClose = .dflt) (code : Nat) (reason rest : Bytes)
    (hcode : isValidReceivedCloseCode code = true) (hc16 : code < 65536) (hutf : Spec.validUtf8 reason = true)
    (hl : reason.length ≤ 123)
    (hp : c.r.buf.pending = [136, UInt8.ofNat (2 + reason.length)] ++ beBytes 2 code ++ reason ++ rest) :
    ∃ c', advanceFrame c = (.error (.close code reason), c') ∧ c'.r.hlog = c.r.hlog ++ [.close code reason] ∧
      c'.w.wire = c.w.wire ++ controlFrame c.w.isServer 8 (closePayload code []) (ctlKey c.w).1 ∧
      c'.w.writeErr = some .closeSent := by
  have hPl : (beBytes 2 code ++ reason).length = 2 + reason.length := by
    rw [List.length_append, beBytes_length]
  refine close_echoed_any c hc hw hd default code reason rest hcode hc16 hutf hl ?_
  rw [hclient, enc_client_small 8 true _ _ (by omega), hPl, hp]
  simp only [List.append_assoc]
  rfl

end WS.ReaderRejects
