import WS.Model.Mask
import WS.Model.Trunc
import WS.Lemmas.Mask
/-
  C01, data transformation. `mask_words_eq_bytes`: mask.go's `maskBytes` (`maskBytesGo`: bytes up to
  word alignment, whole words, tail bytes) is `maskFrom`, which the writer and reader models call
  directly. `trunc_any_chunking`: truncWriter (`Trunc`) forwards all but the last four bytes for every
  chunking; `hClose` in the writer model compares against `full.take (len - 4)` directly.
-/
namespace WS.MaskTrunc
open WS


theorem mask_split (k : Key) (pos n : Nat) (b : Bytes) (hn : n ≤ b.length) :
    maskFrom k pos (b.take n)
      ++ xorWords ((List.range 8).map (fun i => k.at (pos + n + i))) ((b.drop n).length / 8)
           ((b.drop n).take ((b.drop n).length / 8 * 8))
      ++ maskFrom k (pos + n) ((b.drop n).drop ((b.drop n).length / 8 * 8))
    = maskFrom k pos b := by
  generalize hb1 : b.drop n = b1
  have hlen : (b1.take (b1.length / 8 * 8)).length = b1.length / 8 * 8 := by
    rw [List.length_take]; omega
  rw [xorWords_eq k (pos + n) _ _ hlen]
  rw [maskFrom_congr k (p := pos + n) (q := pos + n + (b1.take (b1.length / 8 * 8)).length)
        (by rw [hlen]; omega) (b1.drop (b1.length / 8 * 8))]
  have htn : (b.take n).length = n := by rw [List.length_take]; omega
  rw [List.append_assoc, ← maskFrom_append]
  rw [List.take_append_drop]
  have := maskFrom_append k pos (b.take n) b1
  rw [htn, ← hb1, List.take_append_drop] at this
  rw [this, hb1]

/-- `a`: the address alignment of the slice -/
theorem mask_words_eq_bytes (k : Key) (pos a : Nat) (b : Bytes) :
    maskBytesGo k pos a b = (maskFrom k pos b, (pos + b.length) % 4) := by
  unfold maskBytesGo
  split
  · rfl
  · rename_i hlt
    have hn : (if a % wordSize ≠ 0 then wordSize - a % wordSize else 0) ≤ b.length := by
      have hws : wordSize = 8 := rfl
      split <;> omega
    generalize (if a % wordSize ≠ 0 then wordSize - a % wordSize else 0) = n at hn
    simp only [wordSize]
    -- the words cover a multiple of 8 bytes, so the tail leaves the offset modulo 4 where all of `b` does
    rw [mask_split k pos n b hn, List.length_drop]
    congr 1
    omega

def writeAll (cs : List Bytes) : Trunc := cs.foldl Trunc.write {}


/-- the "write p[:m]; slide; refill from the end of q" step, on a full 4-byte buffer -/
theorem slide (p1 q1 : Bytes) (hp : p1.length = 4) :
    p1.take (min q1.length 4) ++ q1.take (q1.length - min q1.length 4)
        ++ (p1.drop (min q1.length 4) ++ q1.drop (q1.length - min q1.length 4)) = p1 ++ q1 ∧
    (p1.drop (min q1.length 4) ++ q1.drop (q1.length - min q1.length 4)).length = 4 := by
  refine ⟨?_, by simp only [List.length_append, List.length_drop]; omega⟩
  by_cases hq : 4 ≤ q1.length
  · have hm : min q1.length 4 = 4 := by omega
    rw [hm, List.take_of_length_le (by omega), List.drop_of_length_le (by omega : p1.length ≤ 4)]
    simp
  · have hm : min q1.length 4 = q1.length := by omega
    rw [hm]
    simp [← List.append_assoc]

theorem Trunc.write_inv (w : Trunc) (q : Bytes)
    (h : w.p.length = min 4 (w.forwarded ++ w.p).length) :
    (w.write q).forwarded ++ (w.write q).p = w.forwarded ++ w.p ++ q ∧
    (w.write q).p.length = min 4 (w.forwarded ++ w.p ++ q).length := by
  have hpl : w.p.length ≤ 4 := by omega
  have hf : w.p.length < 4 → w.forwarded = [] := by
    intro hlt
    apply List.eq_nil_of_length_eq_zero
    rw [List.length_append] at h
    omega
  unfold Trunc.write
  simp only
  generalize hn : min (4 - w.p.length) q.length = n
  split
  · rename_i hemp
    have hqn : q.length ≤ n := by
      simpa [List.isEmpty_iff, List.drop_eq_nil_iff] using hemp
    have htake : q.take n = q := List.take_of_length_le hqn
    simp only [Trunc.forwarded, htake]
    refine ⟨by simp [List.append_assoc], ?_⟩
    by_cases hlt : w.p.length < 4
    · have := hf hlt
      simp only [Trunc.forwarded] at this
      simp only [this, List.length_append, List.length_nil]
      omega
    · simp only [List.length_append]
      omega
  · rename_i hne
    have hqn : n < q.length := by
      have : ¬ q.length ≤ n := by
        simpa [List.isEmpty_iff, List.drop_eq_nil_iff] using hne
      omega
    have hp1 : (w.p ++ q.take n).length = 4 := by
      rw [List.length_append, List.length_take]; omega
    have hsl := slide (w.p ++ q.take n) (q.drop n) hp1
    simp only [Trunc.forwarded, List.flatten_append, List.flatten_cons, List.flatten_nil,
      List.append_nil]
    refine ⟨?_, ?_⟩
    · rw [List.append_assoc w.out.flatten, List.append_assoc w.out.flatten, hsl.1]
      simp [List.append_assoc]
    · rw [hsl.2]
      simp only [List.length_append]
      omega

theorem foldl_write_inv (cs : List Bytes) (w : Trunc)
    (h : w.p.length = min 4 (w.forwarded ++ w.p).length) :
    (cs.foldl Trunc.write w).forwarded ++ (cs.foldl Trunc.write w).p
        = w.forwarded ++ w.p ++ cs.flatten ∧
    (cs.foldl Trunc.write w).p.length = min 4 (w.forwarded ++ w.p ++ cs.flatten).length := by
  induction cs generalizing w with
  | nil => simpa using h
  | cons c cs ih =>
    have hw := Trunc.write_inv w c h
    have := ih (w.write c) (by rw [hw.1]; exact hw.2)
    simp only [List.foldl_cons, List.flatten_cons]
    rw [hw.1] at this
    simpa [List.append_assoc] using this

theorem trunc_any_chunking (cs : List Bytes) :
    (writeAll cs).forwarded ++ (writeAll cs).p = cs.flatten ∧
    (writeAll cs).p.length = min 4 cs.flatten.length := by
  have := foldl_write_inv cs {} (by simp [Trunc.forwarded])
  simpa [writeAll, Trunc.forwarded] using this

end WS.MaskTrunc
