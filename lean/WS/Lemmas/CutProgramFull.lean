import WS.Lemmas.CutProgram
import WS.Lemmas.OverLimit
/-
  A reader inside a message that exceeds the read limit, at program level: steps of the program-level C05
  statement without the "within the read limit" restriction, which is NOT PROVED (nothing else uses them).
  A Read on such a message either delivers a piece (the reader stays before the crossing frame) or fails with
  ErrReadLimit, which latches `readErr`, so that `CutProgram.latched_nil` applies afterwards.
-/
namespace WS.CutProgramFull
open WS WS.Codec WS.ReaderDecodes WS.ReadProgram WS.CutProgram WS.OverLimitAux WS.RobustAux

/-- `.any`: the model's own out-of-fuel answer -/
theorem mrReadLoop_latch : ∀ (fuel : Nat) (c : Conn) (rid k : Nat),
    (mrReadLoop fuel c rid k).2.r.readErr = none →
      (mrReadLoop fuel c rid k).1.2 = none ∨ (mrReadLoop fuel c rid k).1.2 = some .eof ∨
        (mrReadLoop fuel c rid k).1.2 = some .any := by
  intro fuel
  induction fuel with
  | zero => intro c rid k _; exact Or.inr (Or.inr rfl)
  | succ fuel ih =>
    intro c rid k
    cases he : c.r.readErr with
    | some e =>
      rw [mrReadLoop_on_latched fuel c rid k e he]
      intro h
      rw [he] at h
      cases h
    | none =>
      by_cases hr : c.r.remaining > 0
      · rw [mrReadLoop_on_data fuel c rid k he hr]
        exact fun h => Or.inl h
      · cases hf : c.r.final with
        | true =>
          rw [mrReadLoop_on_eom fuel c rid k he hr hf]
          exact fun _ => Or.inr (Or.inl rfl)
        | false =>
          rcases ha : advanceFrame c with ⟨e | t, c'⟩
          · rw [mrReadLoop_on_err fuel c rid k he hr hf e c' ha]
            exact ih _ rid k
          · rw [mrReadLoop_on_ok fuel c rid k he hr hf t c' ha]
            split
            · exact ih _ rid k
            · exact ih _ rid k

theorem mrReadLoop_readLimit_latched : ∀ (fuel : Nat) (c : Conn) (rid k : Nat) (out : Bytes) (c' : Conn),
    mrReadLoop fuel c rid k = ((out, some .readLimit), c') → ∃ e, c'.r.readErr = some e := by
  intro fuel c rid k out c' h
  have hl := mrReadLoop_latch fuel c rid k
  rw [h] at hl
  cases hc : c'.r.readErr with
  | some e => exact ⟨e, rfl⟩
  | none => rcases hl hc with h | h | h <;> cases h

theorem over_reads_nil (S : Bool) (rid : Nat) (rest : Bytes) (L : Int) (hL : 0 < L) :
    ∀ (ops : List ROp) (c : Conn) (wire : Bytes) (more : List PFrame) (cst : Option (Nat × Bytes)),
      Ov S rid rest L c wire more → (∀ op ∈ ops, op.isNext = false) →
      completedAux (runProg ops c (some rid)).1 cst = [] := by
  intro ops
  induction ops with
  | nil => intro c _ _ cst _ _; rfl
  | cons op ops ih =>
    intro c wire more cst hov hops
    cases op with
    | next => exact absurd (hops .next (by simp)) (by simp [ROp.isNext])
    | read k =>
      have hops' : ∀ op ∈ ops, op.isNext = false := fun op h => hops op (by simp [h])
      have hcf := hov.st.env.fuel_lt 1
      have hmr := WS.RobustAux.mrRead_cur c rid (k + 1) hov.mr
      rcases mrReadLoop_over S rid (k + 1) (by omega) rest L hL (c.fuel + 1) c wire more hov hcf with
        ⟨out, c', w', m', b1, b2, _, _, _⟩ | ⟨c', b1⟩
      · rw [← hmr] at b1
        simp only [runProg, b1]
        rw [completedAux_data]
        exact ih c' w' m' _ b2 hops'
      · obtain ⟨e, he⟩ := mrReadLoop_readLimit_latched _ _ _ _ _ _ b1
        rw [← hmr] at b1
        simp only [runProg, b1]
        rw [completedAux_ret_err _ _ _ _ (by simp)]
        exact latched_nil e ops c' (some rid) he

end WS.CutProgramFull
