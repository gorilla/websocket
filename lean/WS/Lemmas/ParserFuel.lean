import WS.Model.Http
import WS.Lemmas.RobustHttp
/-
  C07 for the header parsers ("loop without consuming input"): the loops of tokenListContainsValue,
  parseExtensions and of the base64 length walk carry a fuel argument in the model. The fuel is an artefact:
  every iteration consumes at least one byte of its input, so the fuel the model passes (length + 1) is never
  exhausted and any larger fuel gives the same result.
-/
namespace WS.ParserFuel
open WS WS.Http

theorem skipSpace_le (s : Bytes) : (skipSpace s).length ≤ s.length :=
  Scan.skipSpace_eq s ▸ Scan.dropWhile_length_le _ _

theorem nextToken_len (s : Bytes) : (nextToken s).1.length + (nextToken s).2.length = s.length := by
  rw [← List.length_append]
  exact congrArg List.length List.takeWhile_append_dropWhile

theorem nextToken_le (s : Bytes) : (nextToken s).2.length ≤ s.length :=
  Scan.dropWhile_length_le _ _

theorem nextToken_lt (s : Bytes) (h : (nextToken s).1.isEmpty = false) :
    (nextToken s).2.length < s.length := by
  have := nextToken_len s
  have : (nextToken s).1.length ≠ 0 := by
    intro h0
    have := List.length_eq_zero_iff.mp h0
    simp [this] at h
  omega

theorem lineContainsAux_mono (n : Nat) : ∀ (m : Nat) (s value : Bytes), s.length + 1 ≤ n → s.length + 1 ≤ m →
    lineContainsAux n s value = lineContainsAux m s value := by
  induction n with
  | zero => intro m s value h; omega
  | succ n ih =>
    intro m s value hn hm
    cases m with
    | zero => omega
    | succ m =>
      unfold lineContainsAux
      simp only []
      split
      · rfl
      · rename_i hne
        split
        · rfl
        · rename_i c rest heq
          split
          · rfl
          · split
            · rfl
            · have h1 := skipSpace_le s
              have h2 := nextToken_le (skipSpace s)
              have h3 := skipSpace_le (nextToken (skipSpace s)).2
              have h4 := congrArg List.length heq
              simp at h4
              apply ih <;> omega

theorem b64LenAux_mono (n : Nat) : ∀ (m : Nat) (s : Bytes) (k : Nat), s.length + 1 ≤ n → s.length + 1 ≤ m →
    b64LenAux n s k = b64LenAux m s k := by
  induction n with
  | zero => intro m s k h; omega
  | succ n ih =>
    intro m s k hn hm
    cases m with
    | zero => omega
    | succ m =>
      unfold b64LenAux
      split
      · rfl
      · split
        · simp at hn hm
          apply ih <;> omega
        · rfl
        · rfl
        · rfl
      · rfl

/- One round of `paramsAux` reads `OWS ";" OWS key [OWS "=" OWS value OWS]` and then stops or goes on with what is left.
   The scanners return suffixes of their input and the ';' is consumed, so the next round starts on something
   strictly shorter. -/

/-- the optional `"=" OWS value OWS` after a key: the value and what is left -/
def valueOf (t : Bytes) : Bytes × Bytes :=
  match t with
  | 61 :: r2 => ((nextTokenOrQuoted (skipSpace r2)).1, skipSpace (nextTokenOrQuoted (skipSpace r2)).2)
  | _ => ([], t)

theorem valueOf_rest_le (t : Bytes) : (valueOf t).2.length ≤ t.length := by
  unfold valueOf
  split
  · rename_i r2
    have b1 := skipSpace_le r2
    have b2 := (Scan.nextTokenOrQuoted_length (skipSpace r2)).2
    have b3 := skipSpace_le (nextTokenOrQuoted (skipSpace r2)).2
    simp only [List.length_cons]
    omega
  · exact Nat.le_refl _

/-- `OWS key [OWS "=" OWS value OWS]` after a ';': the parameter, and what is left -/
def param (r : Bytes) : (Bytes × Bytes) × Bytes :=
  (((nextToken (skipSpace r)).1, (valueOf (skipSpace (nextToken (skipSpace r)).2)).1),
   (valueOf (skipSpace (nextToken (skipSpace r)).2)).2)

/-- one round of `paramsAux`, the `let`-bound pairs written as projections -/
theorem paramsAux_succ (n : Nat) (s : Bytes) (acc : Ext) : paramsAux (n + 1) s acc =
    match skipSpace s with
    | 59 :: r =>
      if (param r).1.1.isEmpty then (acc, (nextToken (skipSpace r)).2, false)
      else
        match (param r).2 with
        | [] => paramsAux n (param r).2 (acc ++ [(param r).1])
        | c :: _ =>
          if c != 44 && c != 59 then (acc, (param r).2, false) else paramsAux n (param r).2 (acc ++ [(param r).1])
    | _ => (acc, skipSpace s, true) := rfl

theorem param_rest_lt (s r : Bytes) (hr : skipSpace s = 59 :: r) : (param r).2.length < s.length := by
  have a1 := skipSpace_le s
  have a2 := congrArg List.length hr
  have a3 := skipSpace_le r
  have a4 := nextToken_le (skipSpace r)
  have a5 := skipSpace_le (nextToken (skipSpace r)).2
  have a6 := valueOf_rest_le (skipSpace (nextToken (skipSpace r)).2)
  simp only [List.length_cons] at a2
  show (valueOf _).2.length < _
  omega

theorem paramsAux_mono (n : Nat) : ∀ (m : Nat) (s : Bytes) (acc : Ext), s.length + 1 ≤ n → s.length + 1 ≤ m →
    paramsAux n s acc = paramsAux m s acc := by
  induction n with
  | zero => intro m s acc h; omega
  | succ n ih =>
    intro m s acc hn hm
    cases m with
    | zero => omega
    | succ m =>
      rw [paramsAux_succ, paramsAux_succ]
      split
      · rename_i r hr
        have hlt := param_rest_lt s r hr
        split
        · rfl                                     -- no key: stop
        · split
          · exact ih _ _ _ (by omega) (by omega)   -- input exhausted
          · split
            · rfl                                 -- neither ',' nor ';' follows: stop
            · exact ih _ _ _ (by omega) (by omega) -- next parameter, or next extension
      · rfl                                       -- no ';': the parameters end here

theorem paramsAux_rest_le (n : Nat) (s : Bytes) (acc : Ext) :
    (paramsAux n s acc).2.1.length ≤ s.length := by
  induction n generalizing s acc with
  | zero => simp [paramsAux]
  | succ n ih =>
    rw [paramsAux_succ]
    have a1 := skipSpace_le s
    split
    · rename_i r hr
      have hlt := param_rest_lt s r hr
      split
      · have a2 := congrArg List.length hr
        have a4 := nextToken_le (skipSpace r)
        have a3 := skipSpace_le r
        simp only [List.length_cons] at a2
        show (nextToken (skipSpace r)).2.length ≤ s.length
        omega
      · split
        · exact Nat.le_trans (ih _ _) (by omega)
        · split
          · exact Nat.le_of_lt hlt
          · exact Nat.le_trans (ih _ _) (by omega)
    · exact a1

theorem lineExtsAux_mono (n : Nat) : ∀ (m : Nat) (s : Bytes) (acc : List Ext), s.length + 1 ≤ n → s.length + 1 ≤ m →
    lineExtsAux n s acc = lineExtsAux m s acc := by
  induction n with
  | zero => intro m s acc h; omega
  | succ n ih =>
    intro m s acc hn hm
    cases m with
    | zero => omega
    | succ m =>
      unfold lineExtsAux
      simp only []
      split
      · rfl
      · rename_i hne
        have a1 := skipSpace_le s
        have a2 := nextToken_lt (skipSpace s) (by simpa using hne)
        have a3 := paramsAux_rest_le ((nextToken (skipSpace s)).2.length + 1) (nextToken (skipSpace s)).2
                     [([], (nextToken (skipSpace s)).1)]
        split
        · rfl
        · split
          · rfl
          · rename_i c rest hr
            have a4 : (c :: rest).length ≤ (nextToken (skipSpace s)).2.length :=
              Nat.le_trans (Nat.le_of_eq (congrArg List.length hr).symm) a3
            simp only [List.length_cons] at a4
            split
            · rfl
            · apply ih <;> omega

theorem paramsAux_fuel (n : Nat) (s : Bytes) (acc : Ext) (h : s.length + 1 ≤ n) :
    paramsAux n s acc = paramsAux (s.length + 1) s acc :=
  paramsAux_mono n _ s acc h (Nat.le_refl _)

theorem lineContains_any_fuel (s value : Bytes) (n : Nat) (h : s.length + 1 ≤ n) :
    lineContains s value = lineContainsAux n s value :=
  (lineContainsAux_mono n _ s value h (Nat.le_refl _)).symm

theorem parseExtensions_any_fuel (lines : List Bytes) (f : Bytes → Nat) (hf : ∀ l, l.length + 1 ≤ f l) :
    parseExtensions lines = lines.foldl (fun acc l => acc ++ lineExtsAux (f l) l []) [] := by
  have hfun : (fun (acc : List Ext) (l : Bytes) => acc ++ lineExtsAux (l.length + 1) l []) =
      (fun acc l => acc ++ lineExtsAux (f l) l []) := by
    funext acc l
    rw [lineExtsAux_mono (f l) _ l [] (hf l) (Nat.le_refl _)]
  unfold parseExtensions
  rw [hfun]

theorem b64DecodedLen_any_fuel (s : Bytes) (n : Nat)
    (h : (s.filter (fun b => b != 10 && b != 13)).length + 1 ≤ n) :
    b64DecodedLen s = b64LenAux n (s.filter (fun b => b != 10 && b != 13)) 0 :=
  (b64LenAux_mono n _ _ 0 h (Nat.le_refl _)).symm

end WS.ParserFuel
