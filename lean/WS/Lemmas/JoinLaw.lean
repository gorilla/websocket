import WS.Lemmas.ReaderDecodes
import WS.Lemmas.ReadMsgs
/-
  C03 through JoinMessages: reading the joined reader delivers, for each message, exactly its payload
  followed by the terminator, for reads of any size — so what the application sees is
  payload₁ ++ term ++ payload₂ ++ term ++ … (join.go joinReader.Read = WS.joinRead). `WS.JoinLaw`: one message;
  `WS.JoinSeq`: any number of messages, with or without a read limit.
-/
namespace WS.JoinLaw
open WS WS.Codec WS.SrcLaw WS.ReaderDecodes

/-- read the joined reader with reads of size k until one message and its terminator have been
    delivered (the stage is idle again) or an error occurs; returns everything delivered.
    `fuel` bounds the number of Reads; every Read but the last delivers at least one byte, so
    payload length + terminator length + 1 is enough (`join_message_keep`). -/
def joinMsg : Nat → Conn → JStage → Bytes → Nat → Bytes → (Bytes × Option RErr) × Conn × JStage
  | 0, c, st, _, _, acc => ((acc, some .any), c, st)
  | fuel + 1, c, st, term, k, acc =>
    match joinRead c st term k with
    | ((bs, some e), c, st) => ((acc ++ bs, some e), c, st)
    | ((bs, none), c, .idle) => ((acc ++ bs, none), c, .idle)
    | ((bs, none), c, st) => joinMsg fuel c st term k (acc ++ bs)


theorem joinRead_term_nil (c : Conn) (rid : Nat) (term : Bytes) (k : Nat) :
    joinRead c (.term rid []) term k = (([], none), c, .idle) := by
  unfold joinRead; simp

theorem joinRead_term_cons (c : Conn) (rid : Nat) (b : UInt8) (r term : Bytes) (k : Nat) :
    joinRead c (.term rid (b :: r)) term k = (((b :: r).take k, none), c, .term rid ((b :: r).drop k)) := by
  unfold joinRead; simp

theorem joinRead_msg_chunk (c c' : Conn) (rid : Nat) (term out : Bytes) (k : Nat)
    (h : mrRead c rid k = ((out, none), c')) :
    joinRead c (.msg rid) term k = ((out, none), c', .msg rid) := by
  unfold joinRead; simp [h]

theorem joinRead_msg_eof (c c' : Conn) (rid : Nat) (term : Bytes) (k : Nat)
    (h : mrRead c rid k = (([], some .eof), c')) :
    joinRead c (.msg rid) term k = ((term.take k, none), c', .term rid (term.drop k)) := by
  unfold joinRead; simp [h]

theorem joinRead_plain_chunk (c c' : Conn) (rid : Nat) (term out : Bytes) (k : Nat)
    (h : mrRead c rid k = ((out, none), c')) :
    joinRead c (.plain rid) term k = ((out, none), c', .plain rid) := by
  unfold joinRead; simp [h]

theorem joinRead_plain_eof (c c' : Conn) (rid : Nat) (term : Bytes) (k : Nat)
    (h : mrRead c rid k = (([], some .eof), c')) :
    joinRead c (.plain rid) term k = (([], none), c', .idle) := by
  unfold joinRead; simp [h]

theorem joinRead_idle (c c1 : Conn) (t rid : Nat) (z : Bool) (term : Bytes) (k : Nat)
    (h : nextReader c = (.msg t rid z, c1)) :
    joinRead c .idle term k = joinRead c1 (if term.isEmpty then .plain rid else .msg rid) term k := by
  cases term with
  | nil => unfold joinRead; simp [h]
  | cons b r => unfold joinRead; simp [h]

theorem joinMsg_succ (fuel : Nat) (c : Conn) (st : JStage) (term : Bytes) (k : Nat) (acc : Bytes) :
    joinMsg (fuel + 1) c st term k acc =
      match joinRead c st term k with
      | ((bs, some e), c, st) => ((acc ++ bs, some e), c, st)
      | ((bs, none), c, .idle) => ((acc ++ bs, none), c, .idle)
      | ((bs, none), c, st) => joinMsg fuel c st term k (acc ++ bs) := by
  rw [joinMsg]

theorem term_loop (term : Bytes) (k : Nat) (hk : 0 < k) (c : Conn) (rid : Nat) (fuel : Nat) :
    ∀ (r acc : Bytes), r.length + 1 ≤ fuel →
      joinMsg fuel c (.term rid r) term k acc = ((acc ++ r, none), c, .idle) := by
  induction fuel with
  | zero => intro r acc h; omega
  | succ fuel ih =>
    intro r acc h
    rw [joinMsg_succ]
    cases r with
    | nil => rw [joinRead_term_nil]
    | cons b r =>
      rw [joinRead_term_cons]
      simp only []
      rw [ih _ _ (by simp only [List.length_drop, List.length_cons] at h ⊢; omega), List.append_assoc,
        List.take_append_drop]

/-- the stage NextReader leaves (`.msg rid`; with term = "" `.plain rid`: the message reader itself):
    the rest of the message, then the terminator -/
theorem stage_loop (S : Bool) (rid k : Nat) (hk : 0 < k) (rest term : Bytes) (st : JStage)
    (hstage : (st = .plain rid ∧ term = []) ∨ (st = .msg rid ∧ term ≠ [])) (fuel : Nat) :
    ∀ (c : Conn) (wire : Bytes) (more : List PFrame) (acc : Bytes), Open S rid rest c wire more →
      (unmask c wire ++ dataPayload more).length + term.length + 1 ≤ fuel →
      ∃ c2, joinMsg fuel c st term k acc = ((acc ++ (unmask c wire ++ dataPayload more) ++ term, none), c2, .idle) ∧
        St S c2 [] [] rest ∧ c2.r.final = true ∧ Keep c c2 ∧ c2.r.hlog = c.r.hlog ++ ctlEvents more := by
  induction fuel with
  | zero => intro c wire more acc _ h; omega
  | succ fuel ih =>
    intro c wire more acc ho hf
    have hmr := RobustAux.mrRead_cur c rid k ho.mr
    rcases mrReadLoop_spec S rid k hk rest (c.fuel + 1) c wire more ho (ho.st.env.fuel_lt 1) with
      ⟨out, c2, w2, m2, hrd, hne, ho2, kp, hpay, hlog, _⟩ | ⟨c2, hrd, hnil, hst2, hfin2, kp, hmr2, hlog, hl0⟩
    · have hgo : joinMsg (fuel + 1) c st term k acc = joinMsg fuel c2 st term k (acc ++ out) := by
        rcases hstage with ⟨rfl, rfl⟩ | ⟨rfl, _⟩
        · rw [joinMsg_succ, joinRead_plain_chunk c c2 rid [] out k (by rw [hmr, hrd])]
        · rw [joinMsg_succ, joinRead_msg_chunk c c2 rid term out k (by rw [hmr, hrd])]
      have hol : 0 < out.length := List.length_pos_iff.mpr hne
      obtain ⟨c3, d1, d2, d3, d4, d5⟩ := ih c2 w2 m2 (acc ++ out) ho2
        (by rw [hpay, List.length_append] at hf; omega)
      refine ⟨c3, ?_, d2, d3, kp.trans d4, by rw [d5, hlog]⟩
      rw [hgo, d1, hpay]; simp only [List.append_assoc]
    · rcases hstage with ⟨rfl, rfl⟩ | ⟨rfl, hterm⟩
      · rw [joinMsg_succ, joinRead_plain_eof c c2 rid [] k (by rw [hmr, hrd]), hnil]
        exact ⟨c2, by simp, hst2, hfin2, kp, hlog⟩
      · rw [joinMsg_succ, joinRead_msg_eof c c2 rid term k (by rw [hmr, hrd])]
        simp only []
        have htl : 0 < term.length := List.length_pos_iff.mpr hterm
        rw [term_loop term k hk c2 rid fuel _ _ (by simp only [List.length_drop]; omega), hnil, List.append_assoc,
          List.take_append_drop, List.append_nil]
        exact ⟨c2, rfl, hst2, hfin2, kp, hlog⟩

theorem join_message_keep (c : Conn) (hc : ReaderIdle c) (t : Nat) (ht : t = 1 ∨ t = 2) (fs : List PFrame)
    (hs : MsgShape t fs) (rest : Bytes)
    (hp : c.r.buf.pending = encAll c.r.isServer fs ++ rest)
    (hend : c.r.buf.t.together = false ∨ rest ≠ [])
    (hsz : (dataPayload fs).length < 2 ^ 62)
    (hlim : c.r.limit ≤ 0 ∨ ((dataPayload fs).length : Int) ≤ c.r.limit)
    (term : Bytes) (k : Nat) (hk : 0 < k) (fuel : Nat) (hf : (dataPayload fs).length + term.length + 1 ≤ fuel) :
    ∃ c', joinMsg fuel c .idle term k [] = ((dataPayload fs ++ term, none), c', .idle) ∧
      ReaderIdle c' ∧ c'.r.buf.pending = rest ∧ c'.r.hlog = c.r.hlog ++ ctlEvents fs ∧ Keep c c' := by
  have hst := idle_St c hc fs rest hp hend
  obtain ⟨c1, rid, w1, m1, hnr, ho, kp1, hpay1, hlog1⟩ := nextReader_spec c.r.isServer t ht rest c [] [] fs hst hs hend
    (by simp; omega) (by simpa using hlim)
  obtain ⟨fuel, rfl⟩ : ∃ f, fuel = f + 1 := ⟨fuel - 1, by omega⟩
  have hstep : joinMsg (fuel + 1) c .idle term k [] =
      joinMsg (fuel + 1) c1 (if term.isEmpty then .plain rid else .msg rid) term k [] := by
    rw [joinMsg_succ, joinMsg_succ, joinRead_idle c c1 t rid false term k hnr]
  rw [hstep]
  simp only [ctlEvents_nil, List.append_nil] at hlog1
  obtain ⟨c2, d1, d2, d3, d4, d5⟩ := stage_loop c.r.isServer rid k hk rest term
    (if term.isEmpty then .plain rid else .msg rid) (by cases term <;> simp) (fuel + 1) c1 w1 m1 [] ho (by rw [hpay1]; omega)
  obtain ⟨i1, i2⟩ := d2.idle d3
  exact ⟨c2, by rw [d1, hpay1]; simp, i1, i2, by rw [d5, hlog1], kp1.trans d4⟩

/-- C03 through JoinMessages, one message, no read limit: `join_message_keep` (which admits a limit and
    needs `+ 1` fuel only) without its last clause -/
theorem join_message (c : Conn) (hc : ReaderIdle c) (t : Nat) (ht : t = 1 ∨ t = 2) (fs : List PFrame)
    (hs : MsgShape t fs) (rest : Bytes)
    (hp : c.r.buf.pending = encAll c.r.isServer fs ++ rest)
    (hend : c.r.buf.t.together = false ∨ rest ≠ [])
    (hsz : (dataPayload fs).length < 2 ^ 62) (hlim : c.r.limit ≤ 0)
    (term : Bytes) (k : Nat) (hk : 0 < k) (fuel : Nat) (hf : (dataPayload fs).length + term.length + 3 ≤ fuel) :
    ∃ c', joinMsg fuel c .idle term k [] = ((dataPayload fs ++ term, none), c', .idle) ∧
      ReaderIdle c' ∧ c'.r.buf.pending = rest ∧ c'.r.hlog = c.r.hlog ++ ctlEvents fs := by
  obtain ⟨c', h1, h2, h3, h4, _⟩ := join_message_keep c hc t ht fs hs rest hp hend hsz (Or.inl hlim) term k hk fuel (by omega)
  exact ⟨c', h1, h2, h3, h4⟩

/-- two messages: payload₁ ++ term ++ payload₂ ++ term, nothing of one message mixed into the other -/
theorem join_two_messages (c : Conn) (hc : ReaderIdle c) (t1 t2 : Nat) (ht1 : t1 = 1 ∨ t1 = 2) (ht2 : t2 = 1 ∨ t2 = 2)
    (fs1 fs2 : List PFrame) (hs1 : MsgShape t1 fs1) (hs2 : MsgShape t2 fs2) (rest : Bytes)
    (hp : c.r.buf.pending = encAll c.r.isServer fs1 ++ encAll c.r.isServer fs2 ++ rest)
    (hend : c.r.buf.t.together = false ∨ rest ≠ [])
    (hsz : (dataPayload fs1).length < 2 ^ 62 ∧ (dataPayload fs2).length < 2 ^ 62) (hlim : c.r.limit ≤ 0)
    (term : Bytes) (k : Nat) (hk : 0 < k) (fuel : Nat)
    (hf : (dataPayload fs1).length + (dataPayload fs2).length + term.length + 3 ≤ fuel) :
    ∃ c1 c2, joinMsg fuel c .idle term k [] = ((dataPayload fs1 ++ term, none), c1, .idle) ∧
      joinMsg fuel c1 .idle term k [] = ((dataPayload fs2 ++ term, none), c2, .idle) ∧
      ReaderIdle c2 ∧ c2.r.buf.pending = rest := by
  have hp' : c.r.buf.pending = encAll c.r.isServer fs1 ++ (encAll c.r.isServer fs2 ++ rest) := by
    rw [hp, List.append_assoc]
  have hne := encAll_append_ne_nil (S := c.r.isServer) hs2 rest
  obtain ⟨c1, a1, a2, a3, _, a5⟩ := join_message_keep c hc t1 ht1 fs1 hs1 _ hp' (Or.inr hne) hsz.1 (Or.inl hlim) term k hk
    fuel (by omega)
  obtain ⟨c2, b1, b2, b3, _, _⟩ := join_message_keep c1 a2 t2 ht2 fs2 hs2 rest (by rw [a3, a5.isServer])
    (by rw [a5.same.together]; exact hend) hsz.2 (Or.inl (by rw [a5.limit]; exact hlim)) term k hk fuel (by omega)
  exact ⟨c1, c2, a1, b1, b2, b3⟩

end WS.JoinLaw

/-
  JoinMessages for any number of messages (C03 / C01: "exactly the messages the stream encodes, in
  order", through JoinMessages), with or without a read limit.
-/
namespace WS.JoinSeq
open WS WS.Codec WS.ReaderDecodes WS.JoinLaw WS.Sequences

/-- read the joined reader until `n` messages (each followed by the terminator) have been delivered
    or an error occurs; returns everything delivered, concatenated -/
def joinMsgs (fuel : Nat) (term : Bytes) (k : Nat) : Nat → Conn → Bytes → (Bytes × Option RErr) × Conn
  | 0, c, acc => ((acc, none), c)
  | n + 1, c, acc =>
    match joinMsg fuel c .idle term k [] with
    | ((bs, none), c', .idle) => joinMsgs fuel term k n c' (acc ++ bs)
    | ((bs, e), c', _) => ((acc ++ bs, e), c')

/-- one message through JoinMessages with a read limit in force (join_message has `limit ≤ 0`) -/
theorem join_message_limited (c : Conn) (hc : ReaderIdle c) (t : Nat) (ht : t = 1 ∨ t = 2) (fs : List PFrame)
    (hs : MsgShape t fs) (rest : Bytes)
    (hp : c.r.buf.pending = encAll c.r.isServer fs ++ rest)
    (hend : c.r.buf.t.together = false ∨ rest ≠ [])
    (hsz : (dataPayload fs).length < 2 ^ 62)
    (hlim : c.r.limit ≤ 0 ∨ ((dataPayload fs).length : Int) ≤ c.r.limit)
    (term : Bytes) (k : Nat) (hk : 0 < k) (fuel : Nat) (hf : (dataPayload fs).length + term.length + 3 ≤ fuel) :
    ∃ c', joinMsg fuel c .idle term k [] = ((dataPayload fs ++ term, none), c', .idle) ∧
      ReaderIdle c' ∧ c'.r.buf.pending = rest ∧ c'.r.hlog = c.r.hlog ++ ctlEvents fs ∧ Keep c c' :=
  join_message_keep c hc t ht fs hs rest hp hend hsz hlim term k hk fuel (by omega)

theorem joinMsgs_succ (fuel : Nat) (term : Bytes) (k n : Nat) (c c' : Conn) (acc bs : Bytes)
    (h : joinMsg fuel c .idle term k [] = ((bs, none), c', .idle)) :
    joinMsgs fuel term k (n + 1) c acc = joinMsgs fuel term k n c' (acc ++ bs) := by
  rw [joinMsgs, h]

/-- any number of messages: the joined reader delivers payload₁ ++ term ++ payload₂ ++ term ++ …,
    nothing lost, nothing mixed, in wire order; the handlers saw the interleaved control frames -/
theorem join_messages (c : Conn) (hc : ReaderIdle c) (msgs : List (Nat × List PFrame))
    (hm : ∀ m ∈ msgs, (m.1 = 1 ∨ m.1 = 2) ∧ MsgShape m.1 m.2 ∧ (dataPayload m.2).length < 2 ^ 62 ∧
            (c.r.limit ≤ 0 ∨ ((dataPayload m.2).length : Int) ≤ c.r.limit))
    (rest : Bytes)
    (hp : c.r.buf.pending = (msgs.map (fun m => encAll c.r.isServer m.2)).flatten ++ rest)
    (hend : c.r.buf.t.together = false ∨ rest ≠ [])
    (term : Bytes) (k : Nat) (hk : 0 < k) (fuel : Nat)
    (hf : ∀ m ∈ msgs, (dataPayload m.2).length + term.length + 3 ≤ fuel) :
    ∃ c', joinMsgs fuel term k msgs.length c [] =
        (((msgs.map (fun m => dataPayload m.2 ++ term)).flatten, none), c') ∧
      ReaderIdle c' ∧ c'.r.buf.pending = rest ∧
      c'.r.hlog = c.r.hlog ++ (msgs.map (fun m => ctlEvents m.2)).flatten := by
  -- the loop carries an accumulator: a run of messages appends their payloads and terminators to it
  obtain ⟨c', h1, h2, h3, h4, _⟩ := iterate_msgs
    (Step := fun c m c' => joinMsg fuel c .idle term k [] = ((dataPayload m.2 ++ term, none), c', .idle))
    (Q := fun c msgs c' => ∀ acc, joinMsgs fuel term k msgs.length c acc =
      ((acc ++ (msgs.map (fun m => dataPayload m.2 ++ term)).flatten, none), c'))
    (fun c acc => by simp [joinMsgs])
    (fun c m c1 ms c' h1 hq acc => by
      rw [List.length_cons, joinMsgs_succ fuel term k ms.length c c1 acc _ h1, hq]
      simp)
    rest msgs
    (fun m hx c tail hc hfit hp hend =>
      join_message_limited c hc m.1 hfit.1 m.2 hfit.2.1 tail hp hend hfit.2.2.1 hfit.2.2.2 term k hk fuel (hf m hx))
    c hc hm hp hend
  exact ⟨c', by simpa using h1 [], h2, h3, h4⟩

end WS.JoinSeq
