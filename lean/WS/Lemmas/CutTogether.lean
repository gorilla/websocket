import WS.Lemmas.CutProgram
/-
  One Read inside a data frame, without the `St.tog` field (the transport may report its terminal condition
  together with bytes): steps of the program-level C05 statement for the corner `together = true ∧ cut = 0`,
  which is NOT PROVED (nothing else uses them). Such a Read latches the error it returns; it reports io.EOF only
  when the frame is final, it took all remaining bytes and the source said io.EOF.
-/
namespace WS.CutTogether
open WS WS.Codec WS.ReaderDecodes WS.ReadProgram WS.CutProgram

theorem read_in_frame (f : Nat) (c : Conn) (rid k : Nat) (hne : c.r.readErr = none) (hrem : c.r.remaining > 0) :
    ∃ out e' c', mrReadLoop (f + 1) c rid k = ((out, e'), c') ∧ c'.r.readErr = e' ∧
      c'.r.msgReader = c.r.msgReader ∧
      out.length = (c.r.buf.read (min k c.r.remaining.toNat)).1.length ∧
      (e' = some .eof → c.r.final = true ∧
        c.r.remaining ≤ ((c.r.buf.read (min k c.r.remaining.toNat)).1.length : Int) ∧
        (c.r.buf.read (min k c.r.remaining.toNat)).2.1 = some .eof) := by
  generalize hr : c.r.buf.read (min k c.r.remaining.toNat) = r
  obtain ⟨bs, e, b⟩ := r
  rw [RobustAux.mrReadLoop_on_data f c rid k hne hrem]
  unfold RobustAux.mrData
  simp only [hr]
  refine ⟨_, _, _, rfl, rfl, rfl, ?_, ?_⟩
  · split <;> simp [maskFrom_length]
  · intro h
    by_cases hc : (c.r.remaining - (bs.length : Int) > 0 || !c.r.final) = true ∧ e = some RErr.eof
    · rw [if_pos (by simpa using hc)] at h
      cases h
    · rw [if_neg (by simpa using hc)] at h
      subst h
      simp only [Bool.or_eq_true, decide_eq_true_eq, Bool.not_eq_true',
        and_true, not_or] at hc
      refine ⟨by simpa using hc.2, ?_, rfl⟩
      omega

theorem read_err_tail (c : Conn) (rid k : Nat) (ops : List ROp) (t : Nat) (acc : Bytes)
    (hm : c.r.msgReader = some rid) (hne : c.r.readErr = none) (hrem : c.r.remaining > 0)
    (bs : Bytes) (e : RErr) (c' : Conn) (hr : mrRead c rid (k + 1) = ((bs, some e), c')) :
    completedAux (runProg (.read k :: ops) c (some rid)).1 (some (t, acc)) =
      if e = .eof then [(t, acc ++ bs)] else [] := by
  obtain ⟨out, e', c1, h1, h2, _, _, _⟩ := read_in_frame c.fuel c rid (k + 1) hne hrem
  have hr' : mrReadLoop (c.fuel + 1) c rid (k + 1) = ((bs, some e), c') := by
    rw [← hr, RobustAux.mrRead_cur c rid (k + 1) hm]
  rw [h1] at hr'
  injection hr' with ha hb
  injection ha with ha1 ha2
  subst hb ha1 ha2
  have hl := latched_nil e ops c1 (some rid) h2
  simp only [runProg, hr]
  by_cases he : e = .eof
  · subst he
    rw [if_pos rfl]
    show (t, acc ++ out) :: completedAux (runProg ops c1 (some rid)).1 none = _
    rw [hl]
  · rw [if_neg he, completedAux_ret_err _ _ _ _ he]
    exact hl

end WS.CutTogether
