import WS.Lemmas.ReaderZ
/-
  C03 "reads of any sizes", with the size changing from one Read to the next: a conformant message is
  delivered byte-identically whatever sequence of request sizes the application uses — in particular
  for io.ReadAll / ReadMessage, whose requests follow the capacities the Go allocator picks for the
  growing buffer (`readAllGrow`, capacities = environment answer).
-/
namespace WS.MixedReads
open WS WS.Codec WS.ReaderDecodes


section Helpers
open WS.SrcLaw WS.AdvFrame

theorem tread_len (t : TSrc) (room : Nat) : (t.read room).1.length ≤ room := by
  unfold TSrc.read
  split
  · exact Nat.zero_le _
  · simp only []
    split
    · split <;> (simp only [List.length_take]; omega)
    · simp only [List.length_take]; omega

/-- for every buffer; `SrcLaw.read_law` has the same bound under `WF b` only, and `mrReadLoop_len_le`
    below has no such hypothesis to offer -/
theorem read_len (b : Buf) (k : Nat) : (b.read k).1.length ≤ k := by
  unfold Buf.read
  split
  · split
    · exact Nat.zero_le _
    · split
      · exact tread_len b.t k
      · simp only []
        split
        · exact Nat.zero_le _
        · simp only [List.length_take]; omega
  · simp only [List.length_take]; omega

theorem mrReadLoop_len_le (rid k : Nat) (fuel : Nat) : ∀ c : Conn, (mrReadLoop fuel c rid k).1.1.length ≤ k := by
  induction fuel with
  | zero => intro c; exact Nat.zero_le _
  | succ n ih =>
    intro c
    unfold mrReadLoop
    split
    · exact Nat.zero_le _
    · split
      · have h := read_len c.r.buf (min k c.r.remaining.toNat)
        simp only []
        generalize c.r.buf.read (min k c.r.remaining.toNat) = x at h ⊢
        obtain ⟨bs, e, b⟩ := x
        simp only [] at h ⊢
        split
        · rw [maskFrom_length]; omega
        · omega
      · split
        · exact Nat.zero_le _
        · generalize advanceFrame c = x
          obtain ⟨res, c1⟩ := x
          cases res with
          | error e => exact ih _
          | ok t =>
            simp only []
            split <;> exact ih _

theorem mrRead_step (S : Bool) (rid k : Nat) (hk : 0 < k) (rest : Bytes) (c : Conn) (wire : Bytes)
    (more : List PFrame) (ho : Open S rid rest c wire more) :
    (∃ out c' wire' more', mrRead c rid k = ((out, none), c') ∧ out ≠ [] ∧ out.length ≤ k ∧
      Open S rid rest c' wire' more' ∧
      unmask c wire ++ dataPayload more = out ++ (unmask c' wire' ++ dataPayload more') ∧
      c'.r.hlog ++ ctlEvents more' = c.r.hlog ++ ctlEvents more ∧
      c'.r.buf.pending.length < c.r.buf.pending.length) ∨
    (∃ c', mrRead c rid k = (([], some .eof), c') ∧ unmask c wire ++ dataPayload more = [] ∧
      St S c' [] [] rest ∧ c'.r.final = true ∧ c'.r.hlog = c.r.hlog ++ ctlEvents more) := by
  have hlen := mrReadLoop_len_le rid k (c.fuel + 1) c
  rw [RobustAux.mrRead_cur c rid k ho.mr]
  rcases mrReadLoop_spec S rid k hk rest (c.fuel + 1) c wire more ho (ho.st.env.fuel_lt 1) with
    ⟨out, c2, w2, m2, hrd, hne, ho2, _, hpay, hlog, lt⟩ | ⟨c2, hrd, hnil, hst2, hfin2, kp, hmr2, hlog, hl0⟩
  · left
    rw [hrd] at hlen
    exact ⟨out, c2, w2, m2, hrd, hne, hlen, ho2, hpay, hlog, lt⟩
  · right
    exact ⟨c2, hrd, hnil, hst2, hfin2, hlog⟩

end Helpers

/-- reading a message first with requests of the sizes `ks` (any positive sizes, in order; `zFills` is the plain
    "Read with these sizes until the list ends or a Read returns an error" loop) and then to the end with requests
    of size `k`: the bytes delivered, concatenated, are exactly the payload; end-of-message is signalled exactly
    once (by whichever phase reaches it) -/
theorem read_message_mixed (c : Conn) (hc : ReaderIdle c) (t : Nat) (ht : t = 1 ∨ t = 2) (fs : List PFrame)
    (hs : MsgShape t fs) (rest : Bytes)
    (hp : c.r.buf.pending = encAll c.r.isServer fs ++ rest)
    (hend : c.r.buf.t.together = false ∨ rest ≠ [])
    (hsz : (dataPayload fs).length < 2 ^ 62) (hlim : c.r.limit ≤ 0)
    (ks : List Nat) (hks : ∀ k ∈ ks, 0 < k) (k : Nat) (hk : 0 < k) :
    ∃ c1 rid, nextReader c = (.msg t rid false, c1) ∧
      ∃ pre st c2, zFills ks c1 rid [] = ((pre, st), c2) ∧
        ((st = some .eof ∧ pre = dataPayload fs ∧ ReaderIdle c2 ∧ c2.r.buf.pending = rest ∧
            c2.r.hlog = c.r.hlog ++ ctlEvents fs) ∨
         (st = none ∧ ∃ suf c3, readAll c2 rid k = ((suf, none), c3) ∧ pre ++ suf = dataPayload fs ∧
            ReaderIdle c3 ∧ c3.r.buf.pending = rest ∧ c3.r.hlog = c.r.hlog ++ ctlEvents fs)) := by
  have hst := idle_St c hc fs rest hp hend
  obtain ⟨c1, rid, w1, m1, hnr, ho, _, hpay1, hlog1⟩ := nextReader_spec c.r.isServer t ht rest c [] [] fs hst hs hend
    (by simp; omega) (Or.inl hlim)
  refine ⟨c1, rid, hnr, ?_⟩
  rcases WS.ReaderZ.zFills_spec c.r.isServer rid rest ks hks c1 w1 m1 [] ho with
    ⟨out, c2, w2, m2, d1, ho2, d5, d6⟩ | ⟨c2, d1, d2, d3, d4⟩
  · refine ⟨out, none, c2, by simpa using d1, Or.inr ⟨rfl, ?_⟩⟩
    obtain ⟨c3, e1, e2, e3, e4⟩ := readAll_spec c.r.isServer rid k hk rest c2 w2 m2 ho2
    refine ⟨_, c3, e1, ?_, e2, e3, ?_⟩
    · rw [← hpay1, d5]
    · rw [e4, d6, hlog1]; simp
  · obtain ⟨i1, i2⟩ := d2.idle d3
    refine ⟨dataPayload fs, some .eof, c2, ?_, Or.inl ⟨rfl, rfl, i1, i2, ?_⟩⟩
    · rw [d1, hpay1]; simp
    · rw [d4, hlog1]; simp

/-- capacities a growing buffer can go through -/
def Growing : Nat → List Nat → Prop
  | _, [] => True
  | prev, cap :: rest => prev < cap ∧ Growing cap rest

theorem readAllGrowLoop_spec (S : Bool) (rid : Nat) (rest : Bytes) (fuel : Nat) :
    ∀ (c : Conn) (wire : Bytes) (more : List PFrame) (caps : List Nat) (len cap : Nat) (acc : List Bytes),
      Open S rid rest c wire more → c.r.buf.pending.length < fuel → len < cap → Growing cap caps →
      ∃ c2, readAllGrowLoop fuel c rid caps len cap acc =
          ((acc.reverse.flatten ++ (unmask c wire ++ dataPayload more), none), c2) ∧
        St S c2 [] [] rest ∧ c2.r.final = true ∧ c2.r.hlog = c.r.hlog ++ ctlEvents more := by
  induction fuel with
  | zero => intro c wire more caps len cap acc _ h; omega
  | succ fuel ih =>
    intro c wire more caps len cap acc ho hf hlc hg
    unfold readAllGrowLoop
    rcases mrRead_step S rid (cap - len) (by omega) rest c wire more ho with
      ⟨out, c2, w2, m2, b1, b2, b3, ho2, b7, b8, b9⟩ | ⟨c2, b1, b2, b3, b4, b5⟩
    · rw [b1]
      simp only []
      -- whichever capacity comes next, the request stays positive and the rest is read by induction
      have next : ∀ caps' cap', len + out.length < cap' → Growing cap' caps' →
          ∃ c3, readAllGrowLoop fuel c2 rid caps' (len + out.length) cap' (out :: acc) =
              ((acc.reverse.flatten ++ (unmask c wire ++ dataPayload more), none), c3) ∧
            St S c3 [] [] rest ∧ c3.r.final = true ∧ c3.r.hlog = c.r.hlog ++ ctlEvents more := by
        intro caps' cap' hlc' hg'
        obtain ⟨c3, d1, d2, d3, d4⟩ := ih c2 w2 m2 caps' (len + out.length) cap' (out :: acc) ho2
          (by omega) hlc' hg'
        refine ⟨c3, ?_, d2, d3, ?_⟩
        · rw [d1, b7]; simp [List.append_assoc]
        · rw [d4, b8]
      have hpos : 0 < out.length := List.length_pos_iff.mpr b2
      by_cases hfull : len + out.length = cap
      · rw [if_pos (by simp [hfull])]
        cases caps with
        | nil => exact next [] (cap + 8192) (by omega) trivial
        | cons cap' caps' => exact next caps' cap' (by have := hg.1; omega) hg.2
      · rw [if_neg (by simp [hfull])]
        exact next caps cap (by omega) hg
    · rw [b1]
      simp only []
      refine ⟨c2, ?_, b3, b4, b5⟩
      rw [b2]; simp

/-- ReadMessage / io.ReadAll: whatever capacities the allocator picks for the growing buffer (any
    strictly increasing sequence starting above 0; after the list is used up the model grows by 8192),
    the message is returned complete and byte-identical -/
theorem read_message_any_caps (c : Conn) (hc : ReaderIdle c) (t : Nat) (ht : t = 1 ∨ t = 2) (fs : List PFrame)
    (hs : MsgShape t fs) (rest : Bytes)
    (hp : c.r.buf.pending = encAll c.r.isServer fs ++ rest)
    (hend : c.r.buf.t.together = false ∨ rest ≠ [])
    (hsz : (dataPayload fs).length < 2 ^ 62) (hlim : c.r.limit ≤ 0)
    (caps : List Nat) (hcaps : Growing 0 caps) :
    ∃ c1 rid, nextReader c = (.msg t rid false, c1) ∧
      ∃ c2, readAllGrow c1 rid caps = ((dataPayload fs, none), c2) ∧ ReaderIdle c2 ∧
        c2.r.buf.pending = rest ∧ c2.r.hlog = c.r.hlog ++ ctlEvents fs := by
  have hst := idle_St c hc fs rest hp hend
  obtain ⟨c1, rid, w1, m1, hnr, ho, _, hpay1, hlog1⟩ := nextReader_spec c.r.isServer t ht rest c [] [] fs hst hs hend
    (by simp; omega) (Or.inl hlim)
  refine ⟨c1, rid, hnr, ?_⟩
  have hf := ho.st.env.fuel_lt 2
  have hlog : c1.r.hlog ++ ctlEvents m1 = c.r.hlog ++ ctlEvents fs := by rw [hlog1]; simp
  cases caps with
  | nil =>
    obtain ⟨c2, d1, d2, d3, d4⟩ := readAllGrowLoop_spec c.r.isServer rid rest (c1.fuel + 2) c1 w1 m1 [] 0 512 []
      ho hf (by omega) trivial
    obtain ⟨i1, i2⟩ := d2.idle d3
    refine ⟨c2, ?_, i1, i2, by rw [d4, hlog]⟩
    unfold readAllGrow
    simp only []
    rw [d1, hpay1]; simp
  | cons cap caps' =>
    obtain ⟨g1, g2⟩ := hcaps
    obtain ⟨c2, d1, d2, d3, d4⟩ := readAllGrowLoop_spec c.r.isServer rid rest (c1.fuel + 2) c1 w1 m1 caps' 0 cap []
      ho hf g1 g2
    obtain ⟨i1, i2⟩ := d2.idle d3
    refine ⟨c2, ?_, i1, i2, by rw [d4, hlog]⟩
    unfold readAllGrow
    simp only []
    rw [d1, hpay1]; simp

end WS.MixedReads
