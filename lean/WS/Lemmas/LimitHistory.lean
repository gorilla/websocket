import WS.Lemmas.ReadMsgs
import WS.Lemmas.ReaderMore
/-
  C06, first sentence, at full strength: with a read limit L > 0, on a connection whose messages so far were all
  within the limit, the next message of at most L payload bytes can always be read in full, however it is
  fragmented and whatever the application did with the earlier messages (read them fully, partly, or not at all).
  `WS.LimitHistoryAux`: a frame that takes the running sum over the read limit is refused from its header
  (`adv_over`), so the loop of NextReader either opens the next message or refuses it at its first data frame
  (`nextReaderLoop_gen`); `Pre`: what a NextReader call finds, with the value of the limit recorded.
-/
namespace WS.LimitHistoryAux
open WS WS.Codec WS.SrcLaw WS.ReaderDecodes WS.Sequences WS.AdvFrame WS.ReaderRejects WS.RoleGeneric
open WS.RobustAux (c0)

theorem adv_over (c : Conn) (hc : AtBoundary c) (f : PFrame) (tail : Bytes)
    (hp : c.r.buf.pending = f.enc c.r.isServer ++ tail)
    (hop : (f.op = 0 ∧ c.r.final = false) ∨ ((f.op = 1 ∨ f.op = 2) ∧ c.r.final = true))
    (hlen : f.payload.length < 2 ^ 62) (h0 : 0 ≤ c.r.length)
    (h1 : lenBase f.op c + (f.payload.length : Int) < 9223372036854775808)
    (hlim : 0 < c.r.limit) (hover : c.r.limit < lenBase f.op c + (f.payload.length : Int)) :
    ∃ c', advanceFrame c = (.error .readLimit, c') := by
  have herrs := hdrErrs_data c.r.isServer c.r.nego c.r.final f.fin false f.op (l7 f.payload.length) (fun h => nomatch h) hop
  obtain ⟨b1, a1, _⟩ := advance_prefix c hc tail f.op f.fin f.key f.payload hp (by omega) herrs hlen
  have hopb : (f.op == 0 || f.op == 1 || f.op == 2) = true := by
    rcases hop with ⟨h, _⟩ | ⟨h | h, _⟩ <;> rw [h] <;> rfl
  unfold afRest at a1
  simp only [hopb, if_true] at a1
  exact ⟨_, a1.trans (afData_over _ _ f.payload.length rfl (lenBase_nonneg f.op c h0) h1 hlim hover)⟩

/-- The loop of NextReader, from any point of an abandoned message towards the message `fs2` that follows: `fs2`
    is opened with the running sum restarted at its first data frame, unless that frame alone exceeds the limit.
    The refusal is derived for a reader that started at the boundary (`wire = []`, `final = true`): `adv_over`
    wants the rest of the previous frame consumed. -/
theorem nextReaderLoop_gen (S : Bool) (t : Nat) (ht : t = 1 ∨ t = 2) (rest : Bytes) (fuel : Nat)
    (c : Conn) (wire : Bytes) (more fs2 : List PFrame) (hst : St S c wire more (encAll S fs2 ++ rest))
    (hs : MsgShape t fs2) (htog : c.r.buf.t.together = false ∨ rest ≠ [])
    (hl : LenOk c (dataPayload more).length)
    (hb : (c.r.limit ≤ 0 ∨ ((dataPayload fs2).length : Int) ≤ c.r.limit) ∨ (wire = [] ∧ c.r.final = true))
    (hf : c.r.buf.pending.length < fuel) :
    (∃ c1, nextReaderLoop fuel c = (.err .readLimit, c1) ∧ c1.r.readErr = some .readLimit ∧
      0 < c.r.limit ∧ c.r.limit < ((dataPayload fs2).length : Int)) ∨
    (∃ c1 wire1 more1, nextReaderLoop fuel c = (.msg t c.r.nextId false, c1) ∧ St S c1 wire1 more1 rest ∧
      Keep c c1 ∧ c1.r.msgReader = some c.r.nextId ∧ c1.r.length = (wire1.length : Int) ∧
      (c1.r.limit ≤ 0 ∨ c1.r.length ≤ c1.r.limit) ∧
      unmask c1 wire1 ++ dataPayload more1 = dataPayload fs2 ∧
      c1.r.hlog ++ ctlEvents more1 = c.r.hlog ++ ctlEvents more ++ ctlEvents fs2) := by
  obtain ⟨fuel', c', wire', f, fs, b1, b2, ha, b5, b6, b12, b13, b14⟩ :=
    nextReaderLoop_arrive S t ht rest fuel c wire more fs2 hst hs hl hf
  have b8 := ha.lead.op
  have hd : f.isCtl = false := isCtl_of_data (by omega)
  have hlen : (dataPayload fs2).length = f.payload.length + (dataPayload fs).length := by
    rw [← b12, dataPayload_data _ hd, List.length_append]
  rw [b1, ← b6, ← b5.limit]
  by_cases hfit : c'.r.limit ≤ 0 ∨ (f.payload.length : Int) ≤ c'.r.limit
  · obtain ⟨c1, d1, d2, d3, d4, d5, d6, d7⟩ := nextReaderLoop_open S t ht rest fuel' c' wire' f fs ha
      (by rw [b5.same.together]; exact htog) hfit
    exact Or.inr ⟨c1, _, fs, d1, d2, b5.trans d3, d4, by rw [d5, body_length], by rw [d5, d3.limit]; exact hfit,
      by rw [d7, ← b12, dataPayload_data _ hd], by rw [d6, b13]⟩
  · left
    rcases hb with hb | ⟨hw, hfin⟩
    · rw [← b5.limit] at hb; omega
    · have hw' := b14 hw hfin
      subst hw'
      obtain ⟨b3, b4, _, b9, _, _⟩ := ha
      have hp := b3.pend
      rw [List.nil_append, encAll_nil, List.nil_append, encAll_cons, List.append_assoc, ← b3.srv] at hp
      have hlb : lenBase f.op c' = 0 := by
        unfold lenBase; rcases ht with h | h <;> rw [b8, h] <;> rfl
      obtain ⟨c1, ha⟩ := adv_over c' b3.atBoundary f _ hp
        (Or.inr ⟨by omega, b4⟩) b9 b3.len0 (by rw [hlb]; omega) (by omega) (by rw [hlb]; omega)
      exact ⟨_, RobustAux.nextReaderLoop_on_err fuel' c' b3.noErr _ c1 ha, rfl, by omega, by omega⟩

/-- a reader anywhere inside (or before, or after) a message of at most `n` payload bytes, as the next
    NextReader call finds it: `H` = the handler log once the rest of that message is passed -/
def Pre (S : Bool) (rest1 : Bytes) (H : List REv) (n : Nat) (L : Int) (tg : Bool) (c : Conn) : Prop :=
  ∃ wire more, St S (c0 c) wire more rest1 ∧ wire.length + (dataPayload more).length ≤ n ∧
    c.r.hlog ++ ctlEvents more = H ∧ c.r.limit = L ∧ c.r.buf.t.together = tg

theorem Pre.limit {S : Bool} {rest1 : Bytes} {H : List REv} {n : Nat} {L : Int} {tg : Bool} {c : Conn}
    (h : Pre S rest1 H n L tg c) : c.r.limit = L := by
  obtain ⟨_, _, _, _, _, h, _⟩ := h
  exact h

theorem pre_idle (c : Conn) (hc : ReaderIdle c) (rest1 : Bytes) (hp : c.r.buf.pending = rest1)
    (hne : c.r.buf.t.together = false ∨ rest1 ≠ []) :
    Pre c.r.isServer rest1 c.r.hlog 0 c.r.limit c.r.buf.t.together c := by
  exact ⟨[], [], idle_St c hc [] rest1 hp hne, by simp, by simp, rfl, rfl⟩

theorem pre_next (S : Bool) (t : Nat) (ht : t = 1 ∨ t = 2) (rest : Bytes) (H : List REv) (n : Nat) (L : Int)
    (tg : Bool) (c : Conn) (fs : List PFrame) (hpre : Pre S (encAll S fs ++ rest) H n L tg c)
    (hs : MsgShape t fs) (htog : tg = false ∨ rest ≠ []) (hn : n < 2 ^ 62) (hf : (dataPayload fs).length < 2 ^ 62)
    (hL : L ≤ 0 ∨ ((n : Int) ≤ L ∧ ((dataPayload fs).length : Int) ≤ L)) :
    ∃ c1 rid wire1 more1, nextReader c = (.msg t rid false, c1) ∧ Open S rid rest c1 wire1 more1 ∧ Keep c c1 ∧
      unmask c1 wire1 ++ dataPayload more1 = dataPayload fs ∧
      c1.r.hlog ++ ctlEvents more1 = H ++ ctlEvents fs := by
  obtain ⟨w, m, e1, e2, e3, e4, e5⟩ := hpre
  obtain ⟨c1, rid, w1, m1, hnr, ho, kp1, hpay1, hlog1⟩ := nextReader_open S t ht rest c w m fs e1 hs
    (by rw [e5]; exact htog) (by omega) (by omega) (by rw [e4]; omega)
  exact ⟨c1, rid, w1, m1, hnr, ho, kp1, hpay1, by rw [hlog1, e3]⟩

theorem pre_touch (S : Bool) (rid : Nat) (rest : Bytes) (H : List REv) (L : Int) (tg : Bool) (c1 : Conn)
    (w1 : Bytes) (m1 fs : List PFrame) (ho : Open S rid rest c1 w1 m1) (b6 : unmask c1 w1 ++ dataPayload m1 = dataPayload fs)
    (b7 : c1.r.hlog ++ ctlEvents m1 = H) (hlim : c1.r.limit = L) (htg : c1.r.buf.t.together = tg)
    (reads : List Nat) :
    Pre S rest H (dataPayload fs).length L tg (partialReads c1 rid reads) := by
  have hn : w1.length + (dataPayload m1).length ≤ (dataPayload fs).length := by
    have := congrArg List.length b6
    simp only [List.length_append, unmask_length] at this
    omega
  have hab : Ab S rid rest H (dataPayload fs).length L tg c1 := ⟨w1, m1, ho.st, Or.inl ho.mr, ho.len, hn, b7, hlim, htg⟩
  obtain ⟨w, m, e1, e2, e3, e4, e5, e6, e7⟩ := partialReads_spec _ _ _ _ _ _ _ reads c1 hab
  exact ⟨w, m, e1.at_c0,
    e4, e5, e6, e7⟩

end WS.LimitHistoryAux

namespace WS.LimitHistory
open WS WS.Codec WS.ReaderDecodes WS.Sequences WS.LimitHistoryAux

/-- what an application may do with each of a run of messages: open it with NextReader and issue
    reads of any sizes on it (none, some, to the end, or beyond the end), results discarded -/
def touchMsgs : List (List Nat) → Conn → Conn
  | [], c => c
  | rs :: more, c =>
    match nextReader c with
    | (.msg _ rid _, c1) => touchMsgs more (partialReads c1 rid rs)
    | (_, c1) => c1

/-- the induction behind `limit_history_independent`: from a reader anywhere inside a message of at
    most `n` payload bytes (`Pre`), after any treatment of the following messages `msgs`, the message
    `fs` is read in full -/
theorem history_gen (S : Bool) (t : Nat) (ht : t = 1 ∨ t = 2) (fs : List PFrame) (hs : MsgShape t fs)
    (hsz : (dataPayload fs).length < 2 ^ 62) (rest : Bytes) (L : Int)
    (hfit : L ≤ 0 ∨ ((dataPayload fs).length : Int) ≤ L) (tg : Bool) (htog : tg = false ∨ rest ≠ [])
    (k : Nat) (hk : 0 < k) (msgs : List (Nat × List PFrame)) :
    ∀ (readss : List (List Nat)) (c : Conn) (H : List REv) (n : Nat), readss.length = msgs.length →
      (∀ m ∈ msgs, (m.1 = 1 ∨ m.1 = 2) ∧ MsgShape m.1 m.2 ∧ (dataPayload m.2).length < 2 ^ 62 ∧
        (L ≤ 0 ∨ ((dataPayload m.2).length : Int) ≤ L)) →
      Pre S ((msgs.map (fun m => encAll S m.2)).flatten ++ (encAll S fs ++ rest)) H n L tg c →
      n < 2 ^ 62 → (L ≤ 0 ∨ (n : Int) ≤ L) →
      ∃ c1 rid, nextReader (touchMsgs readss c) = (.msg t rid false, c1) ∧
        ∃ c2, readAll c1 rid k = ((dataPayload fs, none), c2) ∧ ReaderIdle c2 ∧ c2.r.buf.pending = rest ∧
          c2.r.hlog = H ++ (msgs.map (fun m => ctlEvents m.2)).flatten ++ ctlEvents fs ∧ c2.r.limit = L := by
  induction msgs with
  | nil =>
    intro readss c H n hr _ hpre hn hnL
    have hr0 : readss = [] := List.eq_nil_of_length_eq_zero (by simpa using hr)
    subst hr0
    have hpre' : Pre S (encAll S fs ++ rest) H n L tg c := by simpa using hpre
    have hlimc := hpre'.limit
    obtain ⟨c1, rid, w1, m1, hnr, ho, kp1, hpay1, hlog1⟩ := pre_next S t ht rest H n L tg c fs hpre' hs htog hn hsz
      (by rcases hnL with h | h
          · exact Or.inl h
          · rcases hfit with h' | h'
            · exact Or.inl h'
            · exact Or.inr ⟨h, h'⟩)
    obtain ⟨c2, d1, d2, d3, d4, d5⟩ := readAll_keep S rid k hk rest c1 w1 m1 ho
    refine ⟨c1, rid, hnr, c2, ?_, d2, d3, ?_, ?_⟩
    · rw [d1, hpay1]
    · rw [d4, hlog1]; simp
    · rw [d5.limit, kp1.limit, hlimc]
  | cons m ms ih =>
    intro readss c H n hr hm hpre hn hnL
    cases readss with
    | nil => simp at hr
    | cons rs rss =>
      obtain ⟨mt, ms1, msz, mfit⟩ := hm m (by simp)
      have hpre' : Pre S (encAll S m.2 ++ ((ms.map (fun m => encAll S m.2)).flatten ++ (encAll S fs ++ rest)))
          H n L tg c := by
        simpa using hpre
      have hlimc := hpre'.limit
      have hne : (ms.map (fun m => encAll S m.2)).flatten ++ (encAll S fs ++ rest) ≠ [] :=
        List.append_ne_nil_of_right_ne_nil _ (encAll_append_ne_nil hs rest)
      obtain ⟨c1, rid, w1, m1, hnr, ho, kp1, hpay1, hlog1⟩ := pre_next S m.1 mt _ H n L tg c m.2 hpre' ms1
        (Or.inr hne) hn msz
        (by rcases hnL with h | h
            · exact Or.inl h
            · rcases mfit with h' | h'
              · exact Or.inl h'
              · exact Or.inr ⟨h, h'⟩)
      have hpre2 := pre_touch S rid _ (H ++ ctlEvents m.2) L tg c1 w1 m1 m.2 ho hpay1 hlog1
        (by rw [kp1.limit, hlimc])
        (by obtain ⟨_, _, _, _, _, _, h⟩ := hpre'
            rw [kp1.same.together]; exact h) rs
      have hstep : touchMsgs (rs :: rss) c = touchMsgs rss (partialReads c1 rid rs) := by
        rw [touchMsgs, hnr]
      rw [hstep]
      obtain ⟨c3, rid2, e1, c4, e2, e3, e4, e5, e6⟩ := ih rss (partialReads c1 rid rs) (H ++ ctlEvents m.2)
        (dataPayload m.2).length (by simpa using hr) (fun x hx => hm x (by simp [hx])) hpre2 msz mfit
      refine ⟨c3, rid2, e1, c4, e2, e3, e4, ?_, e6⟩
      rw [e5]; simp

theorem abandon_then_next_limited (c : Conn) (hc : ReaderIdle c) (t1 t2 : Nat) (ht1 : t1 = 1 ∨ t1 = 2) (ht2 : t2 = 1 ∨ t2 = 2)
    (fs1 fs2 : List PFrame) (hs1 : MsgShape t1 fs1) (hs2 : MsgShape t2 fs2) (rest : Bytes)
    (hp : c.r.buf.pending = encAll c.r.isServer fs1 ++ encAll c.r.isServer fs2 ++ rest)
    (hend : c.r.buf.t.together = false ∨ rest ≠ [])
    (hsz : (dataPayload fs1).length < 2 ^ 62 ∧ (dataPayload fs2).length < 2 ^ 62)
    (hL : 0 < c.r.limit)
    (h1 : ((dataPayload fs1).length : Int) ≤ c.r.limit) (h2 : ((dataPayload fs2).length : Int) ≤ c.r.limit)
    (reads : List Nat) (k : Nat) (hk : 0 < k) :
    ∃ c1 rid1, nextReader c = (.msg t1 rid1 false, c1) ∧
      ∃ c3 rid2, nextReader (partialReads c1 rid1 reads) = (.msg t2 rid2 false, c3) ∧
        ∃ c4, readAll c3 rid2 k = ((dataPayload fs2, none), c4) ∧ ReaderIdle c4 ∧ c4.r.buf.pending = rest ∧
          c4.r.hlog = c.r.hlog ++ ctlEvents fs1 ++ ctlEvents fs2 ∧ c4.r.limit = c.r.limit := by
  have hp' : c.r.buf.pending = ([(t1, fs1)].map (fun m => encAll c.r.isServer m.2)).flatten ++
      (encAll c.r.isServer fs2 ++ rest) := by
    rw [hp]; simp
  have hne2 := encAll_append_ne_nil (S := c.r.isServer) hs2 rest
  have hpre := pre_idle c hc _ hp' (Or.inr (List.append_ne_nil_of_right_ne_nil _ hne2))
  obtain ⟨c1, rid1, b1, _⟩ := read_message c hc t1 ht1 fs1 hs1 _ (by rw [hp, List.append_assoc]) (Or.inr hne2)
    hsz.1 (Or.inr h1) 1 (by decide)
  obtain ⟨c3, rid2, e1, c4, e2, e3, e4, e5, e6⟩ := history_gen c.r.isServer t2 ht2 fs2 hs2 hsz.2 rest c.r.limit
    (Or.inr h2) c.r.buf.t.together hend k hk [(t1, fs1)] [reads] c c.r.hlog 0 rfl
    (by intro m hm
        have hm' : m = (t1, fs1) := by simpa using hm
        subst hm'
        exact ⟨ht1, hs1, hsz.1, Or.inr h1⟩)
    hpre (by omega) (Or.inr (by omega))
  have hstep : touchMsgs [reads] c = partialReads c1 rid1 reads := by
    rw [touchMsgs, b1]
    rfl
  rw [hstep] at e1
  refine ⟨c1, rid1, b1, c3, rid2, e1, c4, e2, e3, e4, ?_, e6⟩
  rw [e5]; simp

/-- history independence of the read limit: any number of earlier messages, each within the limit
    and each treated by the application in any way (`readss`: one list of read sizes per message),
    then a message within the limit: it is read in full -/
theorem limit_history_independent (c : Conn) (hc : ReaderIdle c) (hL : 0 < c.r.limit)
    (msgs : List (Nat × List PFrame))
    (hm : ∀ m ∈ msgs, (m.1 = 1 ∨ m.1 = 2) ∧ MsgShape m.1 m.2 ∧ (dataPayload m.2).length < 2 ^ 62 ∧
            ((dataPayload m.2).length : Int) ≤ c.r.limit)
    (readss : List (List Nat)) (hr : readss.length = msgs.length)
    (t : Nat) (ht : t = 1 ∨ t = 2) (fs : List PFrame) (hs : MsgShape t fs)
    (hsz : (dataPayload fs).length < 2 ^ 62) (hfit : ((dataPayload fs).length : Int) ≤ c.r.limit)
    (rest : Bytes)
    (hp : c.r.buf.pending = (msgs.map (fun m => encAll c.r.isServer m.2)).flatten ++ encAll c.r.isServer fs ++ rest)
    (hend : c.r.buf.t.together = false ∨ rest ≠ []) (k : Nat) (hk : 0 < k) :
    ∃ c1 rid, nextReader (touchMsgs readss c) = (.msg t rid false, c1) ∧
      ∃ c2, readAll c1 rid k = ((dataPayload fs, none), c2) ∧ ReaderIdle c2 ∧ c2.r.buf.pending = rest ∧
        c2.r.hlog = c.r.hlog ++ (msgs.map (fun m => ctlEvents m.2)).flatten ++ ctlEvents fs := by
  have hp' : c.r.buf.pending = (msgs.map (fun m => encAll c.r.isServer m.2)).flatten ++
      (encAll c.r.isServer fs ++ rest) := by
    rw [hp, List.append_assoc]
  have hpre := pre_idle c hc _ hp' (Or.inr (List.append_ne_nil_of_right_ne_nil _ (encAll_append_ne_nil hs rest)))
  obtain ⟨c1, rid, e1, c2, e2, e3, e4, e5, _⟩ := history_gen c.r.isServer t ht fs hs hsz rest c.r.limit
    (Or.inr hfit) c.r.buf.t.together hend k hk msgs readss c c.r.hlog 0 hr
    (fun m hm' => by
      obtain ⟨a, b, c', d⟩ := hm m hm'
      exact ⟨a, b, c', Or.inr d⟩)
    hpre (by omega) (Or.inr (by omega))
  exact ⟨c1, rid, e1, c2, e2, e3, e4, e5⟩

theorem read_messages_limited (c : Conn) (hc : ReaderIdle c) (msgs : List (Nat × List PFrame))
    (hm : ∀ m ∈ msgs, (m.1 = 1 ∨ m.1 = 2) ∧ MsgShape m.1 m.2 ∧ (dataPayload m.2).length < 2 ^ 62 ∧
            ((dataPayload m.2).length : Int) ≤ c.r.limit)
    (rest : Bytes)
    (hp : c.r.buf.pending = (msgs.map (fun m => encAll c.r.isServer m.2)).flatten ++ rest)
    (hend : c.r.buf.t.together = false ∨ rest ≠ []) (k : Nat) (hk : 0 < k) :
    ∃ c', readMsgs k msgs.length c = (msgs.map (fun m => (m.1, dataPayload m.2)), c') ∧
      ReaderIdle c' ∧ c'.r.buf.pending = rest ∧
      c'.r.hlog = c.r.hlog ++ (msgs.map (fun m => ctlEvents m.2)).flatten := by
  obtain ⟨c', h1, h2, h3, h4, _⟩ := read_messages_keep k hk rest msgs c hc
    (fun m hx => ⟨(hm m hx).1, (hm m hx).2.1, (hm m hx).2.2.1, Or.inr (hm m hx).2.2.2⟩) hp hend
  exact ⟨c', h1, h2, h3, h4⟩

end WS.LimitHistory
