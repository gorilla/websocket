import WS.Lemmas.PairRoundtrip
/-
  "exactly once, in send order" through a connected pair, for any number of calls (C01): writer
  programs of WriteMessage and WriteControl calls (`Item`, `writeItems`), their wire image as
  reader-side messages (`Framed`), and the round trip, from `read_messages_keep` (ReadMsgs.lean).
  The reader-only half of `WS.Sequences` (`readMsgs`, `read_messages`) is in ReadMsgs.lean. At the end,
  `WS.RoundTripLimit`: the same for a receiver with a read limit.
-/
namespace WS.Sequences
open WS WS.Codec WS.ReaderDecodes

def writeMsgs (s : W) : List (Nat × Bytes) → W
  | [] => s
  | (t, d) :: ms => writeMsgs (writeMessage s t d).2 ms

theorem writeMessage_isServer (s : W) (hi : Content.Idle s) (t : Nat) (ht : t = 1 ∨ t = 2) (data : Bytes)
    (hd : data.length < 2 ^ 40) : (writeMessage s t data).2.isServer = s.isServer := by
  obtain ⟨n, _, hk⟩ := KeyFlow.writeMessage_k s hi t ht data hd
  exact hk.hsv

/-- one call of a writer program: WriteMessage of a data message, or WriteControl (ping = 9 /
    pong = 10) with a deadline that is not in the past -/
inductive Item
  | data (t : Nat) (d : Bytes)
  | ctl (t : Nat) (d : Bytes) (deadline : Nat)

/-- `2 ^ 40` is the size bound of the writer theorems (`Content.Idle`, `writeMessage_roundtrip`); it
    excludes only payloads that do not fit in memory -/
def Item.ok : Item → Prop
  | .data t d => (t = 1 ∨ t = 2) ∧ d.length < 2 ^ 40
  | .ctl t d _ => (t = 9 ∨ t = 10) ∧ d.length ≤ 125

def writeItems (s : W) : List Item → W
  | [] => s
  | .data t d :: is => writeItems (writeMessage s t d).2 is
  | .ctl t d dl :: is => writeItems (writeControl s t d dl).2 is

def dataOf : List Item → List (Nat × Bytes)
  | [] => []
  | .data t d :: is => (t, d) :: dataOf is
  | .ctl _ _ _ :: is => dataOf is

/-- the handler invocations the control frames of the program must cause, in send order -/
def ctlOf : List Item → List REv
  | [] => []
  | .data _ _ :: is => ctlOf is
  | .ctl t d _ :: is => (if t == 9 then REv.ping d else REv.pong d) :: ctlOf is

section Framing
open WS.AdvFrame

/-- the wire image of a program as reader-side messages: every control frame is attached to the
    data message that follows it -/
def Framed (s : W) (items : List Item) : Prop :=
  ∃ fss : List (Nat × List PFrame),
    fss.map (fun m => (m.1, dataPayload m.2)) = dataOf items ∧
    (∀ m ∈ fss, (m.1 = 1 ∨ m.1 = 2) ∧ MsgShape m.1 m.2 ∧ (dataPayload m.2).length < 2 ^ 62) ∧
    (fss.map (fun m => ctlEvents m.2)).flatten = ctlOf items ∧
    (writeItems s items).wire = s.wire ++ (fss.map (fun m => encAll (!s.isServer) m.2)).flatten ∧
    Content.Idle (writeItems s items)

theorem framed_nil (s : W) (hi : Content.Idle s) : Framed s [] :=
  ⟨[], rfl, by simp, rfl, by simp [writeItems], hi⟩

theorem framed_data (s : W) (hi : Content.Idle s) (t : Nat) (d : Bytes) (ht : t = 1 ∨ t = 2)
    (hd : d.length < 2 ^ 40) (is : List Item) (h : Framed (writeMessage s t d).2 is) :
    Content.Idle (writeMessage s t d).2 ∧ Framed s (.data t d :: is) := by
  obtain ⟨fs, f1, f2, f3, f4⟩ := PairRoundtrip.writeMessage_frames s hi t ht d hd
  have hi1 := (Content.writeMessage_roundtrip s hi t ht d hd).2.1
  have hsv := writeMessage_isServer s hi t ht d hd
  obtain ⟨fss, g1, g2, g3, g4, g5⟩ := h
  refine ⟨hi1, (t, fs) :: fss, ?_, ?_, ?_, ?_, ?_⟩
  · simp only [List.map_cons, f2, g1, dataOf]
  · intro x hx
    rcases List.mem_cons.mp hx with hx | hx
    · subst hx
      exact ⟨ht, f1, by dsimp only; rw [f2]; omega⟩
    · exact g2 x hx
  · simp only [List.map_cons, List.flatten_cons, f3, g3, List.nil_append, ctlOf]
  · show (writeItems (writeMessage s t d).2 is).wire = _
    rw [g4, f4, hsv]
    simp
  · exact g5

theorem writeControl_frame (s : W) (hi : Content.Idle s) (t : Nat) (ht : t = 9 ∨ t = 10) (d : Bytes)
    (hd : d.length ≤ 125) (dl : Nat) :
    Content.Idle (writeControl s t d dl).2 ∧ (writeControl s t d dl).2.isServer = s.isServer ∧
    ∃ key, (writeControl s t d dl).2.wire = s.wire ++ PFrame.enc (!s.isServer) ⟨t, true, key, d⟩ := by
  have hi1 := (Content.writeControl_roundtrip s hi t ht d hd dl).2.1
  have hk := (Flow.writeControl_ok s t ht d hd dl hi.healthy hi.noFaults hi.wireSt).2.1
  refine ⟨hi1, hk.isServer, (ctlKey s).1, ?_⟩
  have hctl : isControl (t : Int) = true := by
    rcases ht with rfl | rfl <;> decide
  have hmax : ¬ d.length > maxControlPayload := by
    have : maxControlPayload = 125 := by decide
    rw [this]; omega
  have hdn : ¬ ((dl : Int) < 0) := by omega
  have hne : ((t : Int) == 8) = false := by
    rcases ht with rfl | rfl <;> decide
  have hkk := Flow.Keep.ctlKey s
  have hkw := Flow.ctlKey_wire s
  have h := Flow.connWrite_ok (ctlKey s).2 t dl (controlFrame s.isServer t d (ctlKey s).1) []
    (hkk.writeErr.trans hi.healthy) (hkk.faults.trans hi.noFaults) hne
  rw [PairRoundtrip.enc_mk]
  unfold writeControl
  rw [hctl]
  simp only [Bool.not_true, Bool.false_eq_true, if_false, hmax, hdn, Int.toNat_natCast]
  rw [h.2.2.1, hkw.1, List.append_nil, Codec.controlFrame_encode _ _ _ _ hd]
  rfl

theorem framed_ctl (s : W) (hi : Content.Idle s) (t : Nat) (d : Bytes) (dl : Nat) (ht : t = 9 ∨ t = 10)
    (hd : d.length ≤ 125) (is : List Item) (h : Framed (writeControl s t d dl).2 is)
    (hne : dataOf is ≠ []) : Framed s (.ctl t d dl :: is) := by
  obtain ⟨hi1, hsv, key, hw⟩ := writeControl_frame s hi t ht d hd dl
  obtain ⟨fss, g1, g2, g3, g4, g5⟩ := h
  cases fss with
  | nil => exact absurd g1.symm hne
  | cons m fss =>
    obtain ⟨t0, fs0⟩ := m
    have hok : (⟨t, true, key, d⟩ : PFrame).ctlOk := ⟨ht, rfl, hd⟩
    have hc : (⟨t, true, key, d⟩ : PFrame).isCtl = true := isCtl_of_ctlOk hok
    obtain ⟨m1, m2, m3⟩ := g2 (t0, fs0) (by simp)
    refine ⟨(t0, ⟨t, true, key, d⟩ :: fs0) :: fss, ?_, ?_, ?_, ?_, g5⟩
    · simp only [List.map_cons, dataPayload_ctl _ hc, dataOf]
      simpa using g1
    · intro x hx
      rcases List.mem_cons.mp hx with hx | hx
      · subst hx
        exact ⟨m1, MsgShape.ctl _ _ hok m2, by dsimp only; rw [dataPayload_ctl _ hc]; exact m3⟩
      · exact g2 x (by simp [hx])
    · simp only [List.map_cons, List.flatten_cons, ctlEvents_ctl _ hc, ctlOf, List.cons_append]
      congr 1
    · show (writeItems (writeControl s t d dl).2 is).wire = _
      rw [g4, hw, hsv]
      simp

theorem dataOf_snoc_ne (is : List Item) (t : Nat) (d : Bytes) : dataOf (is ++ [.data t d]) ≠ [] := by
  induction is with
  | nil => simp [dataOf]
  | cons it is ih =>
    cases it with
    | data t' d' => simp [dataOf]
    | ctl t' d' dl => simpa [dataOf] using ih

theorem framed_snoc (items : List Item) (t : Nat) (d : Bytes) (ht : t = 1 ∨ t = 2) (hd : d.length < 2 ^ 40) :
    ∀ (s : W), Content.Idle s → (∀ it ∈ items, it.ok) → Framed s (items ++ [.data t d]) := by
  induction items with
  | nil =>
    intro s hi _
    have hi1 := (Content.writeMessage_roundtrip s hi t ht d hd).2.1
    exact (framed_data s hi t d ht hd [] (framed_nil _ hi1)).2
  | cons it is ih =>
    intro s hi hok
    have hit := hok it (by simp)
    have hrest : ∀ x ∈ is, x.ok := fun x hx => hok x (by simp [hx])
    cases it with
    | data t' d' =>
      have hi1 := (Content.writeMessage_roundtrip s hi t' hit.1 d' hit.2).2.1
      exact (framed_data s hi t' d' hit.1 hit.2 _ (ih _ hi1 hrest)).2
    | ctl t' d' dl =>
      have hi1 := (writeControl_frame s hi t' hit.1 d' hit.2 dl).1
      exact framed_ctl s hi t' d' dl hit.1 hit.2 _ (ih _ hi1 hrest) (dataOf_snoc_ne is t d)

theorem framed (s : W) (hi : Content.Idle s) (items : List Item) (hok : ∀ it ∈ items, it.ok)
    (hlast : items = [] ∨ ∃ pre t d, items = pre ++ [.data t d]) : Framed s items := by
  rcases hlast with h | ⟨pre, t, d, h⟩
  · subst h; exact framed_nil s hi
  · subst h
    have hlastok := hok (.data t d) (by simp)
    exact framed_snoc pre t d hlastok.1 hlastok.2 s hi (fun x hx => hok x (by simp [hx]))

/-- The round trip of a writer program, the receiver's read limit being absent or not below the length
    of any single data message (their total may be far above it). -/
theorem round_trip_items (s : W) (hi : Content.Idle s) (items : List Item) (hok : ∀ it ∈ items, it.ok)
    (hlast : items = [] ∨ ∃ pre t d, items = pre ++ [.data t d])
    (c : Conn) (hc : ReaderIdle c) (hrole : c.r.isServer = !s.isServer) (rest : Bytes)
    (hp : c.r.buf.pending = (writeItems s items).wire.drop s.wire.length ++ rest)
    (hend : c.r.buf.t.together = false ∨ rest ≠ [])
    (hlim : ∀ m ∈ dataOf items, c.r.limit ≤ 0 ∨ (m.2.length : Int) ≤ c.r.limit) (k : Nat) (hk : 0 < k) :
    ∃ c', readMsgs k (dataOf items).length c = (dataOf items, c') ∧ ReaderIdle c' ∧
      c'.r.buf.pending = rest ∧ c'.r.hlog = c.r.hlog ++ ctlOf items ∧
      Content.Idle (writeItems s items) ∧ Keep c c' := by
  obtain ⟨fss, g1, g2, g3, g4, g5⟩ := framed s hi items hok hlast
  have hp' : c.r.buf.pending = (fss.map (fun m => encAll c.r.isServer m.2)).flatten ++ rest := by
    rw [hp, g4, List.drop_left, hrole]
  have hfit : ∀ m ∈ fss, Fits c m := fun m hx =>
    ⟨(g2 m hx).1, (g2 m hx).2.1, (g2 m hx).2.2,
      hlim (m.1, dataPayload m.2) (by rw [← g1]; exact List.mem_map_of_mem hx)⟩
  obtain ⟨c', h1, h2, h3, h4, h5⟩ := read_messages_keep k hk rest fss c hc hfit hp' hend
  have hlen : (dataOf items).length = fss.length := by rw [← g1, List.length_map]
  exact ⟨c', by rw [hlen, h1, g1], h2, h3, by rw [h4, g3], g5, h5⟩

def dataItems (msgs : List (Nat × Bytes)) : List Item := msgs.map (fun m => .data m.1 m.2)

theorem writeItems_data (msgs : List (Nat × Bytes)) : ∀ s, writeItems s (dataItems msgs) = writeMsgs s msgs := by
  induction msgs with
  | nil => intro s; rfl
  | cons m ms ih => intro s; exact ih _

theorem dataOf_data (msgs : List (Nat × Bytes)) : dataOf (dataItems msgs) = msgs := by
  induction msgs with
  | nil => rfl
  | cons m ms ih => exact congrArg (m :: ·) ih

theorem ctlOf_data (msgs : List (Nat × Bytes)) : ctlOf (dataItems msgs) = [] := by
  induction msgs with
  | nil => rfl
  | cons m ms ih => exact ih

theorem dataItems_ok (msgs : List (Nat × Bytes)) (hm : ∀ m ∈ msgs, (m.1 = 1 ∨ m.1 = 2) ∧ m.2.length < 2 ^ 40) :
    ∀ it ∈ dataItems msgs, it.ok := by
  intro it hit
  obtain ⟨m, hx, rfl⟩ := List.mem_map.mp hit
  exact hm m hx

theorem dataItems_last (msgs : List (Nat × Bytes)) :
    dataItems msgs = [] ∨ ∃ pre t d, dataItems msgs = pre ++ [.data t d] := by
  rcases List.eq_nil_or_concat msgs with rfl | ⟨pre, m, rfl⟩
  · exact Or.inl rfl
  · exact Or.inr ⟨dataItems pre, m.1, m.2, by simp [dataItems]⟩

end Framing

/-- C01, any number of messages: whatever a sequence of WriteMessage calls on one connection puts
    on the wire, a connection of the opposite role reads as exactly that sequence of (type, payload)
    pairs — each exactly once, in send order — with reads of any size, through any bufio size and
    transport chunking; no handler is invoked and the following bytes are untouched -/
theorem round_trip_sequence (s : W) (hi : Content.Idle s) (msgs : List (Nat × Bytes))
    (hm : ∀ m ∈ msgs, (m.1 = 1 ∨ m.1 = 2) ∧ m.2.length < 2 ^ 40)
    (c : Conn) (hc : ReaderIdle c) (hrole : c.r.isServer = !s.isServer) (rest : Bytes)
    (hp : c.r.buf.pending = (writeMsgs s msgs).wire.drop s.wire.length ++ rest)
    (hend : c.r.buf.t.together = false ∨ rest ≠ []) (hlim : c.r.limit ≤ 0) (k : Nat) (hk : 0 < k) :
    ∃ c', readMsgs k msgs.length c = (msgs, c') ∧ ReaderIdle c' ∧ c'.r.buf.pending = rest ∧
      c'.r.hlog = c.r.hlog ∧ Content.Idle (writeMsgs s msgs) := by
  have h := round_trip_items s hi (dataItems msgs) (dataItems_ok msgs hm) (dataItems_last msgs) c hc hrole rest
    (by rw [writeItems_data]; exact hp) hend (fun _ _ => Or.inl hlim) k hk
  rw [dataOf_data, ctlOf_data, writeItems_data, List.append_nil] at h
  obtain ⟨c', h1, h2, h3, h4, h5, _⟩ := h
  exact ⟨c', h1, h2, h3, h4, h5⟩

/-- C01 with control frames, any number of calls: a program of WriteMessage (text / binary) and WriteControl
    (ping / pong, at most 125 bytes) calls on one connection, ending with a data message (control frames after the
    last data message are not consumed before a further NextReader call), is read by a connection of the opposite
    role as exactly the data messages, each exactly once, in send order, and the reader's handlers are invoked for
    exactly the control frames, in send order (the default ping handler's pong goes to the reader connection's own
    writer, whatever its state). -/
theorem round_trip_sequence_with_controls (s : W) (hi : Content.Idle s) (items : List Item)
    (hok : ∀ it ∈ items, it.ok)
    (hlast : items = [] ∨ ∃ pre t d, items = pre ++ [.data t d])
    (c : Conn) (hc : ReaderIdle c) (hrole : c.r.isServer = !s.isServer) (rest : Bytes)
    (hp : c.r.buf.pending = (writeItems s items).wire.drop s.wire.length ++ rest)
    (hend : c.r.buf.t.together = false ∨ rest ≠ []) (hlim : c.r.limit ≤ 0) (k : Nat) (hk : 0 < k) :
    ∃ c', readMsgs k (dataOf items).length c = (dataOf items, c') ∧ ReaderIdle c' ∧
      c'.r.buf.pending = rest ∧ c'.r.hlog = c.r.hlog ++ ctlOf items ∧
      Content.Idle (writeItems s items) := by
  obtain ⟨c', h1, h2, h3, h4, h5, _⟩ :=
    round_trip_items s hi items hok hlast c hc hrole rest hp hend (fun _ _ => Or.inl hlim) k hk
  exact ⟨c', h1, h2, h3, h4, h5⟩

end WS.Sequences

/-
  C01 with a read limit on the receiving side ("the documentation promises [buffer sizes] do not limit
  message size" — a read limit does, and exactly at its value): a message of at most L bytes sent by
  WriteMessage is read in full by a peer whose read limit is L; for any number of messages.
-/
namespace WS.RoundTripLimit
open WS WS.Codec WS.ReaderDecodes WS.PairRoundtrip WS.Sequences

/-- `round_trip` (C01) for a receiver with a read limit: any limit not below the payload length -/
theorem round_trip_limited (s : W) (hi : Content.Idle s) (t : Nat) (ht : t = 1 ∨ t = 2) (data : Bytes)
    (hd : data.length < 2 ^ 40)
    (c : Conn) (hc : ReaderIdle c) (hrole : c.r.isServer = !s.isServer) (rest : Bytes)
    (hp : c.r.buf.pending = (writeMessage s t data).2.wire.drop s.wire.length ++ rest)
    (hend : c.r.buf.t.together = false ∨ rest ≠ [])
    (hlim : c.r.limit ≤ 0 ∨ (data.length : Int) ≤ c.r.limit) (k : Nat) (hk : 0 < k) :
    ∃ c1 rid, nextReader c = (.msg t rid false, c1) ∧
      ∃ c2, readAll c1 rid k = ((data, none), c2) ∧ ReaderIdle c2 ∧ c2.r.buf.pending = rest ∧
        c2.r.hlog = c.r.hlog ∧ c2.r.limit = c.r.limit := by
  obtain ⟨c1, rid, h1, c2, h2, h3, h4, h5, h6⟩ :=
    pair_roundtrip_keep s hi t ht data hd c hc hrole rest hp hend hlim k hk
  exact ⟨c1, rid, h1, c2, h2, h3, h4, h5, h6.limit⟩

/-- any number of messages sent with WriteMessage, each within the receiver's read limit (their total
    may be far above it), arrive exactly once, in send order -/
theorem round_trip_sequence_limited (s : W) (hi : Content.Idle s) (msgs : List (Nat × Bytes))
    (c : Conn) (hc : ReaderIdle c) (hrole : c.r.isServer = !s.isServer)
    (hm : ∀ m ∈ msgs, (m.1 = 1 ∨ m.1 = 2) ∧ m.2.length < 2 ^ 40 ∧ (c.r.limit ≤ 0 ∨ (m.2.length : Int) ≤ c.r.limit))
    (rest : Bytes)
    (hp : c.r.buf.pending = (writeMsgs s msgs).wire.drop s.wire.length ++ rest)
    (hend : c.r.buf.t.together = false ∨ rest ≠ []) (k : Nat) (hk : 0 < k) :
    ∃ c', readMsgs k msgs.length c = (msgs, c') ∧ ReaderIdle c' ∧ c'.r.buf.pending = rest ∧
      c'.r.hlog = c.r.hlog := by
  have h := round_trip_items s hi (dataItems msgs)
    (dataItems_ok msgs (fun m hx => ⟨(hm m hx).1, (hm m hx).2.1⟩)) (dataItems_last msgs) c hc hrole rest
    (by rw [writeItems_data]; exact hp) hend (by rw [dataOf_data]; exact fun m hx => (hm m hx).2.2) k hk
  rw [dataOf_data, ctlOf_data, List.append_nil] at h
  obtain ⟨c', h1, h2, h3, h4, _⟩ := h
  exact ⟨c', h1, h2, h3, h4⟩

end WS.RoundTripLimit
