import WS.Lemmas.ReadFromLoop
/-
  The message writer in the middle of a data message on a healthy connection: the invariant `MidZ`
  (`z` = the message is compressed, RSV1 on its first frame), kept by every flush and so, through
  `LoopInv`, by Write / WriteString / ReadFrom / the chunks a flate wrapper feeds. The final flush
  completes the message on the wire. `Flow.MidMW`, at the end, writes out the case `z = false`; the
  theorems are all stated with `MidZ`.
-/
namespace WS.ZFlow
open WS WS.Codec WS.Stream WS.Flow WS.ReadFromLoop

/-- while a data message of opcode `t` is being written. `z` = it is compressed (RSV1 goes on the first
    frame only); `M`, `C` = complete messages / control frames on the wire; `acc` = payload accepted so far -/
structure MidZ (s : W) (m : MW) (t : Nat) (z : Bool) (M : List Spec.Msg) (C : List (Nat × Bytes)) (acc : Bytes) : Prop where
  healthy : s.writeErr = none
  noFaults : s.faults = []
  size : maxFrameHeaderSize < s.wbufLen ∧ s.wbufLen < 2 ^ 40
  err : m.err = none
  buflen : m.buf.length ≤ s.cap
  wire : ∃ flushed, flushed ++ m.buf = acc ∧
    ((m.ft = t ∧ m.compress = z ∧ flushed = [] ∧ WireSt s.wire M C none) ∨
     (m.ft = 0 ∧ m.compress = false ∧ WireSt s.wire M C (some ⟨t, z, flushed⟩)))

theorem MidZ.ft_lt {s m t z M C acc} (h : MidZ s m t z M C acc) (ht : t = 1 ∨ t = 2) : m.ft < 3 := by
  obtain ⟨_, _, hw⟩ := h.wire
  rcases hw with ⟨h1, _⟩ | ⟨h1, _⟩ <;> omega

theorem MidZ.cap_lt {s m t z M C acc} (h : MidZ s m t z M C acc) : s.cap < 2 ^ 40 ∧ 0 < s.cap := by
  have := h.size
  unfold W.cap
  omega

theorem MidZ.rewire {s s' m t z M C C' acc} (h : MidZ s m t z M C acc) (h1 : s'.writeErr = s.writeErr)
    (h2 : s'.faults = s.faults) (h3 : s'.wbufLen = s.wbufLen)
    (h4 : ∀ cur, WireSt s.wire M C cur → WireSt s'.wire M C' cur) : MidZ s' m t z M C' acc := by
  refine ⟨h1.trans h.healthy, h2.trans h.noFaults, by rw [h3]; exact h.size, h.err, ?_, ?_⟩
  · unfold W.cap; rw [h3]; exact h.buflen
  · obtain ⟨fl, hacc, hw⟩ := h.wire
    refine ⟨fl, hacc, hw.imp ?_ ?_⟩
    · exact fun ⟨a, b, c, d⟩ => ⟨a, b, c, h4 _ d⟩
    · exact fun ⟨a, b, c⟩ => ⟨a, b, h4 _ c⟩

theorem MidZ.congr {s s' m t z M C acc} (h : MidZ s m t z M C acc) (h1 : s'.writeErr = s.writeErr)
    (h2 : s'.faults = s.faults) (h3 : s'.wbufLen = s.wbufLen) (h4 : s'.wire = s.wire) : MidZ s' m t z M C acc :=
  h.rewire h1 h2 h3 (fun _ hw => h4 ▸ hw)

theorem MidZ.of_core {s s' m t z M C acc} (h : MidZ s m t z M C acc) (hc : s'.core = s.core)
    (hl : s'.wbufLen = s.wbufLen) : MidZ s' m t z M C acc :=
  h.congr (core_writeErr hc) (core_faults hc) hl (core_wire hc)

theorem MidZ.extend {s m t z M C acc} (h : MidZ s m t z M C acc) (chunk : Bytes)
    (hc : chunk.length ≤ s.cap - m.buf.length) :
    MidZ s { m with buf := m.buf ++ chunk } t z M C (acc ++ chunk) := by
  refine ⟨h.healthy, h.noFaults, h.size, h.err, ?_, ?_⟩
  · have := h.buflen
    simp only [List.length_append]; omega
  · obtain ⟨fl, hacc, hw⟩ := h.wire
    exact ⟨fl, by rw [← hacc, List.append_assoc], hw⟩

theorem MidZ.flush {s m t z M C acc} (h : MidZ s m t z M C acc) (ht : t = 1 ∨ t = 2) (final : Bool)
    (extra : Bytes) (hel : extra.length < 2 ^ 40) (hx : s.isServer = true ∨ extra = []) :
    (flushFrame s m final extra).1 = none ∧ Keep s (flushFrame s m final extra).2.1 ∧
    (flushFrame s m final extra).2.1.writer = (if final then none else s.writer) ∧
    (final = true → (flushFrame s m final extra).2.2.err.isSome) ∧
    (final = false → (flushFrame s m final extra).2.2 = { m with compress := false, buf := [], ft := 0 }) ∧
    WireSt (flushFrame s m final extra).2.1.wire (if final then M ++ [⟨t, z, acc ++ extra⟩] else M) C
      (if final then none else some ⟨t, z, acc ++ extra⟩) := by
  have hft := h.ft_lt ht
  have hcap := h.cap_lt
  have hbl := h.buflen
  have hf := flushFrame_data s m final extra h.healthy h.noFaults (by omega) hx h.err
  refine ⟨hf.ok, hf.keep, hf.writer, hf.ended, hf.reset, ?_⟩
  rw [hf.wire]
  have hlen : (m.buf ++ extra).length < 2 ^ 63 := by
    simp only [List.length_append]; omega
  obtain ⟨fl, hacc, hws⟩ := h.wire
  rcases hws with ⟨hft1, hcz, hfl, hws⟩ | ⟨hft0, hcz, hws⟩
  · subst hfl
    rw [hft1, hcz]
    exact hws.data s.isServer t (by omega) final z _ _ hlen _ (by rw [← hacc]; rfl)
  · rw [hft0, hcz]
    exact hws.data s.isServer 0 (by omega) final false _ _ hlen _ (by rw [← hacc, List.append_assoc])

theorem flush_midZ {s m t z M C acc} (h : MidZ s m t z M C acc) (ht : t = 1 ∨ t = 2) (extra : Bytes)
    (hel : extra.length < 2 ^ 40) (hx : s.isServer = true ∨ extra = []) :
    (flushFrame s m false extra).1 = none ∧ Keep s (flushFrame s m false extra).2.1 ∧
    (flushFrame s m false extra).2.1.writer = s.writer ∧
    (flushFrame s m false extra).2.2.buf = [] ∧
    MidZ (flushFrame s m false extra).2.1 (flushFrame s m false extra).2.2 t z M C (acc ++ extra) := by
  obtain ⟨h1, hk, hwr, _, hm', hws⟩ := h.flush ht false extra hel hx
  have hm' := hm' rfl
  rw [hm']
  exact ⟨h1, hk, hwr, rfl, hk.writeErr.trans h.healthy, hk.faults.trans h.noFaults, by rw [hk.wbufLen]; exact h.size,
    h.err, Nat.zero_le _, acc ++ extra, List.append_nil _, Or.inr ⟨rfl, rfl, hws⟩⟩

theorem flush_finalZ {s m t z M C acc} (h : MidZ s m t z M C acc) (ht : t = 1 ∨ t = 2) (extra : Bytes)
    (hel : extra.length < 2 ^ 40) (hx : s.isServer = true ∨ extra = []) :
    (flushFrame s m true extra).1 = none ∧ Keep s (flushFrame s m true extra).2.1 ∧
    (flushFrame s m true extra).2.1.writer = none ∧
    (flushFrame s m true extra).2.2.err.isSome ∧
    WireSt (flushFrame s m true extra).2.1.wire (M ++ [⟨t, z, acc ++ extra⟩]) C none := by
  obtain ⟨h1, hk, hwr, herr, _, hws⟩ := h.flush ht true extra hel hx
  exact ⟨h1, hk, hwr, herr rfl, hws⟩

theorem mwClose_finZ {s m t z M C acc} (h : MidZ s m t z M C acc) (ht : t = 1 ∨ t = 2) :
    (mwClose s m).1 = none ∧ Keep s (mwClose s m).2.1 ∧ (mwClose s m).2.1.writer = none ∧
    (mwClose s m).2.2.err.isSome ∧ WireSt (mwClose s m).2.1.wire (M ++ [⟨t, z, acc⟩]) C none := by
  rw [mwClose_live h.err]
  have := flush_finalZ h ht [] (by simp) (Or.inr rfl)
  rw [List.append_nil] at this
  exact this

theorem midZ_loopInv (t : Nat) (ht : t = 1 ∨ t = 2) (z : Bool) (M : List Spec.Msg) (C : List (Nat × Bytes)) :
    LoopInv (fun s m acc => MidZ s m t z M C acc) where
  live := fun h => h.err
  room := fun h => ⟨h.cap_lt.2, h.buflen⟩
  flush := fun extra h hx hl =>
    have hf := flush_midZ h ht extra hl hx
    ⟨hf.1, hf.2.2.2.1, hf.2.2.2.2⟩
  extend := fun chunk h hc => h.extend chunk hc

section
variable {s : W} {m : MW} {t : Nat} {z : Bool} {M : List Spec.Msg} {C : List (Nat × Bytes)} {acc : Bytes}

theorem mwWrite_midZ (p : Bytes) (h : MidZ s m t z M C acc) (ht : t = 1 ∨ t = 2) (hp : p.length < 2 ^ 40) :
    (mwWrite s m p).1 = none ∧ MidZ (mwWrite s m p).2.1 (mwWrite s m p).2.2 t z M C (acc ++ p) :=
  (midZ_loopInv t ht z M C).mwWrite p h hp

theorem mwWriteString_midZ (p : Bytes) (h : MidZ s m t z M C acc) (ht : t = 1 ∨ t = 2) :
    (mwWriteString s m p).1 = none ∧
    MidZ (mwWriteString s m p).2.1 (mwWriteString s m p).2.2 t z M C (acc ++ p) :=
  (midZ_loopInv t ht z M C).mwWriteString p h

theorem feed_midZ (cs : List Bytes) (h : MidZ s m t z M C acc) (ht : t = 1 ∨ t = 2)
    (hcs : ∀ c ∈ cs, c.length < 2 ^ 40) :
    (feed s m cs).1 = none ∧ MidZ (feed s m cs).2.1 (feed s m cs).2.2 t z M C (acc ++ cs.flatten) :=
  (midZ_loopInv t ht z M C).feed cs h hcs

theorem mwReadFrom_midZ (r : Src) (h : MidZ s m t z M C acc) (ht : t = 1 ∨ t = 2) (hr : r.term = none) :
    (mwReadFrom s m r).1 = (r.chunks.flatten.length, none) ∧
    MidZ (mwReadFrom s m r).2.1 (mwReadFrom s m r).2.2 t z M C (acc ++ r.chunks.flatten) :=
  (midZ_loopInv t ht z M C).mwReadFrom r h hr

theorem midZ_control (h : MidZ s m t z M C acc) (ct : Nat) (hct : ct = 9 ∨ ct = 10) (data : Bytes)
    (hd : data.length ≤ 125) (d : Nat) :
    (writeControl s ct data d).1 = none ∧
    MidZ (writeControl s ct data d).2 m t z M (C ++ [(ct, data)]) acc := by
  have hc := writeControl_healthy s ct hct data hd d h.healthy h.noFaults
  refine ⟨hc.1, h.rewire hc.2.1.writeErr hc.2.1.faults hc.2.1.wbufLen fun cur hw => ?_⟩
  rw [hc.2.2.2]
  exact hw.control s.isServer ct hct _ data (by omega)

end

end WS.ZFlow

namespace WS.Flow
open WS WS.Stream

/-- `ZFlow.MidZ s m t false M C acc`, written out -/
structure MidMW (s : W) (m : MW) (t : Nat) (M : List Spec.Msg) (C : List (Nat × Bytes)) (acc : Bytes) : Prop where
  healthy : s.writeErr = none
  noFaults : s.faults = []
  size : maxFrameHeaderSize < s.wbufLen ∧ s.wbufLen < 2 ^ 40
  err : m.err = none
  compress : m.compress = false
  buflen : m.buf.length ≤ s.cap
  wire : ∃ flushed, flushed ++ m.buf = acc ∧
    ((m.ft = t ∧ flushed = [] ∧ WireSt s.wire M C none) ∨
     (m.ft = 0 ∧ WireSt s.wire M C (some ⟨t, false, flushed⟩)))

end WS.Flow
