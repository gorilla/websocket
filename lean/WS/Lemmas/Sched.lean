import WS.Model.Sched
import WS.Lemmas.Mutex
/-
  C09 over the interleaving semantics `WS.Sched`: the invariant `Inv` holds in every reachable state, hence a
  close frame can only be the last frame on the wire.

  The mutex clause is `Mutex.Locked`; each step is a stay / acquire / release in the sense of that file. What
  is special to this model is the handshake between the wire and the sticky error (`Inv.closed_err`): a close
  frame on the wire has been acknowledged in `writeErr` by the time its writer is past `mark`.
-/
namespace WS.Sched

theorem inv_init : Inv init :=
  { lock := fun _ h => nomatch h
    closeL := fun _ h => nomatch h
    closer := fun h => nomatch h
    clean := fun _ _ => List.not_mem_nil }

theorem closeLast_append {w : List Bool} (h : CloseLast w) (hn : true ∉ w) (c : Bool) : CloseLast (w ++ [c]) := by
  intro i hi
  have hi : i < w.length := by simpa using hi
  rw [List.getElem?_append_left hi, List.getElem?_eq_getElem hi]
  cases hw : w[i] with
  | false => rfl
  | true => exact absurd (hw ▸ List.getElem_mem hi) hn

@[simp] theorem upd_same (f : Nat → Phase) (t : Nat) (p : Phase) : upd f t p t = p := if_pos rfl
theorem upd_other (f : Nat → Phase) {t u : Nat} (p : Phase) (e : u ≠ t) : upd f t p u = f u := if_neg e

theorem holder_unique {g : G} (hi : Inv g) {t u : Nat} (ht : holds (g.phase t) = true)
    (hu : holds (g.phase u) = true) : u = t :=
  Mutex.Locked.unique hi.lock ht hu

/-- With a close frame on the wire the sticky error is set, unless the mutex is held by the closer itself, still
    between its transport write and its `mark`. -/
theorem Inv.closed_err {g : G} (hi : Inv g) (hc : true ∈ g.wire)
    (hh : ∀ u, g.holder = some u → g.phase u ≠ .wrote true) : g.writeErr = true := by
  cases hw : g.writeErr with
  | true => rfl
  | false =>
    obtain ⟨u, hu, hp⟩ := hi.closer hc hw
    exact absurd hp (hh u hu)

theorem Inv.closed_err_of_holder {g : G} (hi : Inv g) (hc : true ∈ g.wire) {t : Nat}
    (ht : holds (g.phase t) = true) (hq : g.phase t ≠ .wrote true) : g.writeErr = true :=
  hi.closed_err hc (fun _ hu => Option.some.inj ((hi.lock t ht).symm.trans hu) ▸ hq)

/-- `hlock` is discharged by the shape of the step (`Mutex.Locked.stay` / `acquire` / `release`). -/
theorem inv_move {g : G} (hi : Inv g) (t : Nat) (p : Phase) {holder' : Option Nat} {we' : Bool}
    (hlock : Mutex.Locked holds (upd g.phase t p) holder')
    (hclean : (p = .lockedChecked ∨ p = .deadlineSet) → true ∉ g.wire)
    (hcloser : true ∈ g.wire → we' = false → ∃ u, holder' = some u ∧ upd g.phase t p u = .wrote true) :
    Inv { g with holder := holder', writeErr := we', phase := upd g.phase t p } where
  lock := hlock
  closeL := hi.closeL
  closer := hcloser
  clean := fun u hu => by
    by_cases e : u = t
    · exact hclean (by simpa [e] using hu)
    · exact hi.clean u (by simpa [upd_other _ _ e] using hu)

/-- `inv_move` with the mutex clause given by what the other holders (`hhold`) and `t` itself (`hself`) do.
    `hwe` is not used. -/
theorem inv_local {g : G} (hi : Inv g) (t : Nat) (p : Phase) (holder' : Option Nat) (we' : Bool)
    (hwe : g.writeErr = true → we' = true)
    (hhold : ∀ u, u ≠ t → holds (g.phase u) = true → holder' = some u)
    (hself : holds p = true → holder' = some t)
    -- t is not (any more) a thread that claims "no close on wire" unless it was before
    (hclean : (p = .lockedChecked ∨ p = .deadlineSet) → true ∉ g.wire)
    (hcloser : true ∈ g.wire → we' = false → ∃ u, holder' = some u ∧ upd g.phase t p u = .wrote true) :
    Inv { g with holder := holder', writeErr := we', phase := upd g.phase t p } :=
  inv_move hi t p (Mutex.Locked.move t p hhold hself) hclean hcloser

theorem closer_other {g : G} (hi : Inv g) {t : Nat} (p : Phase) (hq : g.phase t ≠ .wrote true) :
    true ∈ g.wire → g.writeErr = false → ∃ u, g.holder = some u ∧ upd g.phase t p u = .wrote true := by
  intro a b
  obtain ⟨u, h1, h2⟩ := hi.closer a b
  exact ⟨u, h1, (upd_other _ _ (fun (e : u = t) => hq (e ▸ h2))).trans h2⟩

theorem inv_step {g g' : G} (hi : Inv g) (hs : Step g g') : Inv g' := by
  have hl : Mutex.Locked holds g.phase g.holder := hi.lock
  -- a holder outside phase `wrote true` never sees a close frame that `writeErr` does not know of
  have acked : ∀ t, holds (g.phase t) = true → g.phase t ≠ .wrote true → true ∈ g.wire → g.writeErr = false → False :=
    fun t ht hq a b => nomatch (hi.closed_err_of_holder a ht hq).symm.trans b
  cases hs with
  | want t h | timeout t h =>
    exact inv_move hi t _ (hl.stay t _ nofun) (by simp) (closer_other hi _ (by simp [h]))
  | acquire t h hf =>
    exact inv_move hi t _ (hl.acquire hf t _) (by simp)
      (fun a b => nomatch (hi.closed_err a (fun _ hu => nomatch hf.symm.trans hu)).symm.trans b)
  | checkFail t h he =>
    exact inv_move hi t _ (hl.release t _ (by simp [h, holds]) rfl) (by simp) (fun _ b => nomatch he.symm.trans b)
  | checkOk t h he =>
    have nowire : true ∉ g.wire := fun a => acked t (by simp [h, holds]) (by simp [h]) a he
    exact inv_move hi t _ (hl.stay t _ (fun _ => by simp [h, holds])) (fun _ => nowire) (fun a _ => absurd a nowire)
  | deadlineOk t h =>
    have nowire := hi.clean t (Or.inl h)
    exact inv_move hi t _ (hl.stay t _ (fun _ => by simp [h, holds])) (fun _ => nowire) (fun a _ => absurd a nowire)
  | deadlineFail t h | writeFail t h =>
    exact inv_move hi t _ (hl.release t _ (by simp [h, holds]) rfl) (by simp) (fun _ b => nomatch b)
  | writeOk t c h =>
    have ht : holds (g.phase t) = true := by simp [h, holds]
    have nowire := hi.clean t (Or.inr h)
    refine ⟨hl.stay t _ (fun _ => ht), closeLast_append hi.closeL nowire c, ?_, ?_⟩
    · intro a _
      obtain rfl : c = true := by simpa [nowire] using a
      exact ⟨t, hl t ht, upd_same ..⟩
    · intro u hu
      by_cases e : u = t
      · simp [e] at hu
      · have hu' : g.phase u = .lockedChecked ∨ g.phase u = .deadlineSet := by simpa [upd_other _ _ e] using hu
        exact absurd (hl.unique ht (by rcases hu' with h' | h' <;> simp [h', holds])) e
  | mark t c h =>
    refine inv_move hi t _ (hl.stay t _ (fun _ => by simp [h, holds])) (by simp) (fun a b => ?_)
    cases c with
    | true => simp at b
    | false => exact (acked t (by simp [h, holds]) (by simp [h]) a (by simpa using b)).elim
  | release t h =>
    exact inv_move hi t _ (hl.release t _ (by simp [h, holds]) rfl) (by simp)
      (fun a b => (acked t (by simp [h, holds]) (by simp [h]) a b).elim)

theorem reach_inv {g : G} (h : Reach g) : Inv g := by
  induction h with
  | init => exact inv_init
  | step _ hs ih => exact inv_step ih hs

/-- C09 core: in every reachable state of every interleaving of any number of threads,
    a close frame can only be the last frame on the wire. -/
theorem close_is_last {g : G} (h : Reach g) : CloseLast g.wire :=
  (reach_inv h).closeL

end WS.Sched
