import WS.Spec.Frame
import WS.Lemmas.Codec
/-
  Spec side of C01/C02: the strict stream decoder over appended whole-frame streams, the prefix decoder
  on whole-frame streams, `messages` / `controls` over append, and `WireSt w M C cur`, the summary of a
  wire of whole frames the content theorems carry along (complete messages, control frames, open message).
-/
namespace WS.Stream
open WS WS.Spec WS.Codec

theorem decodeKey_append {m : Bool} {rest rest2 : Bytes} {key : Option Key} (x : Bytes)
    (h : decodeKey m rest = some (key, rest2)) : decodeKey m (rest ++ x) = some (key, rest2 ++ x) := by
  unfold decodeKey at h ⊢
  cases m with
  | true =>
    simp only [if_true] at h ⊢
    split at h
    · simp only [Option.some.injEq, Prod.mk.injEq] at h
      obtain ⟨hk, hr⟩ := h
      subst hk hr
      rfl
    · cases h
  | false =>
    simp only [Bool.false_eq_true, if_false, Option.some.injEq, Prod.mk.injEq] at h ⊢
    obtain ⟨hk, hr⟩ := h
    subst hk hr
    exact ⟨rfl, rfl⟩

theorem decodeFrame_append {bs r : Bytes} {f : Frame} (x : Bytes) (h : decodeFrame bs = some (f, r)) :
    decodeFrame (bs ++ x) = some (f, r ++ x) := by
  unfold decodeFrame at h
  split at h
  · rename_i b0 b1 rest
    split at h
    · cases h
    · rename_i len rest1 hl
      split at h
      · cases h
      · rename_i key rest2 hk
        split at h
        · cases h
        · rename_i hlen
          simp only [Option.some.injEq, Prod.mk.injEq] at h
          obtain ⟨hf, hr⟩ := h
          have hle : len ≤ rest2.length := by omega
          have ht : (rest2 ++ x).take len = rest2.take len := List.take_append_of_le_length hle
          have hd : (rest2 ++ x).drop len = rest2.drop len ++ x := List.drop_append_of_le_length hle
          have hlen' : ¬ (rest2 ++ x).length < len := by simp only [List.length_append]; omega
          show decodeFrame (b0 :: b1 :: (rest ++ x)) = _
          unfold decodeFrame
          simp only [(decodeLen_some hl).2 x, decodeKey_append x hk, hlen', if_false, ht, hd, hf, hr]
  · cases h

theorem decodeStream_none {bs : Bytes} (hne : bs ≠ []) (h : decodeFrame bs = none) : decodeStream bs = none := by
  unfold decodeStream
  cases bs with
  | nil => exact absurd rfl hne
  | cons b bs => simp only [List.length_cons, decodeStreamAux, h]

theorem decodeStream_append (w v : Bytes) (fs : List Frame) (h : decodeStream w = some fs) :
    decodeStream (w ++ v) = (decodeStream v).map (fs ++ ·) := by
  induction hl : w.length using Nat.strongRecOn generalizing w fs with
  | _ n ih =>
    by_cases hw : w = []
    · subst hw
      rw [decodeStream_nil] at h
      cases h
      rw [List.nil_append]
      cases hv : decodeStream v <;> simp
    · cases hd : decodeFrame w with
      | none => rw [decodeStream_none hw hd] at h; cases h
      | some p =>
        obtain ⟨f, r⟩ := p
        rw [decodeStream_step hd] at h
        cases hr : decodeStream r with
        | none => rw [hr] at h; cases h
        | some gs =>
          rw [hr] at h
          simp only [Option.map_some, Option.some.injEq] at h
          subst h
          have hlen := decodeFrame_length hd
          rw [decodeStream_step (decodeFrame_append v hd), ih r.length (by omega) r gs hr rfl]
          cases hv : decodeStream v <;> simp

theorem decodeStream_snoc (w fb : Bytes) (fs : List Frame) (f : Frame) (h : decodeStream w = some fs)
    (hf : decodeFrame fb = some (f, [])) : decodeStream (w ++ fb) = some (fs ++ [f]) := by
  rw [decodeStream_append w fb fs h, decodeStream_step hf, decodeStream_nil]
  rfl

theorem decodePrefixAux_of_streamAux (fuel : Nat) (bs : Bytes) (fs : List Frame)
    (h : decodeStreamAux fuel bs = some fs) : decodePrefixAux fuel bs = fs := by
  induction fuel generalizing bs fs with
  | zero =>
    cases bs with
    | nil => simp only [decodeStreamAux, Option.some.injEq] at h; subst h; rfl
    | cons b bs => simp [decodeStreamAux] at h
  | succ fuel ih =>
    cases bs with
    | nil =>
      simp only [decodeStreamAux, Option.some.injEq] at h; subst h
      simp [decodePrefixAux, decodeFrame]
    | cons b bs =>
      simp only [decodeStreamAux] at h
      simp only [decodePrefixAux]
      cases hd : decodeFrame (b :: bs) with
      | none => rw [hd] at h; cases h
      | some p =>
        obtain ⟨f, r⟩ := p
        rw [hd] at h
        simp only at h ⊢
        cases hr : decodeStreamAux fuel r with
        | none => rw [hr] at h; cases h
        | some gs =>
          rw [hr] at h
          simp only [Option.map_some, Option.some.injEq] at h
          subst h
          rw [ih r gs hr]

theorem decodePrefix_of_stream (bs : Bytes) (fs : List Frame) (h : decodeStream bs = some fs) :
    decodePrefixAux bs.length bs = fs := decodePrefixAux_of_streamAux _ _ _ h

/-- the open-message accumulator after a frame list -/
def curAfter : Option Msg → List Frame → Option Msg
  | cur, [] => cur
  | cur, f :: fs =>
    if isControlOp f.opcode then curAfter cur fs
    else
      let m : Msg := match cur with
        | some m => { m with payload := m.payload ++ f.payload }
        | none => { opcode := f.opcode, compressed := f.rsv1, payload := f.payload }
      if f.fin then curAfter none fs else curAfter (some m) fs

theorem messagesAux_append (cur : Option Msg) (fs gs : List Frame) :
    messagesAux cur (fs ++ gs) = messagesAux cur fs ++ messagesAux (curAfter cur fs) gs := by
  induction fs generalizing cur with
  | nil => simp [messagesAux, curAfter]
  | cons f fs ih =>
    simp only [List.cons_append, messagesAux, curAfter]
    split
    · exact ih cur
    · split
      · simp [ih]
      · exact ih _

theorem curAfter_append (cur : Option Msg) (fs gs : List Frame) :
    curAfter cur (fs ++ gs) = curAfter (curAfter cur fs) gs := by
  induction fs generalizing cur with
  | nil => simp [curAfter]
  | cons f fs ih =>
    simp only [List.cons_append, curAfter]
    split
    · exact ih cur
    · split
      · exact ih _
      · exact ih _

theorem curAfter_isSome (cur : Option Msg) (fs : List Frame) :
    (curAfter cur fs).isSome = endsInMsg cur.isSome fs := by
  induction fs generalizing cur with
  | nil => simp [curAfter, endsInMsg]
  | cons f fs ih =>
    simp only [curAfter, endsInMsg]
    split
    · exact ih cur
    · split
      · rename_i hf; rw [ih]; simp [hf]
      · rename_i hf; rw [ih]; simp [hf]

theorem controls_append (fs gs : List Frame) : controls (fs ++ gs) = controls fs ++ controls gs := by
  simp [controls]

/-- summary of a wire of whole frames: complete messages, control frames, open message -/
def WireSt (w : Bytes) (M : List Msg) (C : List (Nat × Bytes)) (cur : Option Msg) : Prop :=
  ∃ fs, decodeStream w = some fs ∧ messages fs = M ∧ controls fs = C ∧ curAfter none fs = cur

theorem WireSt.prefix {w M C cur} (h : WireSt w M C cur) :
    messages (decodePrefixAux w.length w) = M ∧ controls (decodePrefixAux w.length w) = C := by
  obtain ⟨fs, hd, hM, hC, _⟩ := h
  rw [decodePrefix_of_stream w fs hd]
  exact ⟨hM, hC⟩

theorem WireSt.of_stream {w : Bytes} {fs : List Frame} (hd : decodeStream w = some fs)
    (he : endsInMsg false fs = false) :
    WireSt w (messages (decodePrefixAux w.length w)) (controls (decodePrefixAux w.length w)) none := by
  refine ⟨fs, hd, ?_, ?_, ?_⟩
  · rw [decodePrefix_of_stream w fs hd]
  · rw [decodePrefix_of_stream w fs hd]
  · have := curAfter_isSome none fs
    simp only [Option.isSome_none, he] at this
    cases hc : curAfter none fs with
    | none => rfl
    | some _ => rw [hc] at this; simp at this

theorem WireSt.ends {w M C} (h : WireSt w M C none) :
    ∃ fs, decodeStream w = some fs ∧ endsInMsg false fs = false := by
  obtain ⟨fs, hd, _, _, hc⟩ := h
  refine ⟨fs, hd, ?_⟩
  have := curAfter_isSome none fs
  rw [hc] at this
  simpa using this.symm

theorem WireSt.frame {w M C cur} (h : WireSt w M C cur) (sv : Bool) (b0 : Nat) (key : Key) (payload : Bytes)
    (hb : b0 < 256) (hl : payload.length < 2 ^ 63) :
    WireSt (w ++ encode sv b0 key payload) (M ++ messagesAux cur [frameOf sv b0 key payload])
      (C ++ controls [frameOf sv b0 key payload]) (curAfter cur [frameOf sv b0 key payload]) := by
  obtain ⟨fs, hd, hM, hC, hc⟩ := h
  have hf : decodeFrame (encode sv b0 key payload) = some (frameOf sv b0 key payload, []) := by
    have := decode_encode sv b0 key payload [] hb hl
    simpa using this
  refine ⟨fs ++ [frameOf sv b0 key payload], decodeStream_snoc w _ fs _ hd hf, ?_, ?_, ?_⟩
  · unfold messages at hM ⊢
    rw [messagesAux_append, hM, hc]
  · rw [controls_append, hC]
  · rw [curAfter_append, hc]

theorem WireSt.data {w M C cur} (h : WireSt w M C cur) (sv : Bool) (op : Nat) (hop : op < 8) (fin z : Bool)
    (key : Key) (p : Bytes) (hl : p.length < 2 ^ 63) (msg : Msg)
    (hmsg : msg = match cur with
      | some m => { m with payload := m.payload ++ p }
      | none => { opcode := op, compressed := z, payload := p }) :
    WireSt (w ++ encode sv (op + (if fin then 128 else 0) + (if z then 64 else 0)) key p)
      (if fin then M ++ [msg] else M) C (if fin then none else some msg) := by
  have hb : op + (if fin then 128 else 0) + (if z then 64 else 0) < 256 := by split <;> split <;> omega
  have hc : isControlOp op = false := by
    simp [isControlOp]; omega
  have := h.frame sv _ key p hb hl
  rw [frameOf_bits sv op (by omega)] at this
  subst hmsg
  cases cur <;> cases fin <;> simpa [messagesAux, controls, curAfter, hc] using this

/-- Ping and pong only: a close frame (8) latches `ErrCloseSent` (`connWrite`), so no statement about a
    healthy connection has a use for it. -/
theorem WireSt.control {w M C cur} (h : WireSt w M C cur) (sv : Bool) (t : Nat) (ht : t = 9 ∨ t = 10)
    (key : Key) (data : Bytes) (hl : data.length < 2 ^ 63) :
    WireSt (w ++ encode sv (t + 128) key data) M (C ++ [(t, data)]) cur := by
  have hc : isControlOp t = true := by
    rcases ht with rfl | rfl <;> rfl
  have := h.frame sv _ key data (by omega : t + 128 < 256) hl
  rw [show t + 128 = t + (if true then 128 else 0) + (if false then 64 else 0) from rfl,
    frameOf_bits sv t (by omega)] at this
  simpa [messagesAux, controls, curAfter, hc] using this

end WS.Stream
