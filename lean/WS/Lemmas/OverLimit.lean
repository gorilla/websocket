import WS.Lemmas.CutLogic
import WS.Lemmas.LimitHistory
/-
  C06, second sentence, at the message level: a message exceeding the read limit L > 0 can never be read in full —
  reading it fails with ErrReadLimit and at most L of its bytes are delivered — whatever its fragmentation,
  interleaved control frames, role, chunking, bufio size and read size.
  `WS.OverLimitAux`: the reader inside such a message. The frames before the data frame at which the running sum
  crosses the limit are read normally; the crossing frame is refused from its header.
-/
namespace WS.OverLimitAux
open WS WS.Codec WS.SrcLaw WS.ReaderDecodes WS.AdvFrame WS.ReaderRejects WS.RoleGeneric WS.LimitHistoryAux

/-- the reader inside a message whose remaining frames take the running sum over the limit `L` -/
structure Ov (S : Bool) (rid : Nat) (rest : Bytes) (L : Int) (c : Conn) (wire : Bytes) (more : List PFrame) : Prop where
  st : St S c wire more rest
  mr : c.r.msgReader = some rid
  lim : c.r.limit = L
  le : c.r.length ≤ L
  over : L < c.r.length + ((dataPayload more).length : Int)
  bnd : c.r.length + ((dataPayload more).length : Int) < 2 ^ 62

/-- what one Read returns from `Ov S rid rest L c wire more` (`rid` the open message reader, `rest` the bytes
    after the message, `L` the limit, `wire` the rest of the current frame, `more` the frames to come): a piece
    `out` of the payload with the reader still before the crossing frame and the buffer shorter (the measure of
    `readAllLoop_over`), or ErrReadLimit with nothing delivered -/
def MrOut (S : Bool) (rid k : Nat) (rest : Bytes) (L : Int) (fuel : Nat) (c : Conn) (wire : Bytes)
    (more : List PFrame) : Prop :=
  (∃ out c' wire' more', mrReadLoop fuel c rid k = ((out, none), c') ∧ Ov S rid rest L c' wire' more' ∧
      unmask c wire ++ dataPayload more = out ++ (unmask c' wire' ++ dataPayload more') ∧
      c'.r.length + (wire.length : Int) = c.r.length + (wire'.length : Int) + (out.length : Int) ∧
      c'.r.buf.pending.length < c.r.buf.pending.length) ∨
  (∃ c', mrReadLoop fuel c rid k = (([], some .readLimit), c'))

theorem mrReadLoop_over (S : Bool) (rid k : Nat) (hk : 0 < k) (rest : Bytes) (L : Int) (hL : 0 < L) (fuel : Nat) :
    ∀ (c : Conn) (wire : Bytes) (more : List PFrame), Ov S rid rest L c wire more →
      c.r.buf.pending.length < fuel → MrOut S rid k rest L fuel c wire more := by
  induction fuel with
  | zero => intro c wire more _ h; omega
  | succ fuel ih =>
    intro c wire more hov hf
    by_cases hw : wire = []
    · subst hw
      obtain ⟨hst, hmr, hlim, hle, hover, hbnd⟩ := hov
      have hrem0 : c.r.remaining = 0 := by simpa using hst.rem
      have hrem : ¬ c.r.remaining > 0 := by rw [hrem0]; decide
      cases hfin : c.r.final with
      | true =>
        exfalso
        rw [hst.finT hfin] at hover
        simp at hover
        omega
      | false =>
        have hp := hst.pend
        obtain ⟨f, fs, rfl, ld | ⟨h1, h4⟩⟩ := (hst.finF hfin).head
        · -- a continuation frame: the crossing frame is refused from its header, any other is entered
          have h1 := ld.op
          have h3 := ld.len
          have hd : f.isCtl = false := isCtl_of_data (Or.inl h1)
          have hlb : lenBase f.op c = c.r.length := by rw [h1]; rfl
          have hlen0 := hst.len0
          rw [encAll_cons, List.append_assoc] at hp
          rw [dataPayload_data _ hd, List.length_append] at hover hbnd
          by_cases hcross : c.r.limit < c.r.length + (f.payload.length : Int)
          · right
            have hpl : 2 ≤ c.r.buf.pending.length := by
              rw [hp]; simp only [List.length_append, enc_length, List.length_nil]; omega
            obtain ⟨c', ha⟩ := adv_over c hst.atBoundary f (encAll S fs ++ rest)
              (by rw [hst.srv]; simpa using hp) (Or.inl ⟨h1, hfin⟩) h3 hst.len0 (by rw [hlb]; omega)
              (by rw [hlim]; exact hL) (by rw [hlb]; exact hcross)
            obtain ⟨n, rfl⟩ : ∃ n, fuel = n + 1 := ⟨fuel - 1, by omega⟩
            exact ⟨_, by rw [RobustAux.mrReadLoop_on_err (n + 1) c rid k hst.noErr hrem hfin _ c' ha,
              RobustAux.mrReadLoop_on_latched n _ rid k .readLimit rfl]; rfl⟩
          · obtain ⟨c', a1, hst', fr, _, _, hlen, hpay, lt⟩ := step_data S c [] f fs rest hst hp ld
              (Or.inl ⟨rfl, hfin⟩) hst.tog (by rw [hlb]; omega) (Or.inr (by rw [hlb]; omega))
            have hstep : mrReadLoop (fuel + 1) c rid k = mrReadLoop fuel c' rid k := by
              rw [RobustAux.mrReadLoop_on_ok fuel c rid k hst.noErr hrem hfin f.op c' a1, h1]; rfl
            have hov' : Ov S rid rest L c' (body S f.key f.payload) fs :=
              ⟨hst', by rw [fr.msgReader]; exact hmr, by rw [fr.limit]; exact hlim, by rw [hlen, hlb]; omega,
                by rw [hlen, hlb]; omega, by rw [hlen, hlb]; omega⟩
            rcases ih c' _ fs hov' (by omega) with ⟨out, c2, w2, m2, b1, b2, b3, b4, b5⟩ | ⟨c2, b1⟩
            · left
              rw [hpay] at b3
              rw [body_length, hlen, hlb] at b4
              refine ⟨out, c2, w2, m2, by rw [hstep]; exact b1, b2, ?_, ?_, by omega⟩
              · rw [unmask_nil, List.nil_append, dataPayload_data _ hd]; exact b3
              · simp only [List.length_nil]; omega
            · right
              exact ⟨c2, by rw [hstep]; exact b1⟩
        · have hd : f.isCtl = true := isCtl_of_ctlOk h1
          rw [encAll_cons, List.append_assoc] at hp
          obtain ⟨c', a1, htb, hst', fr, _, hlen, _, lt⟩ := step_ctl S c [] f fs rest hst hp h1 hst.tog
            (fun h => by rw [hfin] at h; cases h) (fun _ => h4)
          have hstep : mrReadLoop (fuel + 1) c rid k = mrReadLoop fuel c' rid k := by
            rw [RobustAux.mrReadLoop_on_ok fuel c rid k hst.noErr hrem hfin f.op c' a1, htb, if_neg Bool.false_ne_true]
          rw [dataPayload_ctl _ hd] at hover hbnd
          have hov' : Ov S rid rest L c' [] fs :=
            ⟨hst', by rw [fr.msgReader]; exact hmr, by rw [fr.limit]; exact hlim, by rw [hlen]; exact hle,
              by rw [hlen]; exact hover, by rw [hlen]; exact hbnd⟩
          rcases ih c' [] fs hov' (by omega) with ⟨out, c2, w2, m2, b1, b2, b3, b4, b5⟩ | ⟨c2, b1⟩
          · left
            refine ⟨out, c2, w2, m2, by rw [hstep]; exact b1, b2, ?_, ?_, by omega⟩
            · rw [dataPayload_ctl _ hd]; simpa using b3
            · rw [hlen] at b4; exact b4
          · right
            exact ⟨c2, by rw [hstep]; exact b1⟩
    · left
      obtain ⟨out, c', wire', a1, a2, a3, a4, a5, a6, a7, a8, a9⟩ :=
        mrRead_data S c rid k wire more rest hov.st hw hk fuel
      refine ⟨out, c', wire', more, a1, ⟨a3, by rw [a5]; exact hov.mr, by rw [a4.limit]; exact hov.lim,
        by rw [a6]; exact hov.le, by rw [a6]; exact hov.over, by rw [a6]; exact hov.bnd⟩, ?_, ?_, a9⟩
      · rw [a8, List.append_assoc]
      · have := congrArg List.length a8
        simp only [List.length_append, unmask_length] at this
        rw [a6]; omega

theorem readAllLoop_over (S : Bool) (rid k : Nat) (hk : 0 < k) (rest : Bytes) (L : Int) (hL : 0 < L) (fuel : Nat) :
    ∀ (c : Conn) (wire : Bytes) (more : List PFrame) (acc : List Bytes), Ov S rid rest L c wire more →
      c.r.buf.pending.length < fuel →
      ∃ got c2, readAllLoop fuel c rid k acc = ((acc.reverse.flatten ++ got, some .readLimit), c2) ∧
        got <+: unmask c wire ++ dataPayload more ∧ (got.length : Int) + c.r.length ≤ L + (wire.length : Int) := by
  induction fuel with
  | zero => intro c wire more acc _ h; omega
  | succ fuel ih =>
    intro c wire more acc hov hf
    have hmr := RobustAux.mrRead_cur c rid k hov.mr
    have hcf := hov.st.env.fuel_lt 1
    rcases mrReadLoop_over S rid k hk rest L hL (c.fuel + 1) c wire more hov hcf with
      ⟨out, c2, w2, m2, b1, b2, b3, b4, b5⟩ | ⟨c2, b1⟩
    · obtain ⟨got, c3, d1, d2, d3⟩ := ih c2 w2 m2 (out :: acc) b2 (by omega)
      refine ⟨out ++ got, c3, ?_, ?_, ?_⟩
      · rw [RobustAux.readAllLoop_on_data fuel c rid k acc out c2 (hmr.trans b1), d1]
        simp [List.append_assoc]
      · rw [b3]; exact (List.prefix_append_right_inj out).mpr d2
      · simp only [List.length_append, Int.natCast_add]; omega
    · refine ⟨[], c2, ?_, List.nil_prefix, ?_⟩
      · rw [RobustAux.readAllLoop_on_err fuel c rid k acc [] .readLimit c2 (hmr.trans b1) (by intro h; cases h)]
        simp
      · have := hov.le
        simp only [List.length_nil]; omega

theorem nextReaderLoop_over (S : Bool) (t : Nat) (ht : t = 1 ∨ t = 2) (rest : Bytes) (L : Int) (hL : 0 < L)
    (fuel : Nat) :
    ∀ (c : Conn) (fs : List PFrame), St S c [] [] (encAll S fs ++ rest) → c.r.final = true → MsgShape t fs →
      (c.r.buf.t.together = false ∨ rest ≠ []) → c.r.limit = L → c.r.length = 0 →
      L < ((dataPayload fs).length : Int) → (dataPayload fs).length < 2 ^ 62 → c.r.buf.pending.length < fuel →
      (∃ c1, nextReaderLoop fuel c = (.err .readLimit, c1) ∧ c1.r.readErr = some .readLimit) ∨
      (∃ c1 wire1 more1, nextReaderLoop fuel c = (.msg t c.r.nextId false, c1) ∧
         Ov S c.r.nextId rest L c1 wire1 more1 ∧ unmask c1 wire1 ++ dataPayload more1 = dataPayload fs ∧
         c1.r.length = (wire1.length : Int)) := by
  intro c fs hst hfin hs htog hlim hlen0 hover hsz hf
  rcases nextReaderLoop_gen S t ht rest fuel c [] [] fs hst hs htog
      (by unfold LenOk; simp only [dataPayload_nil, List.length_nil]; omega) (Or.inr ⟨rfl, hfin⟩) hf with
    ⟨c1, b1, b2, _⟩ | ⟨c1, w1, m1, b1, b2, b3, b4, b5, b6, b7, _⟩
  · exact Or.inl ⟨c1, b1, b2⟩
  · have hlen := congrArg List.length b7
    simp only [List.length_append, unmask_length] at hlen
    rw [b3.limit, hlim] at b6
    exact Or.inr ⟨c1, w1, m1, b1, ⟨b2, b4, b3.limit.trans hlim, by omega, by omega, by omega⟩, b7, b5⟩

end WS.OverLimitAux

namespace WS.OverLimit
open WS WS.Codec WS.ReaderDecodes WS.CutLogic WS.ReaderMore
open WS.RobustAux (c0)

/-- the whole over-limit message is on the wire (followed by anything): NextReader or the reads fail
    with ErrReadLimit, what was delivered before is a prefix of the payload of at most L bytes -/
theorem over_limit_never_complete (c : Conn) (hc : ReaderIdle c) (t : Nat) (ht : t = 1 ∨ t = 2)
    (fs : List PFrame) (hs : MsgShape t fs) (rest : Bytes)
    (hp : c.r.buf.pending = encAll c.r.isServer fs ++ rest)
    (hend : c.r.buf.t.together = false ∨ rest ≠ [])
    (hsz : (dataPayload fs).length < 2 ^ 62)
    (hL : 0 < c.r.limit) (hover : c.r.limit < ((dataPayload fs).length : Int))
    (hcnt : c.r.errCount + 1 < 1000) (k : Nat) (hk : 0 < k) :
    openAndRead c k = .failedOpen .readLimit ∨
    (∃ got, openAndRead c k = .failedRead t got .readLimit ∧ got <+: dataPayload fs ∧
        (got.length : Int) ≤ c.r.limit) := by
  have hst := idle_St c hc fs rest hp hend
  have hfuel := RobustAux.c0_pending_lt_fuel hc.fuel
  rcases WS.OverLimitAux.nextReaderLoop_over c.r.isServer t ht rest c.r.limit hL c.fuel (c0 c) fs hst hc.fin hs hend
      rfl rfl hover hsz hfuel with
    ⟨c1, b1, b2⟩ | ⟨c1, w1, m1, b1, b2, b3, b4⟩
  · left
    apply openAndRead_err c k .readLimit { c1 with r := { c1.r with errCount := c.r.errCount + 1 } }
    -- the failed call is counted; by `hcnt` it is not the 1000th (on reachable states, `CountInv`, the
    -- counter is 0 here)
    rw [WS.RobustAux.nextReader_loop_err c hc.noErr _ c1 b1, if_neg (by omega), b2]
    rfl
  · right
    have hn := WS.RobustAux.nextReader_loop_msg c hc.noErr b1
    have hf := b2.st.env.fuel_lt 2
    obtain ⟨got, c2, d1, d2, d3⟩ := WS.OverLimitAux.readAllLoop_over c.r.isServer c.r.nextId k hk rest c.r.limit hL
      (c1.fuel + 2) c1 w1 m1 [] b2 hf
    refine ⟨got, ?_, by rw [← b3]; exact d2, by omega⟩
    apply openAndRead_failed c k t c.r.nextId false c1 c2 got .readLimit hn
    unfold readAll
    rw [d1]
    simp

end WS.OverLimit
