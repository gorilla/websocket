import WS.Model.Reader
import WS.Lemmas.AdvFrame
/-
  The read loops around advanceFrame (nextReaderLoop, mrReadLoop, readAllLoop) and NextReader's bookkeeping (`c0`,
  `nrRes`, `nrFinish`): their defining equations case by case, what they keep (`Fr0`), that the NextReader loop
  never answers `.panic`, and NextReader from the outcome of its frame loop. Three namespaces:
  `WS.RobustAux` (the loops),
  `WS.ReaderProg` (the byte source across advanceFrame / Read / NextReader as `SrcLaw.Prog`),
  `WS.NegoKeep` (the negotiated-compression flag is kept).
-/
namespace WS.RobustAux
open WS WS.SrcLaw WS.AdvFrame

theorem stb_r (c : Conn) : (sendTooBig c).r = c.r := rfl
theorem ec_w {α : Type} (a : α) (w : W) (c : Conn) : (a, ({ c with w := w } : Conn)).snd.r.errCount = c.r.errCount := rfl
theorem ec_id {α : Type} (a : α) (c : Conn) : (a, c).snd.r.errCount = c.r.errCount := rfl

theorem advanceFrame_ec (c : Conn) : (advanceFrame c).2.r.errCount = c.r.errCount :=
  (advanceFrame_fr c).1.errCount

theorem nextReaderLoop_on_latched (fuel : Nat) (c : Conn) (e : RErr) (h : c.r.readErr = some e) :
    nextReaderLoop (fuel + 1) c = (.err .any, c) := by
  unfold nextReaderLoop
  simp only [h]

theorem nextReaderLoop_on_err (fuel : Nat) (c : Conn) (h : c.r.readErr = none) (e : RErr) (c' : Conn)
    (ha : advanceFrame c = (.error e, c')) :
    nextReaderLoop (fuel + 1) c = (.err e, { c' with r := { c'.r with readErr := some e } }) := by
  unfold nextReaderLoop
  simp only [h, ha]

theorem nextReaderLoop_on_msg (fuel : Nat) (c : Conn) (h : c.r.readErr = none) (t : Nat) (c' : Conn)
    (ha : advanceFrame c = (.ok t, c')) (ht : (t == 1 || t == 2) = true) :
    nextReaderLoop (fuel + 1) c =
      (.msg t c'.r.nextId c'.r.decompress,
       { c' with r := { c'.r with msgReader := some c'.r.nextId, nextId := c'.r.nextId + 1 } }) := by
  unfold nextReaderLoop
  simp only [h, ha, ht, if_true]

theorem nextReaderLoop_on_pass (fuel : Nat) (c : Conn) (h : c.r.readErr = none) (t : Nat) (c' : Conn)
    (ha : advanceFrame c = (.ok t, c')) (ht : (t == 1 || t == 2) = false) :
    nextReaderLoop (fuel + 1) c = nextReaderLoop fuel c' := by
  conv => lhs; unfold nextReaderLoop
  simp only [h, ha, ht, Bool.false_eq_true, if_false]

theorem nextReaderLoop_keeps (fuel : Nat) : ∀ c : Conn,
    Fr0 c (nextReaderLoop fuel c).2 ∧ ∀ c', nextReaderLoop fuel c ≠ (.panic, c') := by
  induction fuel with
  | zero => intro c; exact ⟨Fr0.refl c, fun c' h => by cases h⟩
  | succ n ih =>
    intro c
    unfold nextReaderLoop
    split
    · exact ⟨Fr0.refl c, fun c' h => by cases h⟩
    · have h1 := (advanceFrame_fr c).1.toFr0
      generalize advanceFrame c = x at h1 ⊢
      obtain ⟨res, c1⟩ := x
      cases res with
      | error e => exact ⟨h1.trans (Fr0.upd (Same2.refl _) (Prog.refl _)), fun c' h => by cases h⟩
      | ok t =>
        simp only [] at h1 ⊢
        split
        · exact ⟨h1.trans (Fr0.upd (Same2.refl _) (Prog.refl _)), fun c' h => by cases h⟩
        · exact ⟨h1.trans (ih c1).1, (ih c1).2⟩

theorem nextReaderLoop_ec_no_panic (fuel : Nat) : ∀ c : Conn,
    (nextReaderLoop fuel c).2.r.errCount = c.r.errCount ∧ ∀ c', nextReaderLoop fuel c ≠ (.panic, c') :=
  fun c => ⟨(nextReaderLoop_keeps fuel c).1.errCount, (nextReaderLoop_keeps fuel c).2⟩

theorem mrReadLoop_on_latched (fuel : Nat) (c : Conn) (rid k : Nat) (e : RErr) (h : c.r.readErr = some e) :
    mrReadLoop (fuel + 1) c rid k =
      (([], some (if e = .eof && c.r.msgReader = some rid then .unexpectedEOF else e)), c) := by
  unfold mrReadLoop
  simp only [h]

/-- messageReader.Read inside a frame: one Read of the byte source, unmasked; the error it reports is latched -/
def mrData (c : Conn) (k : Nat) : (Bytes × Option RErr) × Conn :=
  let k' := min k c.r.remaining.toNat
  let (bs, e, b) := c.r.buf.read k'
  let out := if c.r.isServer then maskFrom c.r.maskKey c.r.maskPos bs else bs
  let rem := c.r.remaining - bs.length
  let e' := if (rem > 0 || !c.r.final) && e = some .eof then some .unexpectedEOF else e
  let r := { c.r with buf := b, readErr := e', remaining := rem,
                      maskPos := if c.r.isServer then (c.r.maskPos + bs.length) % 4 else c.r.maskPos }
  ((out, e'), { c with r })

theorem mrReadLoop_on_data (fuel : Nat) (c : Conn) (rid k : Nat) (h : c.r.readErr = none) (hr : c.r.remaining > 0) :
    mrReadLoop (fuel + 1) c rid k = mrData c k := by
  unfold mrReadLoop mrData
  simp only [h, hr, if_true]

theorem mrData_err (c : Conn) (k : Nat) (out : Bytes) (e : Option RErr) (c' : Conn)
    (h : mrData c k = ((out, e), c')) : c'.r.readErr = e := by
  have h0 : (mrData c k).2.r.readErr = (mrData c k).1.2 := rfl
  rw [h] at h0
  exact h0

theorem mrReadLoop_on_eom (fuel : Nat) (c : Conn) (rid k : Nat) (h : c.r.readErr = none)
    (hr : ¬ c.r.remaining > 0) (hf : c.r.final = true) :
    mrReadLoop (fuel + 1) c rid k = (([], some .eof), { c with r := { c.r with msgReader := none } }) := by
  unfold mrReadLoop
  simp only [h, hr, hf, if_false, if_true]

theorem mrReadLoop_on_err (fuel : Nat) (c : Conn) (rid k : Nat) (h : c.r.readErr = none)
    (hr : ¬ c.r.remaining > 0) (hf : c.r.final = false) (e : RErr) (c' : Conn)
    (ha : advanceFrame c = (.error e, c')) :
    mrReadLoop (fuel + 1) c rid k = mrReadLoop fuel { c' with r := { c'.r with readErr := some e } } rid k := by
  conv => lhs; unfold mrReadLoop
  simp only [h, hr, hf, if_false, Bool.false_eq_true, ha]

theorem mrReadLoop_on_ok (fuel : Nat) (c : Conn) (rid k : Nat) (h : c.r.readErr = none)
    (hr : ¬ c.r.remaining > 0) (hf : c.r.final = false) (t : Nat) (c' : Conn)
    (ha : advanceFrame c = (.ok t, c')) :
    mrReadLoop (fuel + 1) c rid k =
      if t == 1 || t == 2 then mrReadLoop fuel { c' with r := { c'.r with readErr := some .internalData } } rid k
      else mrReadLoop fuel c' rid k := by
  conv => lhs; unfold mrReadLoop
  simp only [h, hr, hf, if_false, Bool.false_eq_true, ha]

theorem mrRead_cur (c : Conn) (rid k : Nat) (hm : c.r.msgReader = some rid) :
    mrRead c rid k = mrReadLoop (c.fuel + 1) c rid k := by
  unfold mrRead
  rw [if_neg (by rw [hm]; exact fun h => h rfl)]

theorem mrRead_stale (c : Conn) (rid k : Nat) (hm : c.r.msgReader ≠ some rid) :
    mrRead c rid k = (([], some .eof), c) := by
  unfold mrRead
  rw [if_pos hm]

theorem mrReadLoop_fr0 (rid k : Nat) (fuel : Nat) : ∀ c : Conn, Fr0 c (mrReadLoop fuel c rid k).2 := by
  induction fuel with
  | zero => intro c; exact Fr0.refl c
  | succ n ih =>
    intro c
    unfold mrReadLoop
    split
    · exact Fr0.refl c
    · split
      · have h := fun hw => read_prog c.r.buf hw (min k c.r.remaining.toNat)
        have hs := read_same2 c.r.buf (min k c.r.remaining.toNat)
        simp only []
        generalize c.r.buf.read (min k c.r.remaining.toNat) = x at h hs ⊢
        obtain ⟨bs, e, b⟩ := x
        exact Fr0.upd hs h
      · split
        · exact Fr0.upd (Same2.refl _) (Prog.refl _)
        · have h1 := (advanceFrame_fr c).1.toFr0
          generalize advanceFrame c = x at h1 ⊢
          obtain ⟨res, c1⟩ := x
          cases res with
          | error e => exact h1.trans ((Fr0.upd (Same2.refl _) (Prog.refl _)).trans (ih _))
          | ok t =>
            simp only [] at h1 ⊢
            split
            · exact h1.trans ((Fr0.upd (Same2.refl _) (Prog.refl _)).trans (ih _))
            · exact h1.trans (ih c1)

theorem mrRead_fr0 (c : Conn) (rid k : Nat) : Fr0 c (mrRead c rid k).2 := by
  unfold mrRead
  split
  · exact Fr0.refl c
  · exact mrReadLoop_fr0 rid k _ c

theorem readAllLoop_on_data (fuel : Nat) (c : Conn) (rid k : Nat) (acc : List Bytes) (bs : Bytes) (c' : Conn)
    (h : mrRead c rid k = ((bs, none), c')) :
    readAllLoop (fuel + 1) c rid k acc = readAllLoop fuel c' rid k (bs :: acc) := by
  conv => lhs; unfold readAllLoop
  rw [h]

theorem readAllLoop_on_eof (fuel : Nat) (c : Conn) (rid k : Nat) (acc : List Bytes) (bs : Bytes) (c' : Conn)
    (h : mrRead c rid k = ((bs, some .eof), c')) :
    readAllLoop (fuel + 1) c rid k acc = (((bs :: acc).reverse.flatten, none), c') := by
  unfold readAllLoop
  rw [h]

theorem readAllLoop_on_err (fuel : Nat) (c : Conn) (rid k : Nat) (acc : List Bytes) (bs : Bytes) (e : RErr) (c' : Conn)
    (h : mrRead c rid k = ((bs, some e), c')) (he : e ≠ .eof) :
    readAllLoop (fuel + 1) c rid k acc = (((bs :: acc).reverse.flatten, some e), c') := by
  unfold readAllLoop
  rw [h]
  cases e <;> first | exact absurd rfl he | rfl

/-- NextReader's first step: forget the previous message reader -/
def c0 (c : Conn) : Conn := { c with r := { c.r with msgReader := none, length := 0 } }

/-- the frame loop (or its short cut on a failed connection) -/
def nrRes (c : Conn) : NRRes × Conn :=
  match c.r.readErr with
  | some _ => (.err .any, c0 c)
  | none => nextReaderLoop c.fuel (c0 c)

/-- NextReader's last step: count the failure, panic on the 1000th -/
def nrFinish (res : NRRes × Conn) : NRRes × Conn :=
  match res with
  | (.msg t rid z, c) => (.msg t rid z, c)
  | (_, c) =>
    let c := { c with r := { c.r with errCount := c.r.errCount + 1 } }
    if c.r.errCount ≥ 1000 then (.panic, c)
    else (.err (c.r.readErr.getD .any), c)

theorem nextReader_eq (c : Conn) : nextReader c = nrFinish (nrRes c) := rfl

theorem nrRes_some (c : Conn) (e : RErr) (h : c.r.readErr = some e) : nrRes c = (.err .any, c0 c) := by
  unfold nrRes; rw [h]

theorem nrRes_none (c : Conn) (h : c.r.readErr = none) : nrRes c = nextReaderLoop c.fuel (c0 c) := by
  unfold nrRes; rw [h]

theorem nrFinish_on_msg (t rid : Nat) (z : Bool) (c1 : Conn) : nrFinish (.msg t rid z, c1) = (.msg t rid z, c1) := rfl

theorem nrFinish_on_err (e : RErr) (c1 : Conn) :
    nrFinish (.err e, c1) =
      if c1.r.errCount + 1 ≥ 1000 then (.panic, { c1 with r := { c1.r with errCount := c1.r.errCount + 1 } })
      else (.err (c1.r.readErr.getD .any), { c1 with r := { c1.r with errCount := c1.r.errCount + 1 } }) := rfl

/-- `Conn.fuel` = `total + size + 2` exceeds the pending input as soon as the ghost counter `total`
    bounds it; `n` is what a caller adds to `Conn.fuel` -/
theorem pending_lt_fuel {c : Conn} (h : c.r.buf.pending.length ≤ c.r.buf.total) (n : Nat) :
    c.r.buf.pending.length < c.fuel + n := by
  unfold Conn.fuel; omega

theorem c0_pending_lt_fuel {c : Conn} (h : c.r.buf.pending.length ≤ c.r.buf.total) :
    (c0 c).r.buf.pending.length < c.fuel :=
  pending_lt_fuel (c := c) h 0

theorem nextReader_loop_msg (c : Conn) (hne : c.r.readErr = none) {t rid : Nat} {z : Bool} {c1 : Conn}
    (h : nextReaderLoop c.fuel (c0 c) = (.msg t rid z, c1)) : nextReader c = (.msg t rid z, c1) := by
  rw [nextReader_eq, nrRes_none c hne, h]
  rfl

theorem nextReader_loop_err (c : Conn) (hne : c.r.readErr = none) (e : RErr) (c1 : Conn)
    (h : nextReaderLoop c.fuel (c0 c) = (.err e, c1)) :
    nextReader c =
      (if c.r.errCount + 1 ≥ 1000 then NRRes.panic else NRRes.err (c1.r.readErr.getD .any),
       { c1 with r := { c1.r with errCount := c.r.errCount + 1 } }) := by
  have hec : c1.r.errCount = c.r.errCount := by
    have h' := (nextReaderLoop_ec_no_panic c.fuel (c0 c)).1
    rw [h] at h'
    exact h'
  rw [nextReader_eq, nrRes_none c hne, h, nrFinish_on_err, hec]
  split <;> rfl

theorem nextReader_of_msg (c c' : Conn) (t : Nat) (hne : c.r.readErr = none)
    (a : advanceFrame (c0 c) = (.ok t, c')) (ht : (t == 1 || t == 2) = true) :
    nextReader c = (.msg t c'.r.nextId c'.r.decompress,
      { c' with r := { c'.r with msgReader := some c'.r.nextId, nextId := c'.r.nextId + 1 } }) :=
  nextReader_loop_msg c hne (nextReaderLoop_on_msg _ (c0 c) hne t c' a ht)

theorem nextReader_adv_err (c : Conn) (h : c.r.readErr = none) (e : RErr) (c' : Conn)
    (ha : advanceFrame (c0 c) = (.error e, c')) :
    nextReader c =
      (if c.r.errCount + 1 ≥ 1000 then NRRes.panic else NRRes.err e,
       { c' with r := { c'.r with readErr := some e, errCount := c.r.errCount + 1 } }) :=
  nextReader_loop_err c h e _ (nextReaderLoop_on_err _ (c0 c) h e c' ha)

theorem nextReader_of_err (c c' : Conn) (e : RErr) (hne : c.r.readErr = none) (hcnt : c.r.errCount = 0)
    (a : advanceFrame (c0 c) = (.error e, c')) :
    nextReader c = (.err e, { c' with r := { c'.r with readErr := some e, errCount := c'.r.errCount + 1 } }) := by
  have hec : c'.r.errCount = 0 := by
    have := advanceFrame_ec (c0 c)
    rw [a] at this
    exact this.trans hcnt
  rw [nextReader_adv_err c hne e c' a, hcnt, hec]
  rfl

theorem nrFinish_r (x : NRRes × Conn) :
    ∃ n, (nrFinish x).2 = { x.2 with r := { x.2.r with errCount := n } } := by
  obtain ⟨res, c1⟩ := x
  cases res with
  | msg t rid z => exact ⟨c1.r.errCount, rfl⟩
  | err e => unfold nrFinish; dsimp only; split <;> exact ⟨_, rfl⟩
  | panic => unfold nrFinish; dsimp only; split <;> exact ⟨_, rfl⟩

theorem nrFinish_panic (res : NRRes) (c1 : Conn) :
    (∃ c', nrFinish (res, c1) = (.panic, c')) ↔ (∃ e, res = .err e ∨ res = .panic) ∧ 1000 ≤ c1.r.errCount + 1 := by
  -- a failed frame loop panics exactly when the counter reaches 1000
  have fail : ∀ r, nrFinish (r, c1) = nrFinish (.err .any, c1) →
      ((∃ c', nrFinish (r, c1) = (.panic, c')) ↔ 1000 ≤ c1.r.errCount + 1) := by
    intro r hr
    rw [hr, nrFinish_on_err]
    split
    · exact ⟨fun _ => by assumption, fun _ => ⟨_, rfl⟩⟩
    · exact ⟨fun ⟨_, h⟩ => (by cases h), fun h => absurd h (by assumption)⟩
  cases res with
  | msg t rid z => exact ⟨fun ⟨c', h⟩ => (by cases h), fun ⟨⟨e, h⟩, _⟩ => (by rcases h with h | h <;> cases h)⟩
  | err e => exact (fail _ rfl).trans ⟨fun h => ⟨⟨e, Or.inl rfl⟩, h⟩, fun h => h.2⟩
  | panic => exact (fail _ rfl).trans ⟨fun h => ⟨⟨.any, Or.inr rfl⟩, h⟩, fun h => h.2⟩

end WS.RobustAux

namespace WS.ReaderProg
open WS WS.SrcLaw WS.AdvFrame WS.RobustAux

theorem advanceFrame_prog (c : Conn) (hw : WF c.r.buf) :
    Prog c.r.buf (advanceFrame c).2.r.buf ∧
      (∀ t, (advanceFrame c).1 = .ok t → (advanceFrame c).2.r.buf.pending.length + 2 ≤ c.r.buf.pending.length) :=
  ⟨(advanceFrame_fr c).1.prog hw, (advanceFrame_fr c).2 hw⟩

theorem mrRead_prog (c : Conn) (rid k : Nat) (hw : WF c.r.buf) : Prog c.r.buf (mrRead c rid k).2.r.buf :=
  (mrRead_fr0 c rid k).prog hw

theorem nrFinish_buf (x : NRRes × Conn) : (nrFinish x).2.r.buf = x.2.r.buf := by
  obtain ⟨n, h⟩ := nrFinish_r x
  rw [h]

theorem nrFinish_readErr (x : NRRes × Conn) : (nrFinish x).2.r.readErr = x.2.r.readErr := by
  obtain ⟨n, h⟩ := nrFinish_r x
  rw [h]

theorem nrFinish_msg_ec (t rid : Nat) (z : Bool) (c1 : Conn) :
    (nrFinish (.msg t rid z, c1)).2.r.errCount = c1.r.errCount := rfl

theorem nextReader_prog (c : Conn) (hw : WF c.r.buf) : Prog c.r.buf (nextReader c).2.r.buf := by
  rw [nextReader_eq, nrFinish_buf]
  unfold nrRes
  split
  · exact Prog.refl _ hw
  · exact (nextReaderLoop_keeps c.fuel (c0 c)).1.prog hw

end WS.ReaderProg

namespace WS.NegoKeep
open WS WS.AdvFrame

theorem stb_r (c : Conn) : (sendTooBig c).r = c.r := rfl
theorem ng_w {α : Type} (a : α) (w : W) (c : Conn) : (a, ({ c with w := w } : Conn)).snd.r.nego = c.r.nego := rfl
theorem ng_id {α : Type} (a : α) (c : Conn) : (a, c).snd.r.nego = c.r.nego := rfl

theorem advanceFrame_ng (c : Conn) : (advanceFrame c).2.r.nego = c.r.nego := (advanceFrame_fr c).1.nego

theorem mrRead_ng (c : Conn) (rid k : Nat) : (mrRead c rid k).2.r.nego = c.r.nego :=
  (RobustAux.mrRead_fr0 c rid k).nego

open WS.RobustAux in
theorem nextReader_ng (c : Conn) : (nextReader c).2.r.nego = c.r.nego := by
  obtain ⟨n, h⟩ := nrFinish_r (nrRes c)
  rw [nextReader_eq, h]
  unfold nrRes
  split
  · rfl
  · exact (nextReaderLoop_keeps _ (c0 c)).1.nego

end WS.NegoKeep
