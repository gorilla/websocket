import WS.Lemmas.RobustReader
/-
  What no reader step changes whatever the bytes are and whatever state the byte source is in: the
  identity of the current message reader (`msgReader`) and the transport's `together` flag (`Fix`, from
  `AdvFrame.Fr`). Consequence: a classification (`Done`) of the `messageReader.Read` calls that return io.EOF.
-/
namespace WS.ZCutAux
open WS WS.SrcLaw WS.AdvFrame WS.RobustAux WS.ReaderProg

structure Fix (c c' : Conn) : Prop where
  mr : c'.r.msgReader = c.r.msgReader
  tog : c'.r.buf.t.together = c.r.buf.t.together

theorem Fix.refl (c : Conn) : Fix c c := ⟨rfl, rfl⟩

theorem Fix.trans {a b c : Conn} (h1 : Fix a b) (h2 : Fix b c) : Fix a c :=
  ⟨h2.mr.trans h1.mr, h2.tog.trans h1.tog⟩

theorem advanceFrame_fix (c : Conn) : Fix c (advanceFrame c).2 :=
  ⟨(advanceFrame_fr c).1.msgReader, (advanceFrame_fr c).1.same.together⟩

/-- how a Read can have ended the message: the reader is detached, or (only on a transport that
    reports its error together with bytes) io.EOF came with the last bytes of the final frame -/
def Done (rid : Nat) (c c' : Conn) : Prop :=
  c'.r.msgReader = none ∨
    (c.r.buf.t.together = true ∧ c'.r.msgReader = some rid ∧ c'.r.readErr = some .eof ∧
      c'.r.remaining ≤ 0 ∧ c'.r.final = true)

theorem Done.of_fix {rid : Nat} {c c1 c' : Conn} (h : Fix c c1) (d : Done rid c1 c') : Done rid c c' := by
  rcases d with d | ⟨d1, d2⟩
  · exact Or.inl d
  · exact Or.inr ⟨by rw [← h.tog]; exact d1, d2⟩

theorem mrReadLoop_class (rid k : Nat) (fuel : Nat) : ∀ c : Conn, c.r.msgReader = some rid →
    ((mrReadLoop fuel c rid k).1.2 = none → Fix c (mrReadLoop fuel c rid k).2) ∧
    ((mrReadLoop fuel c rid k).1.2 = some .eof → Done rid c (mrReadLoop fuel c rid k).2) := by
  induction fuel with
  | zero => intro c _; exact ⟨(fun h => by cases h), (fun h => by cases h)⟩
  | succ n ih =>
    intro c hm
    cases hre : c.r.readErr with
    | some e0 =>
      rw [mrReadLoop_on_latched n c rid k e0 hre]
      refine ⟨(fun h => by cases h), fun h => ?_⟩
      exfalso
      simp only [hm] at h
      by_cases h0 : e0 = .eof
      · subst h0; simp at h
      · simp [h0] at h
    | none =>
      by_cases hrem : c.r.remaining > 0
      · rw [mrReadLoop_on_data n c rid k hre hrem]
        unfold mrData
        simp only []
        have htg := (read_same2 c.r.buf (min k c.r.remaining.toNat)).together
        have het := read_err_together c.r.buf (min k c.r.remaining.toNat)
        generalize c.r.buf.read (min k c.r.remaining.toNat) = x at htg het ⊢
        obtain ⟨bs, e, b⟩ := x
        simp only [] at htg het ⊢
        constructor
        · intro _; exact ⟨rfl, htg⟩
        · intro h
          right
          -- io.EOF survives only if nothing is left of the frame and the frame is final
          split at h
          · cases h
          · rename_i hc
            subst h
            simp only [decide_true, Bool.and_true, Bool.or_eq_true, decide_eq_true_eq, Bool.not_eq_true',
              not_or, Bool.not_eq_false] at hc
            have hne : bs ≠ [] := by
              intro hb
              rw [hb] at hc
              simp only [List.length_nil] at hc
              omega
            refine ⟨het _ rfl hne, hm, ?_, (show c.r.remaining - (bs.length : Int) ≤ 0 by omega), hc.2⟩
            show (if _ then _ else _) = _
            rw [if_neg]
            simp only [decide_true, Bool.and_true, Bool.or_eq_true, decide_eq_true_eq, Bool.not_eq_true',
              not_or, Bool.not_eq_false]
            exact hc
      · cases hfin : c.r.final with
        | true =>
          rw [mrReadLoop_on_eom n c rid k hre hrem hfin]
          exact ⟨(fun h => by cases h), fun _ => Or.inl rfl⟩
        | false =>
          have h1 := advanceFrame_fix c
          rcases ha : advanceFrame c with ⟨res, c1⟩
          rw [ha] at h1
          have key : ∀ c2 : Conn, Fix c1 c2 →
              ((mrReadLoop n c2 rid k).1.2 = none → Fix c (mrReadLoop n c2 rid k).2) ∧
              ((mrReadLoop n c2 rid k).1.2 = some .eof → Done rid c (mrReadLoop n c2 rid k).2) := by
            intro c2 h2
            have h12 := h1.trans h2
            obtain ⟨i1, i2⟩ := ih c2 (by rw [h12.mr]; exact hm)
            exact ⟨fun h => h12.trans (i1 h), fun h => (i2 h).of_fix h12⟩
          cases res with
          | error e =>
            rw [mrReadLoop_on_err n c rid k hre hrem hfin e c1 ha]
            exact key _ ⟨rfl, rfl⟩
          | ok t =>
            rw [mrReadLoop_on_ok n c rid k hre hrem hfin t c1 ha]
            split
            · exact key _ ⟨rfl, rfl⟩
            · exact key _ (Fix.refl _)

theorem mrRead_class (c : Conn) (rid k : Nat) (hm : c.r.msgReader = some rid) :
    ((mrRead c rid k).1.2 = none → Fix c (mrRead c rid k).2) ∧
    ((mrRead c rid k).1.2 = some .eof → Done rid c (mrRead c rid k).2) := by
  unfold mrRead
  rw [if_neg (by rw [hm]; simp)]
  exact mrReadLoop_class rid k _ c hm


theorem zFills_class (rid : Nat) : ∀ (ks : List Nat) (c : Conn) (acc : List Bytes), c.r.msgReader = some rid →
    ((zFills ks c rid acc).1.2 = none → Fix c (zFills ks c rid acc).2) ∧
    ((zFills ks c rid acc).1.2 = some .eof → Done rid c (zFills ks c rid acc).2) := by
  intro ks
  induction ks with
  | nil => intro c acc _; exact ⟨(fun _ => Fix.refl c), (fun h => by cases h)⟩
  | cons k ks ih =>
    intro c acc hm
    unfold zFills
    have h := mrRead_class c rid k hm
    generalize mrRead c rid k = x at h ⊢
    obtain ⟨⟨bs, e⟩, c1⟩ := x
    cases e with
    | none =>
      simp only []
      have hf : Fix c c1 := h.1 rfl
      obtain ⟨i1, i2⟩ := ih c1 (bs :: acc) (by rw [hf.mr]; exact hm)
      exact ⟨fun g => hf.trans (i1 g), fun g => (i2 g).of_fix hf⟩
    | some e =>
      simp only []
      refine ⟨(fun g => by cases g), fun g => ?_⟩
      exact h.2 g

theorem readAllLoop_class (rid k : Nat) (fuel : Nat) : ∀ (c : Conn) (acc : List Bytes), c.r.msgReader = some rid →
    (readAllLoop fuel c rid k acc).1.2 = none → Done rid c (readAllLoop fuel c rid k acc).2 := by
  induction fuel with
  | zero => intro c acc _ h; cases h
  | succ n ih =>
    intro c acc hm
    unfold readAllLoop
    have h := mrRead_class c rid k hm
    split
    · rename_i bs c1 heq
      rw [heq] at h
      have hf := h.1 rfl
      intro g
      exact (ih c1 (bs :: acc) (by rw [hf.mr]; exact hm) g).of_fix hf
    · rename_i bs c1 heq
      rw [heq] at h
      intro _
      exact h.2 rfl
    · intro g; cases g

theorem zReadToEnd_class (c : Conn) (rid : Nat) (hm : c.r.msgReader = some rid) (env : ZEnv)
    (raw : Bytes) (c' : Conn) (h : zReadToEnd c rid env = ((raw, .complete), c')) : Done rid c c' := by
  unfold zReadToEnd at h
  have hz := zFills_class rid env.reqs c [] hm
  split at h
  · rename_i raw1 c1 heq
    rw [heq] at hz
    have hc : c1 = c' := congrArg Prod.snd h
    rw [← hc]
    exact hz.2 rfl
  · cases h
  · rename_i raw1 c1 heq
    rw [heq] at hz
    have hf := hz.1 rfl
    split at h
    · cases h
    · have hr := readAllLoop_class rid env.drainK (c1.fuel + 2) c1 [] (by rw [hf.mr]; exact hm)
      split at h
      · rename_i bs c2 heq2
        have hc : c2 = c' := congrArg Prod.snd h
        unfold readAll at heq2
        rw [heq2] at hr
        rw [← hc]
        exact (hr rfl).of_fix hf
      · cases h

end WS.ZCutAux
