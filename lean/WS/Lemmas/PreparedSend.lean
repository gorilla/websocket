import WS.Lemmas.PreparedLogic
import WS.Lemmas.Content
import WS.Lemmas.WriterMore
/-
  C19 at the connection level: sending a PreparedMessage puts on the wire a message that decodes to the type and
  payload given at creation, exactly what WriteMessage would have sent, whatever connection it is sent on and
  whatever was cached before (uncompressed variants; the compressed variant is `compressed_image_checked` + the
  correspondence runs).  "Every send keeps the cache valid" is FALSE without a hypothesis, for the model as for
  `frame()` (`writePrepared_valid_counterexample`).
-/
namespace WS.PreparedSend
open WS WS.Content

/-- every uncompressed variant in the cache is a rendering of this message for that key (with some
    key-source position): the invariant NewPreparedMessage establishes and sends preserve -/
def PMValid (pm : PM) : Prop :=
  ∀ k img, pm.lookup k = some img → k.compress = false →
    ∃ keys ki, (renderPlain k pm.t pm.data keys ki).1 = none ∧ img = (renderPlain k pm.t pm.data keys ki).2.1

section Helpers
open WS.Stream WS.Flow

theorem wireSt_append {w v : Bytes} {M M' : List Spec.Msg} {C C' : List (Nat × Bytes)}
    (h1 : WireSt w M C none) (h2 : WireSt v M' C' none) : WireSt (w ++ v) (M ++ M') (C ++ C') none := by
  obtain ⟨fs, hd, hM, hC, hc⟩ := h1
  obtain ⟨gs, hd', hM', hC', hc'⟩ := h2
  refine ⟨fs ++ gs, ?_, ?_, ?_, ?_⟩
  · rw [decodeStream_append w v fs hd, hd']; rfl
  · unfold Spec.messages at hM hM' ⊢
    rw [messagesAux_append, hM, hc, hM']
  · rw [controls_append, hC, hC']
  · rw [curAfter_append, hc, hc']

theorem idle_keyIdx {s : W} (hi : Idle s) (ki : Nat) : Idle { s with keyIdx := ki } :=
  ⟨hi.healthy, hi.noFaults, hi.noWriter, hi.dead, hi.size, hi.whole, hi.plain⟩

theorem send_image (s : W) (hi : Idle s) (t : Int) (hft : (t == 8) = false) (img : Bytes)
    (dnp : List Bytes) (fullp : Bytes) {M : List Spec.Msg} {C : List (Nat × Bytes)}
    (himg : WireSt img M C none) :
    (writePreparedImage s t img dnp fullp).1 = none ∧ Idle (writePreparedImage s t img dnp fullp).2 ∧
    wireMessages (writePreparedImage s t img dnp fullp).2 = wireMessages s ++ M ∧
    wireControls (writePreparedImage s t img dnp fullp).2 = wireControls s ++ C := by
  rw [PreparedLogic.writePreparedImage_noWriter s t img dnp fullp (Or.inr hi.noWriter)]
  obtain ⟨he, hk, hw, hwr⟩ := connWrite_ok s t s.deadline img [] hi.healthy hi.noFaults hft
  have hws : WireSt (connWrite s t s.deadline img []).2.wire (wireMessages s ++ M) (wireControls s ++ C) none := by
    rw [hw, List.append_nil]; exact wireSt_append hi.wireSt himg
  have h := hi.toG.of_keep hk (hwr.trans hi.noWriter) hws
  exact ⟨he, h.1.toIdle (hk.nego.trans hi.plain), h.2⟩

theorem pkey_eta (k : PKey) (h : k.compress = false) : k = ⟨k.isServer, false, k.level⟩ := by
  cases k; simp only at h; subst h; rfl

theorem prepConn_wire (k : PKey) (keys : Bytes) (ki : Nat) : (prepConn k keys ki).wire = [] := rfl

theorem prepConn_cap (k : PKey) (keys : Bytes) (ki : Nat) :
    maxFrameHeaderSize + 125 ≤ (prepConn k keys ki).wbufLen := by
  show maxFrameHeaderSize + 125 ≤ defaultWriteBufferSize + maxFrameHeaderSize
  decide

/-- rendering is WriteMessage on the private connection, whose wire starts empty -/
theorem render_of_roundtrip {k : PKey} {t : Int} {data keys : Bytes} {ki : Nat} {M : List Spec.Msg}
    {C : List (Nat × Bytes)}
    (h : (writeMessage (prepConn k keys ki) t data).1 = none ∧ Idle (writeMessage (prepConn k keys ki) t data).2 ∧
      wireMessages (writeMessage (prepConn k keys ki) t data).2 = wireMessages (prepConn k keys ki) ++ M ∧
      wireControls (writeMessage (prepConn k keys ki) t data).2 = wireControls (prepConn k keys ki) ++ C) :
    (renderPlain k t data keys ki).1 = none ∧ WireSt (renderPlain k t data keys ki).2.1 M C none := by
  obtain ⟨he, hi, hM, hC⟩ := h
  have hws := hi.wireSt
  rw [hM, hC] at hws
  exact ⟨he, hws⟩

theorem render_data_ok (k : PKey) (hk : k.compress = false) (t : Nat) (ht : t = 1 ∨ t = 2) (data keys : Bytes)
    (ki : Nat) (hd : data.length < 2 ^ 40) :
    (renderPlain k (t : Int) data keys ki).1 = none ∧
    WireSt (renderPlain k (t : Int) data keys ki).2.1 [⟨t, false, data⟩] [] none := by
  rw [pkey_eta k hk]
  exact render_of_roundtrip
    (writeMessage_roundtrip _ (PreparedLogic.prepConn_idle k.isServer k.level keys ki) t ht data hd)

theorem render_control_ok (k : PKey) (hk : k.compress = false) (t : Nat) (ht : t = 9 ∨ t = 10) (data keys : Bytes)
    (ki : Nat) (hd : data.length ≤ 125) :
    (renderPlain k (t : Int) data keys ki).1 = none ∧
    WireSt (renderPlain k (t : Int) data keys ki).2.1 [] [(t, data)] none := by
  rw [pkey_eta k hk]
  exact render_of_roundtrip
    (WriterMore.writeMessage_control_roundtrip _ (PreparedLogic.prepConn_idle k.isServer k.level keys ki)
      (prepConn_cap _ keys ki) t ht data hd)

theorem writePrepared_plain (s : W) (hi : Idle s) (pm : PM) (hv : PMValid pm)
    (hplain : (prepKey s pm).compress = false) (hft : (pm.t == 8) = false)
    {M : List Spec.Msg} {C : List (Nat × Bytes)}
    (hr : ∀ keys ki, (renderPlain (prepKey s pm) pm.t pm.data keys ki).1 = none ∧
      WireSt (renderPlain (prepKey s pm) pm.t pm.data keys ki).2.1 M C none) :
    (writePrepared s pm none).1 = none ∧ Idle (writePrepared s pm none).2.1 ∧
    wireMessages (writePrepared s pm none).2.1 = wireMessages s ++ M ∧
    wireControls (writePrepared s pm none).2.1 = wireControls s ++ C := by
  cases hl : pm.lookup (prepKey s pm) with
  | some img =>
    rw [PreparedLogic.writePrepared_hit s pm none img [] [] hl]
    obtain ⟨keys, ki, _, himg⟩ := hv _ _ hl hplain
    exact send_image s hi pm.t hft img [] [] (himg ▸ (hr keys ki).2)
  | none =>
    have h1 := hr s.keys s.keyIdx
    rw [PreparedLogic.writePrepared_miss_plain s pm none [] [] hl hplain]
    split
    · rename_i e img ki heq
      rw [heq] at h1
      cases h1.1
    · rename_i img ki heq
      rw [heq] at h1
      exact send_image { s with keyIdx := ki } (idle_keyIdx hi ki) pm.t hft img [] [] h1.2

theorem valid_append (pm : PM) (h : PMValid pm) (k0 : PKey) (img0 : Bytes)
    (h0 : k0.compress = false → ∃ keys ki, (renderPlain k0 pm.t pm.data keys ki).1 = none ∧
      img0 = (renderPlain k0 pm.t pm.data keys ki).2.1) :
    PMValid { pm with cache := pm.cache ++ [(k0, img0)] } := by
  intro k img hl hk
  -- `{ pm with cache := _ }.t` is reduced to `pm.t` first: compared up to unfolding, `renderPlain` would be unfolded
  dsimp only
  rw [PreparedLogic.lookup_append] at hl
  rcases Option.or_eq_some_iff.1 hl with hl' | ⟨_, hl'⟩
  · exact h k img hl' hk
  · by_cases hb : (k0 == k) = true
    · rw [if_pos hb] at hl'
      obtain rfl : k0 = k := eq_of_beq hb
      cases hl'
      exact h0 hk
    · rw [if_neg hb] at hl'
      cases hl'

end Helpers

/-- NewPreparedMessage renders for its own key (server, uncompressed, level 0) -/
theorem newPrepared_ok {t : Int} {data keys : Bytes} {ki : Nat} {img : Bytes}
    (h : (renderPlain ⟨true, false, 0⟩ t data keys ki).1 = none ∧
      (renderPlain ⟨true, false, 0⟩ t data keys ki).2.1 = img) :
    (newPrepared t data keys ki).1 = .ok { t, data, cache := [(⟨true, false, 0⟩, img)] } := by
  unfold newPrepared
  dsimp only
  split
  · rename_i heq
    rw [heq] at h; cases h.1
  · rename_i heq
    rw [heq] at h; rw [← h.2]

theorem newPrepared_valid (t : Int) (data keys : Bytes) (ki : Nat) (pm : PM)
    (h : (newPrepared t data keys ki).1 = .ok pm) : PMValid pm ∧ pm.t = t ∧ pm.data = data := by
  have hr : (renderPlain ⟨true, false, 0⟩ t data keys ki).1 = none := by
    unfold newPrepared at h
    dsimp only at h
    split at h
    · cases h
    · rename_i heq
      rw [heq]
  cases (newPrepared_ok ⟨hr, rfl⟩).symm.trans h
  exact ⟨valid_append { t, data, cache := [] } (fun _ _ hl _ => nomatch hl) _ _ (fun _ => ⟨keys, ki, hr, rfl⟩), rfl, rfl⟩

/-
  Without a hypothesis on the rendering the statement is FALSE (`writePrepared_valid_counterexample`):

  theorem writePrepared_valid (s : W) (pm : PM) (env : Option (Bytes × Bytes)) (dnp : List Bytes) (fullp : Bytes)
      (h : PMValid pm) : PMValid (writePrepared s pm env dnp fullp).2.2

  Counterexample: a message of the invalid type 0 with an empty cache.  `renderPlain` fails with `badOpcode` and,
  as `frame()` does, the model caches the image rendered anyway, which is not that of a successful rendering.
  The same happens for every message whose rendering fails (invalid type, ping/pong/close longer than 125 bytes).

  `writePrepared_valid_partial` adds the hypothesis that, if the live key is uncompressed and not yet cached,
  its rendering succeeds.
-/
theorem writePrepared_valid_counterexample :
    ¬ (∀ (s : W) (pm : PM) (env : Option (Bytes × Bytes)) (dnp : List Bytes) (fullp : Bytes),
        PMValid pm → PMValid (writePrepared s pm env dnp fullp).2.2) := by
  intro hall
  have hv : PMValid ({ t := 0, data := [], cache := [] } : PM) := by
    intro k img hl _
    cases hl
  have h := hall { isServer := true, wbufLen := 0, pool := false, nego := false }
    { t := 0, data := [], cache := [] } none [] [] hv
  obtain ⟨keys, ki, he, _⟩ := h ⟨true, false, Gen.defaultCompressionLevel⟩ [] rfl rfl
  have : (renderPlain ⟨true, false, Gen.defaultCompressionLevel⟩ 0 [] keys ki).1 = some .badOpcode := rfl
  have he' : (renderPlain ⟨true, false, Gen.defaultCompressionLevel⟩ 0 [] keys ki).1 = none := he
  rw [this] at he'
  cases he'

theorem writePrepared_valid_partial (s : W) (pm : PM) (env : Option (Bytes × Bytes)) (dnp : List Bytes) (fullp : Bytes)
    (h : PMValid pm)
    (hr : pm.lookup (prepKey s pm) = none → (prepKey s pm).compress = false →
      (renderPlain (prepKey s pm) pm.t pm.data s.keys s.keyIdx).1 = none) :
    PMValid (writePrepared s pm env dnp fullp).2.2 := by
  rcases PreparedLogic.writePrepared_pm s pm env dnp fullp with e | ⟨img, e, himg⟩
  · rw [e]; exact h
  · rw [e]
    exact valid_append pm h _ _ (fun hk => ⟨s.keys, s.keyIdx, hr (himg hk).1 hk, (himg hk).2⟩)

theorem writePrepared_valid_of_ok (s : W) (pm : PM) (env : Option (Bytes × Bytes)) (dnp : List Bytes) (fullp : Bytes)
    (h : PMValid pm) (hok : (writePrepared s pm env dnp fullp).1 = none) :
    PMValid (writePrepared s pm env dnp fullp).2.2 := by
  apply writePrepared_valid_partial s pm env dnp fullp h
  intro hl hc
  rw [PreparedLogic.writePrepared_miss_plain s pm env dnp fullp hl hc] at hok
  split at hok
  · cases hok
  · rename_i img ki heq
    rw [heq]

theorem writePrepared_valid_data (s : W) (pm : PM) (env : Option (Bytes × Bytes)) (dnp : List Bytes) (fullp : Bytes)
    (h : PMValid pm) (t : Nat) (ht : t = 1 ∨ t = 2) (hpt : pm.t = (t : Int)) (hd : pm.data.length < 2 ^ 40) :
    PMValid (writePrepared s pm env dnp fullp).2.2 := by
  apply writePrepared_valid_partial s pm env dnp fullp h
  intro _ hc
  rw [hpt]
  exact (render_data_ok _ hc t ht pm.data s.keys s.keyIdx hd).1

theorem writePrepared_valid_control (s : W) (pm : PM) (env : Option (Bytes × Bytes)) (dnp : List Bytes) (fullp : Bytes)
    (h : PMValid pm) (t : Nat) (ht : t = 9 ∨ t = 10) (hpt : pm.t = (t : Int)) (hd : pm.data.length ≤ 125) :
    PMValid (writePrepared s pm env dnp fullp).2.2 := by
  apply writePrepared_valid_partial s pm env dnp fullp h
  intro _ hc
  rw [hpt]
  exact (render_control_ok _ hc t ht pm.data s.keys s.keyIdx hd).1

/-- C19 prepared_equiv at the connection: a prepared data message sent on a connection between messages (either
    role; write compression off or not negotiated) is accepted and the wire gains exactly one complete message
    with the type and payload given at creation, as `Content.writeMessage_roundtrip` says for WriteMessage,
    whether the variant was cached or is rendered now -/
theorem prepared_data_roundtrip (s : W) (hi : Idle s) (pm : PM) (hv : PMValid pm) (t : Nat) (ht : t = 1 ∨ t = 2)
    (hpt : pm.t = (t : Int)) (hd : pm.data.length < 2 ^ 40) (hplain : (prepKey s pm).compress = false) :
    (writePrepared s pm none).1 = none ∧ Idle (writePrepared s pm none).2.1 ∧
    wireMessages (writePrepared s pm none).2.1 = wireMessages s ++ [⟨t, false, pm.data⟩] ∧
    wireControls (writePrepared s pm none).2.1 = wireControls s := by
  have hft : (pm.t == 8) = false := by
    rw [hpt]; rcases ht with rfl | rfl <;> decide
  have h := writePrepared_plain s hi pm hv hplain hft (M := [⟨t, false, pm.data⟩]) (C := [])
    (fun keys ki => by rw [hpt]; exact render_data_ok _ hplain t ht pm.data keys ki hd)
  rw [List.append_nil] at h
  exact h

theorem prepared_control_roundtrip (s : W) (hi : Idle s) (pm : PM) (hv : PMValid pm) (t : Nat) (ht : t = 9 ∨ t = 10)
    (hpt : pm.t = (t : Int)) (hd : pm.data.length ≤ 125) :
    (writePrepared s pm none).1 = none ∧ Idle (writePrepared s pm none).2.1 ∧
    wireMessages (writePrepared s pm none).2.1 = wireMessages s ∧
    wireControls (writePrepared s pm none).2.1 = wireControls s ++ [(t, pm.data)] := by
  have hplain : (prepKey s pm).compress = false := by
    show (s.nego && s.enableWC && isData pm.t) = false
    rw [hi.plain]; rfl
  have hft : (pm.t == 8) = false := by
    rw [hpt]; rcases ht with rfl | rfl <;> decide
  have h := writePrepared_plain s hi pm hv hplain hft (M := []) (C := [(t, pm.data)])
    (fun keys ki => by rw [hpt]; exact render_control_ok _ hplain t ht pm.data keys ki hd)
  rw [List.append_nil] at h
  exact h

end WS.PreparedSend
