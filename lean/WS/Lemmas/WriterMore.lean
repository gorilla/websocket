import WS.Lemmas.KeyFlow
/-
  C01 `accepted` for control messages (ping / pong) through WriteMessage, with the constructor's
  guarantee that makes it unconditional (`newW_fits_control`), and C02 `key_per_frame`: which masking
  keys the frames of a WriteMessage carry (`wireKeys`, `keyAt`).
-/
namespace WS.WriterMore
open WS WS.Codec WS.Content

/-- for every requested size (a pooled / fresh buffer, no hijacked buffer). 14 = `maxFrameHeaderSize`
    (2 + 8 length + 4 key), 125 = `maxControlFramePayloadSize`, 4096 = `defaultWriteBufferSize`: conn.go's
    constants, as generated. -/
theorem newW_fits_control (isServer : Bool) (size : Int) (pool nego : Bool) :
    maxFrameHeaderSize + 125 ≤ (newW isServer size pool nego).wbufLen := by
  have h1 : maxFrameHeaderSize = 14 := by decide
  have h2 : maxControlPayload = 125 := by decide
  have h3 : defaultWriteBufferSize = 4096 := by decide
  have h4 : Gen.maxControlFramePayloadSize = 125 := rfl
  unfold newW
  simp only [h1, h2, h3, h4]
  split
  · omega
  · split <;> omega

/-- C01 `accepted` for ping / pong through WriteMessage. `hcap`: the write buffer holds a control frame,
    which the constructor guarantees (`newW_fits_control`). -/
theorem writeMessage_control_roundtrip (s : W) (hi : Idle s) (hcap : maxFrameHeaderSize + 125 ≤ s.wbufLen)
    (t : Nat) (ht : t = 9 ∨ t = 10) (data : Bytes) (hd : data.length ≤ 125) :
    (writeMessage s t data).1 = none ∧ Idle (writeMessage s t data).2 ∧
    wireMessages (writeMessage s t data).2 = wireMessages s ∧
    wireControls (writeMessage s t data).2 = wireControls s ++ [(t, data)] := by
  open WS.Stream WS.Flow WS.KeyFlow in
  have hk := Keep.ensureBuf s
  have hw0 := ensureBuf_wire s
  have hcapB : data.length ≤ (ensureBuf s).cap := by
    rw [hk.cap]; unfold W.cap; omega
  unfold writeMessage
  split
  · rename_i hc
    have hsv := server_of_fast hc
    rw [beginMessage_ok hi.noWriter hi.healthy t (by omega)]
    dsimp only
    have hf := flush_ctl (s := ensureBuf s)
      (m := { ft := t, buf := data.take (min (ensureBuf s).cap data.length) })
      (M := wireMessages s) (C := wireControls s) t ht
      (data.drop (min (ensureBuf s).cap data.length))
      (hk.writeErr.trans hi.healthy) (hk.faults.trans hi.noFaults) rfl rfl rfl
      (Or.inl (hk.isServer.trans hsv))
      (by simp only [List.length_take, List.length_drop]; omega)
      (by rw [hw0.1]; exact hi.wireSt)
    dsimp only at hf
    rw [List.take_append_drop] at hf
    obtain ⟨he, hk2, hwr, _, hws⟩ := hf
    have h := hi.toG.of_keep (hk.trans hk2) hwr hws
    exact ⟨he, h.1.toIdle ((hk.trans hk2).nego.trans hi.plain), h.2⟩
  · rename_i hc
    have hcl := client_of_not_fast hi.plain hc
    have hn : (ensureBuf s).nego = false := hk.nego.trans hi.plain
    -- what NextWriter returns, abstractly
    have hnw : ∃ s1, nextWriter s (t : Int) [] [] = (.ok (ensureBuf s).handles.length, s1) ∧
        s1.mws = (ensureBuf s).mws ++ [{ ft := t }] ∧
        s1.handles[(ensureBuf s).handles.length]? = some (.plain (ensureBuf s).mws.length) ∧
        s1.isServer = (ensureBuf s).isServer ∧ s1.writeErr = (ensureBuf s).writeErr ∧
        s1.faults = (ensureBuf s).faults ∧ s1.wbufLen = (ensureBuf s).wbufLen ∧
        s1.nego = (ensureBuf s).nego ∧ s1.wire = (ensureBuf s).wire := by
      unfold nextWriter
      rw [beginMessage_ok hi.noWriter hi.healthy t (by omega)]
      simp only [hn, Bool.false_and, Bool.false_eq_true, if_false]
      exact ⟨_, rfl, rfl, by simp, rfl, rfl, rfl, rfl, rfl, rfl⟩
    obtain ⟨s1, hnw, hmws, hh, h1sv, h1e, h1f, h1l, h1n, h1w⟩ := hnw
    rw [hnw]
    dsimp only
    have hcap1 : data.length ≤ s1.cap := by
      unfold W.cap; rw [h1l]; exact hcapB
    obtain ⟨s2, s3, m3, hW, hC, h3e, h3f, h3wr, h3mws, h3err, h3l, h3n, h3ws⟩ :=
      ctl_tail (s := s1) (M := wireMessages s) (C := wireControls s) t ht hmws hh rfl rfl rfl rfl
        (h1sv.trans (hk.isServer.trans hcl)) (h1e.trans (hk.writeErr.trans hi.healthy))
        (h1f.trans (hk.faults.trans hi.noFaults)) data hcap1 hd
        (by rw [h1w, hw0.1]; exact hi.wireSt)
    rw [hW]
    dsimp only
    rw [hC]
    have hwire := wire_of_wireSt h3ws
    refine ⟨rfl, ⟨h3e, h3f, h3wr, ?_, ?_, WireSt.ends h3ws, ?_⟩, hwire.1, hwire.2⟩
    · intro x hx
      rw [h3mws] at hx
      rcases List.mem_append.mp hx with hx | hx
      · exact hi.dead x (by rw [← hk.mws]; exact hx)
      · rw [List.mem_singleton] at hx; subst hx; exact h3err
    · rw [h3l, h1l, hk.wbufLen]; exact hi.size
    · rw [h3n, h1n]; exact hn

def wireKeys (s : W) : List (Option Key) := (Spec.decodePrefixAux s.wire.length s.wire).map (·.mask)

/-- the i-th draw from the process-wide key source -/
def keyAt (s : W) (i : Nat) : Key := (newKey { s with keyIdx := i }).1

theorem keyAt_eq (s : W) (i : Nat) : keyAt s i = KeyFlow.keyOf s.keys i := rfl

/-- C02 `key_per_frame`: the frames of one WriteMessage of a client carry consecutive draws from the key
    source, starting at the connection's current position, which advances by the number of frames -/
theorem key_per_frame (s : W) (hi : Idle s) (hclient : s.isServer = false) (t : Nat) (ht : t = 1 ∨ t = 2)
    (data : Bytes) (hd : data.length < 2 ^ 40) :
    let s' := (writeMessage s t data).2
    ∃ n, s'.keyIdx = s.keyIdx + n ∧
      wireKeys s' = wireKeys s ++ (List.range n).map (fun i => some (keyAt s (s.keyIdx + i))) ∧ 0 < n := by
  intro s'
  obtain ⟨n, hn, hk⟩ := KeyFlow.writeMessage_k s hi t ht data hd
  refine ⟨n, ?_, ?_, hn⟩
  · have := hk.hidx
    rw [hclient] at this
    simpa using this
  · have := hk.hwire.prefix
    rw [hclient] at this
    simp only [Bool.false_eq_true, if_false] at this
    simp only [keyAt_eq]
    exact this

theorem map_const_range {α : Type} (a : α) (n : Nat) : (List.range n).map (fun _ => a) = List.replicate n a := by
  induction n with
  | zero => rfl
  | succ n ih => rw [List.range_succ, List.map_append, ih, List.replicate_succ']; rfl

theorem server_never_masks (s : W) (hi : Idle s) (hsrv : s.isServer = true) (t : Nat) (ht : t = 1 ∨ t = 2)
    (data : Bytes) (hd : data.length < 2 ^ 40) :
    wireKeys (writeMessage s t data).2 = wireKeys s ++ List.replicate ((wireKeys (writeMessage s t data).2).length - (wireKeys s).length) none := by
  obtain ⟨n, hn, hk⟩ := KeyFlow.writeMessage_k s hi t ht data hd
  have h := hk.hwire.prefix
  rw [hsrv] at h
  simp only [if_true] at h
  rw [map_const_range] at h
  have h' : wireKeys (writeMessage s t data).2 = wireKeys s ++ List.replicate n none := h
  rw [h']
  simp

end WS.WriterMore
