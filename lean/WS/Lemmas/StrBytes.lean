import WS.Basic
/-
  `strBytes` of a string literal, for the kernel. `strBytes "…"` builds a ByteArray by pushing onto a list-backed array
  and reads it back by index: quadratic in the length when the kernel evaluates it. `rw [strBytes_ofList]` turns
  `strBytes "abc"` into `['a', 'b', 'c'].flatMap String.utf8EncodeChar` (the unifier opens the literal), which is linear;
  do it before `decide +kernel` on a goal that mentions a long literal.
-/
namespace WS

theorem _root_.ByteArray.toList_loop (bs : ByteArray) (i : Nat) (r : List UInt8) :
    ByteArray.toList.loop bs i r = r.reverse ++ bs.data.toList.drop i := by
  fun_induction ByteArray.toList.loop bs i r with
  | case1 i r h ih =>
    have h' : i < bs.data.toList.length := by rw [Array.length_toList]; exact h
    have hg : bs.get! i = bs.data.toList[i] := by
      show bs.data[i]! = _
      rw [getElem!_pos bs.data i h, Array.getElem_toList]
    rw [ih, List.drop_eq_getElem_cons h', hg, List.reverse_cons, List.append_assoc]
    rfl
  | case2 i r h =>
    have : bs.data.toList.length ≤ i := by rw [Array.length_toList]; exact Nat.le_of_not_lt h
    rw [List.drop_eq_nil_of_le this, List.append_nil]

theorem strBytes_ofList (cs : List Char) : strBytes (String.ofList cs) = cs.flatMap String.utf8EncodeChar := by
  rw [strBytes, String.toUTF8_eq_toByteArray, String.toByteArray_ofList, ByteArray.toList, ByteArray.toList_loop,
    List.utf8Encode, List.toList_data_toByteArray]
  rfl

end WS
