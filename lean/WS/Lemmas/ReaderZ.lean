import WS.Lemmas.CutLoops
import WS.Lemmas.ReaderRejects
/-
  C03 for permessage-deflate: a compressed message (RSV1 on its first data frame, compression negotiated)
  is announced by NextReader as compressed, and what the message reader hands to the decompressor, for
  reads of any size, is the concatenation of the data frames' payloads: the deflate stream of the peer
  minus the 4-byte tail, which compression.go appends again before inflating. compress/flate is environment.
  At the end, `WS.ZCutLoops`: the same raw reads over a message that is cut short.
-/
namespace WS.ReaderZ
open WS WS.Codec WS.SrcLaw WS.ReaderDecodes

/-- the first data frame of a compressed message on the wire: RSV1 set -/
def encZ (readerIsServer : Bool) (f : PFrame) : Bytes := encode (!readerIsServer) (f.b0 + 64) f.key f.payload

/-- first frame `f` of type `t` plus the frames after it (continuations with pings/pongs interleaved).
    The RSV1 frame comes first: pings / pongs in front of it, which `MsgShape` allows, are not covered. -/
def ZShape (t : Nat) (f : PFrame) (more : List PFrame) : Prop :=
  f.op = t ∧ f.payload.length < 2 ^ 62 ∧ ((f.fin = true ∧ more = []) ∨ (f.fin = false ∧ Tail more))

section HelpersZ
open WS.AdvFrame WS.RobustAux

theorem encz_true (S : Bool) (f : PFrame) : CutLoops.encz true S f = encZ S f := rfl

theorem encZ_length (S : Bool) (f : PFrame) :
    (encZ S f).length = 2 + (ext f.payload.length).length + (keyBytes S f.key).length + f.payload.length :=
  CutLoops.encz_length true S f

theorem ZShape.split {t : Nat} {f : PFrame} {more : List PFrame} (h : ZShape t f more) : Lead t f more := by
  obtain ⟨hop, hlen, ⟨h1, h2⟩ | ⟨h1, h2⟩⟩ := h
  · exact ⟨hop, hlen, fun _ => h2, fun h => by rw [h1] at h; cases h⟩
  · exact ⟨hop, hlen, fun h => (by rw [h1] at h; cases h), fun _ => h2⟩

/-- `CutAdv.advance_data_cut` with RSV1 set and the cut behind the message -/
theorem nextReader_z (c : Conn) (hc : ReaderIdle c) (hn : c.r.nego = true) (t : Nat) (ht : t = 1 ∨ t = 2)
    (f : PFrame) (more : List PFrame) (hs : ZShape t f more) (rest : Bytes)
    (hp : c.r.buf.pending = encZ c.r.isServer f ++ encAll c.r.isServer more ++ rest)
    (hend : c.r.buf.t.together = false ∨ rest ≠ [])
    (hsz : (f.payload ++ dataPayload more).length < 2 ^ 62)
    (hlim : c.r.limit ≤ 0 ∨ (((f.payload ++ dataPayload more).length : Nat) : Int) ≤ c.r.limit) :
    ∃ c1 rid, nextReader c = (.msg t rid true, c1) ∧
      Open c.r.isServer rid rest c1 (body c.r.isServer f.key f.payload) more ∧
      unmask c1 (body c.r.isServer f.key f.payload) = f.payload ∧ c1.r.hlog = c.r.hlog := by
  obtain ⟨rfl, hlen, hT, hF⟩ := hs.split
  rw [List.length_append] at hsz hlim
  have hb0 := lenBase_nonneg f.op (c0 c) (Int.le_refl 0)
  have hb1 : lenBase f.op (c0 c) ≤ 0 := lenBase_le f.op (c0 c) (Int.le_refl 0)
  have hp' : (c0 c).r.buf.pending = (encZ c.r.isServer f ++ (encAll c.r.isServer more ++ rest)).take
      (encZ c.r.isServer f ++ (encAll c.r.isServer more ++ rest)).length := by
    rw [List.take_length, ← List.append_assoc]; exact hp
  have hlen' := encZ_length c.r.isServer f
  have htb : (f.op == 1 || f.op == 2) = true := by rcases ht with h | h <;> rw [h] <;> rfl
  rcases CutAdv.advance_data_cut (c0 c) _ _ f.op f.fin true f.key f.payload (fun _ => hn) hc.rem hc.wf hc.size hp'
    (Or.inr ⟨by omega, hc.fin⟩) hlen hb0 (by omega) with ⟨b', h1, _, _, h3, _, h5⟩ | ⟨e, c', _, _, h⟩
  · have h3' : b'.pending = body c.r.isServer f.key f.payload ++ (encAll c.r.isServer more ++ rest) := by
      rw [h3]
      apply List.take_of_length_le
      simp only [List.length_append, hlen', body_length]
      show _ ≤ _ - (2 + _ + (keyBytes c.r.isServer f.key).length)
      omega
    have e := hc.env.at_c0.fr0 (adv_ok h1 hc.wf).1.toFr0
    refine ⟨_, _, RobustAux.nextReader_of_msg c _ f.op hc.noErr h1 htb,
      ⟨⟨⟨e.wf, e.size, e.fuel, hc.hp, hc.hq⟩, rfl, hc.noErr, ?_, h3', hT, hF, ?_, ?_⟩, rfl, ⟨?_, ?_⟩⟩,
      unmask_body _ f.key f.payload (fun h => if_pos h) (fun h => if_pos h), rfl⟩
    · show ((f.payload.length : Nat) : Int) = _
      rw [body_length]
    · show 0 ≤ lenBase f.op (c0 c) + (f.payload.length : Int)
      omega
    · show b'.t.together = false ∨ rest ≠ []
      rw [h5.together]; exact hend
    · show lenBase f.op (c0 c) + (f.payload.length : Int) + _ < _
      omega
    · show c.r.limit ≤ 0 ∨ lenBase f.op (c0 c) + (f.payload.length : Int) + _ ≤ c.r.limit
      rcases hlim with h | h
      · exact Or.inl h
      · exact Or.inr (by omega)
  · exfalso
    refine h ?_ ?_
    · simp only [List.length_append, hlen']
      show 2 + _ + (keyBytes c.r.isServer f.key).length ≤ _
      omega
    · show c.r.limit ≤ 0 ∨ _ ≤ c.r.limit
      rcases hlim with h | h
      · exact Or.inl h
      · exact Or.inr (by omega)

end HelpersZ

theorem zFills_spec (S : Bool) (rid : Nat) (rest : Bytes) : ∀ (ks : List Nat), (∀ k ∈ ks, 0 < k) →
    ∀ (c : Conn) (wire : Bytes) (more : List PFrame) (acc : List Bytes), Open S rid rest c wire more →
      (∃ out c2 wire' more', zFills ks c rid acc = ((acc.reverse.flatten ++ out, none), c2) ∧
        Open S rid rest c2 wire' more' ∧
        unmask c wire ++ dataPayload more = out ++ (unmask c2 wire' ++ dataPayload more') ∧
        c2.r.hlog ++ ctlEvents more' = c.r.hlog ++ ctlEvents more) ∨
      (∃ c2, zFills ks c rid acc = ((acc.reverse.flatten ++ (unmask c wire ++ dataPayload more), some .eof), c2) ∧
        St S c2 [] [] rest ∧ c2.r.final = true ∧ c2.r.hlog = c.r.hlog ++ ctlEvents more) := by
  intro ks
  induction ks with
  | nil =>
    intro _ c wire more acc ho
    left
    refine ⟨[], c, wire, more, ?_, ho, rfl, rfl⟩
    simp [zFills]
  | cons k ks ih =>
    intro hks c wire more acc ho
    have hk : 0 < k := hks k (List.mem_cons_self ..)
    have hks' : ∀ k' ∈ ks, 0 < k' := fun k' h => hks k' (List.mem_cons_of_mem _ h)
    have hcf := ho.st.env.fuel_lt 1
    unfold zFills
    rw [RobustAux.mrRead_cur c rid k ho.mr]
    rcases mrReadLoop_spec S rid k hk rest (c.fuel + 1) c wire more ho hcf with
      ⟨out, c2, w2, m2, hrd, _, ho2, _, hpay, hlog, _⟩ | ⟨c2, hrd, hnil, hst2, hfin2, _, _, hlog, _⟩
    · rw [hrd]
      simp only []
      rcases ih hks' c2 w2 m2 (out :: acc) ho2 with
        ⟨out', c3, w3, m3, d1, ho3, d5, d6⟩ | ⟨c3, d1, d2, d3, d4⟩
      · left
        refine ⟨out ++ out', c3, w3, m3, ?_, ho3, ?_, ?_⟩
        · rw [d1]; simp [List.append_assoc]
        · rw [hpay, d5, List.append_assoc]
        · rw [d6, hlog]
      · right
        refine ⟨c3, ?_, d2, d3, ?_⟩
        · rw [d1, hpay]; simp [List.append_assoc]
        · rw [d4, hlog]
    · right
      rw [hrd]
      simp only []
      refine ⟨c2, ?_, hst2, hfin2, hlog⟩
      rw [hnil]; simp

theorem read_compressed_message (c : Conn) (hc : ReaderIdle c) (hn : c.r.nego = true) (t : Nat) (ht : t = 1 ∨ t = 2)
    (f : PFrame) (more : List PFrame) (hs : ZShape t f more) (rest : Bytes)
    (hp : c.r.buf.pending = encZ c.r.isServer f ++ encAll c.r.isServer more ++ rest)
    (hend : c.r.buf.t.together = false ∨ rest ≠ [])
    (hsz : (f.payload ++ dataPayload more).length < 2 ^ 62)
    (hlim : c.r.limit ≤ 0 ∨ (((f.payload ++ dataPayload more).length : Nat) : Int) ≤ c.r.limit)
    (k : Nat) (hk : 0 < k) :
    ∃ c1 rid, nextReader c = (.msg t rid true, c1) ∧
      ∃ c2, readAll c1 rid k = ((f.payload ++ dataPayload more, none), c2) ∧ ReaderIdle c2 ∧
        c2.r.buf.pending = rest ∧ c2.r.hlog = c.r.hlog ++ ctlEvents more := by
  obtain ⟨c1, rid, h1, ho, h5, h6⟩ := nextReader_z c hc hn t ht f more hs rest hp hend hsz hlim
  obtain ⟨c2, d1, d2, d3, d4⟩ := readAll_spec c.r.isServer rid k hk rest c1 _ more ho
  refine ⟨c1, rid, h1, c2, ?_, d2, d3, ?_⟩
  · rw [d1, h5]
  · rw [d4, h6]

/-- `hcnt`: on reachable states the failed-call counter is 0 while no error is latched (`ReaderMore.CountInv`) -/
theorem compressed_frame_refused_when_not_negotiated (c : Conn) (hc : ReaderIdle c) (hn : c.r.nego = false)
    (t : Nat) (ht : t = 1 ∨ t = 2) (f : PFrame) (hf : f.op = t) (tail : Bytes)
    (hp : c.r.buf.pending = encZ c.r.isServer f ++ tail) (hcnt : c.r.errCount = 0) :
    ∃ msg c', nextReader c = (.err (.protocol msg), c') ∧ c'.r.hlog = c.r.hlog := by
  have hp0 : (RobustAux.c0 c).r.buf.pending =
      UInt8.ofNat (f.op + (if f.fin then 128 else 0) + 64) ::
        UInt8.ofNat (AdvFrame.mbit c.r.isServer + AdvFrame.l7 f.payload.length) ::
        (AdvFrame.ext f.payload.length ++ (AdvFrame.keyBytes c.r.isServer f.key ++
          (AdvFrame.body c.r.isServer f.key f.payload ++ tail))) := by
    show c.r.buf.pending = _
    rw [hp]
    unfold encZ PFrame.b0
    rw [AdvFrame.encode_eq]
    simp only [List.cons_append, List.append_assoc]
  obtain ⟨b', h1, _⟩ := ReaderRejects.advance_head (RobustAux.c0 c) hc.atBoundary_c0 _ _ _ hp0
  -- RSV1 without negotiated compression is one of the header violations
  obtain ⟨msg, c', u1, u2, _⟩ := ReaderRejects.afHdr_viol
    { RobustAux.c0 c with r := { (RobustAux.c0 c).r with buf := b' } } _ _
    (Or.inr (Or.inr (Or.inl ⟨congrArg Hdr.rsv1
      (AdvFrame.parseHdr_enc f.op f.fin true c.r.isServer _ (by omega) (AdvFrame.l7_lt _)), hn⟩)))
  exact ⟨msg, _, RobustAux.nextReader_of_err c c' _ hc.noErr hcnt (h1.trans u1), u2⟩

end WS.ReaderZ

/-
  The decompressor's raw reads (`zFills`) over a cut message, and what they mean for `zReadToEnd`: it
  fails. (Over a whole message: `ReaderZ.zFills_spec`.)
-/
namespace WS.ZCutLoops
open WS WS.Codec WS.SrcLaw WS.ReaderDecodes WS.AdvFrame WS.CutAdv WS.CutLoops WS.ReaderZ
open WS.CutLoopsL (LenOv)

theorem zFills_cut (S : Bool) (rid : Nat) : ∀ (ks : List Nat), (∀ k ∈ ks, 0 < k) →
    ∀ (c : Conn) (wire : Bytes) (more : List PFrame) (m : Nat) (acc : List Bytes), CSt S c wire more m →
      c.r.msgReader = some rid → LenOv c (dataPayload more).length →
      (∃ raw e c2, zFills ks c rid acc = ((raw, some e), c2) ∧ e ≠ .eof) ∨
      (∃ raw c2 wire' more' m', zFills ks c rid acc = ((raw, none), c2) ∧ CSt S c2 wire' more' m' ∧
        c2.r.msgReader = some rid ∧ LenOv c2 (dataPayload more').length) := by
  intro ks
  induction ks with
  | nil =>
    intro _ c wire more m acc hst hm hl
    right
    exact ⟨_, c, wire, more, m, rfl, hst, hm, hl⟩
  | cons k ks ih =>
    intro hks c wire more m acc hst hm hl
    have hk : 0 < k := hks k (List.mem_cons_self ..)
    have hks' : ∀ k' ∈ ks, 0 < k' := fun k' h => hks k' (List.mem_cons_of_mem _ h)
    unfold zFills
    rw [RobustAux.mrRead_cur c rid k hm]
    rcases CutLoopsL.mrReadLoop_cut S rid k hk (c.fuel + 1) c wire more m hst hm hl with
      ⟨out, c2, w2, m2, n2, b1, b2, b3, b4, _⟩ | ⟨out, e, c2, b1, b2, _⟩
    · rw [b1]
      simp only []
      exact ih hks' c2 w2 m2 n2 (out :: acc) b2 b3 b4
    · left
      rw [b1]
      exact ⟨_, e, c2, rfl, b2⟩

theorem zReadToEnd_cut (S : Bool) (rid : Nat) (env : ZEnv) (hreq : ∀ k ∈ env.reqs, 0 < k) (hdr : 0 < env.drainK)
    (c : Conn) (wire : Bytes) (more : List PFrame) (m : Nat) (hst : CSt S c wire more m)
    (hm : c.r.msgReader = some rid) (hl : LenOv c (dataPayload more).length) :
    ∃ raw e c2, zReadToEnd c rid env = ((raw, .failed e), c2) := by
  unfold zReadToEnd
  rcases zFills_cut S rid env.reqs hreq c wire more m [] hst hm hl with
    ⟨raw, e, c2, z1, z2⟩ | ⟨raw, c2, w2, m2, n2, z1, z2, z3, z4⟩
  · rw [z1]
    cases e <;> first | exact absurd rfl z2 | exact ⟨_, _, _, rfl⟩
  · rw [z1]
    simp only []
    split
    · exact ⟨_, _, _, rfl⟩
    · obtain ⟨got, e, c4, d1, _, _⟩ :=
        CutLoopsL.readAllLoop_cut S rid env.drainK hdr (c2.fuel + 2) c2 w2 m2 n2 [] z2 z3 z4
      unfold readAll
      rw [d1]
      exact ⟨_, _, _, rfl⟩

end WS.ZCutLoops
