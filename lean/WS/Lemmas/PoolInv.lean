import WS.Lemmas.Moves
/-
  C20: pooled write buffers are held only while a message is being written.
  The model records pool traffic as events `Ev.poolGet` / `Ev.poolPut` in `W.log`, and the buffer the
  connection currently holds in `W.bufRef` (`.nil` = c.writeBuf == nil).
  This file holds the statement language (`Inv`, `Fresh`) and the counting facts; the invariant is carried through
  in PoolStepZ.lean and PoolInvZ.lean.  Namespaces: `WS.PoolInv` for what the statements for connections without
  permessage-deflate name, `WS.PoolInvZ` for the development itself, which does not ask whether compression was
  negotiated ("Z").
-/
namespace WS.PoolInv
open WS

/-- a pooled connection as the constructor leaves it.  `nego = false`: without permessage-deflate no flate wrapper
    is ever created, so the environment answers (`dn`, `full`) play no role; with compression the statement needs
    the hypothesis that the flate answers are consistent (`PoolInvZ.pool_balance_z`). -/
def Fresh (s : W) : Prop :=
  s.pool = true ∧ s.nego = false ∧ s.bufRef = .nil ∧ s.writer = none ∧ s.mws = [] ∧ s.handles = [] ∧ s.log = [] ∧ s.writeErr = none ∧
  maxFrameHeaderSize < s.wbufLen

def openWriter (s : W) : Prop := ∃ m ∈ s.mws, m.err = none

/-- the invariant: the connection holds a buffer exactly when gets = puts + 1, holds none when
    gets = puts, and it holds one only while a message writer is live -/
def Inv (s : W) : Prop :=
  (s.bufRef = .nil → gets s.log = puts s.log) ∧
  (s.bufRef ≠ .nil → gets s.log = puts s.log + 1 ∧ openWriter s) ∧
  (∀ (i j : Nat) (mi mj : MW), s.mws[i]? = some mi → s.mws[j]? = some mj → mi.err = none → mj.err = none → i = j)

/-! ### all message writers have ended

  `NoLive` is the form the pool development uses; `WFInv.AllEnded` (on a list, `isSome`), `WireWF.NoOpenWriter`
  (by membership) and the negation of `openWriter` say the same. -/

def NoLive (s : W) : Prop := ∀ (i : Nat) (m : MW), s.mws[i]? = some m → m.err ≠ none

theorem NoLive.congr {s s' : W} (h : key s' = key s) (a : NoLive s) : NoLive s' := by
  unfold NoLive; rw [key_mws h]; exact a

theorem not_mem_of_nilPuts : ∀ (l : List Ev), nilPuts l = 0 → Ev.poolPut none ∉ l := by
  intro l
  induction l with
  | nil => intro _ h; cases h
  | cons e l ih =>
    intro h hm
    unfold nilPuts at h ih
    rw [List.filter_cons] at h
    split at h
    · simp at h
    · rename_i hne
      cases hm with
      | head => simp at hne
      | tail _ hm => exact ih h hm

theorem key_writePreparedImage (s : W) (t : Int) (img : Bytes) (dnp : List Bytes) (fullp : Bytes) :
    key (writePreparedImage s t img dnp fullp).2 = key (if isData t = true then closePrev s dnp fullp else s) := by
  unfold writePreparedImage; exact connWrite_key ..

theorem key_writePreparedImage_ctl (s : W) (t : Int) (img : Bytes) (dnp : List Bytes) (fullp : Bytes)
    (ht : isData t = false) : key (writePreparedImage s t img dnp fullp).2 = key s := by
  rw [key_writePreparedImage, ht]; rfl

theorem gets_snoc_get (l : List Ev) (o : Option Nat) : gets (l ++ [.poolGet o]) = gets l + 1 := by
  simp [gets, List.filter_append]
theorem gets_snoc_put (l : List Ev) (o : Option Nat) : gets (l ++ [.poolPut o]) = gets l := by
  simp [gets, List.filter_append]
theorem puts_snoc_get (l : List Ev) (o : Option Nat) : puts (l ++ [.poolGet o]) = puts l := by
  simp [puts, List.filter_append]
theorem puts_snoc_put (l : List Ev) (o : Option Nat) : puts (l ++ [.poolPut o]) = puts l + 1 := by
  simp [puts, List.filter_append]
theorem nilPuts_snoc_get (l : List Ev) (o : Option Nat) : nilPuts (l ++ [.poolGet o]) = nilPuts l := by
  simp [nilPuts, List.filter_append]
theorem nilPuts_snoc_put (l : List Ev) (id : Nat) : nilPuts (l ++ [.poolPut (some id)]) = nilPuts l := by
  simp [nilPuts, List.filter_append]

/-! ### the invariant for connections without permessage-deflate, written out

  `BalT`, `BalF`, `Step`, `SInv`, `Begun` are `BalTZ`, `BalFZ`, `StepZ`, `ZInv`, `BegunZ` (below and in
  PoolStepZ / PoolInvZ.lean) with `nego = false` added and every handle a plain one. -/

structure BalT (s : W) : Prop where
  pool : s.pool = true
  nego : s.nego = false
  nil0 : nilPuts s.log = 0
  buf : s.bufRef ≠ .nil
  cnt : gets s.log = puts s.log + 1

structure BalF (s : W) : Prop where
  pool : s.pool = true
  nego : s.nego = false
  nil0 : nilPuts s.log = 0
  buf : s.bufRef = .nil
  cnt : gets s.log = puts s.log

structure Step (s : W) (m : MW) (s' : W) (m' : MW) : Prop where
  dead : m.err ≠ none → key s' = key s ∧ m'.err ≠ none
  live : m.err = none → m'.err = none → key s' = key s
  fin : m.err = none → m'.err ≠ none → s'.mws = s.mws ∧ s'.handles = s.handles ∧ (BalT s → BalF s')

structure SInv (s : W) : Prop where
  hA : ∀ (h : Nat) (x : Handle), s.handles[h]? = some x → ∃ i, x = .plain i ∧ i < s.mws.length
  hB : ∀ (i : Nat) (m : MW), s.mws[i]? = some m → m.err = none →
        ∃ h, s.writer = some h ∧ s.handles[h]? = some (.plain i)
  hT : (∃ (i : Nat) (m : MW), s.mws[i]? = some m ∧ m.err = none) → BalT s
  hF : (∀ (i : Nat) (m : MW), s.mws[i]? = some m → m.err ≠ none) → BalF s

structure Begun (s : W) : Prop where
  hA : ∀ (h : Nat) (x : Handle), s.handles[h]? = some x → ∃ i, x = .plain i ∧ i < s.mws.length
  hN : NoLive s
  hT : BalT s

theorem Begun.finish {s s' : W} {m m' : MW} (bg : Begun s) (hm : m.err = none) (st : Step s m s' m')
    (hd : m'.err ≠ none) : SInv s' := by
  obtain ⟨hmws, hhs, hb⟩ := st.fin hm hd
  have hn : NoLive s' := by unfold NoLive; rw [hmws]; exact bg.hN
  exact ⟨by rw [hhs, hmws]; exact bg.hA, fun i m hi he => absurd he (hn i m hi),
    fun ⟨i, m, hi, he⟩ => absurd he (hn i m hi), fun _ => hb bg.hT⟩

end WS.PoolInv

namespace WS.PoolInvZ
open WS WS.PoolInv

/-- balance while a message writer is live -/
structure BalTZ (s : W) : Prop where
  pool : s.pool = true
  nil0 : nilPuts s.log = 0
  buf : s.bufRef ≠ .nil
  cnt : gets s.log = puts s.log + 1

/-- balance while no message writer is live -/
structure BalFZ (s : W) : Prop where
  pool : s.pool = true
  nil0 : nilPuts s.log = 0
  buf : s.bufRef = .nil
  cnt : gets s.log = puts s.log

theorem BalTZ.congr {s s' : W} (h : key s' = key s) (b : BalTZ s) : BalTZ s' :=
  ⟨(key_pool h).trans b.pool, (key_nilPuts h).trans b.nil0,
   by rw [key_bufRef h]; exact b.buf, by rw [key_gets h, key_puts h]; exact b.cnt⟩

theorem BalFZ.congr {s s' : W} (h : key s' = key s) (b : BalFZ s) : BalFZ s' :=
  ⟨(key_pool h).trans b.pool, (key_nilPuts h).trans b.nil0,
   by rw [key_bufRef h]; exact b.buf, by rw [key_gets h, key_puts h]; exact b.cnt⟩

theorem BalTZ.put {s s' : W} (b : BalTZ s) (id : Nat) (hp : s'.pool = s.pool) (hb : s'.bufRef = .nil)
    (hl : s'.log = s.log ++ [.poolPut (some id)]) : BalFZ s' :=
  ⟨hp.trans b.pool, by rw [hl, nilPuts_snoc_put]; exact b.nil0, hb,
    by rw [hl, gets_snoc_put, puts_snoc_put, b.cnt]⟩

theorem BalFZ.get {s s' : W} (b : BalFZ s) (o : Option Nat) (hp : s'.pool = s.pool) (hb : s'.bufRef ≠ .nil)
    (hl : s'.log = s.log ++ [.poolGet o]) : BalTZ s' :=
  ⟨hp.trans b.pool, by rw [hl, nilPuts_snoc_get]; exact b.nil0, hb,
    by rw [hl, gets_snoc_get, puts_snoc_get, b.cnt]⟩

theorem poolPut_balZ (s : W) (b : BalTZ s) :
    BalFZ (poolPut s) ∧ (poolPut s).mws = s.mws ∧ (poolPut s).handles = s.handles ∧ (poolPut s).writer = s.writer := by
  unfold poolPut
  split
  · exact ⟨b.put _ rfl rfl rfl, rfl, rfl, rfl⟩
  · exact ⟨b.put _ rfl rfl rfl, rfl, rfl, rfl⟩
  · rename_i h; exact absurd h b.buf

theorem poolGet_balZ (s : W) (b : BalFZ s) :
    BalTZ (poolGet s) ∧ (poolGet s).mws = s.mws ∧ (poolGet s).handles = s.handles ∧ (poolGet s).writer = s.writer ∧
    (poolGet s).writeErr = s.writeErr := by
  unfold poolGet
  split
  · exact ⟨b.get _ rfl (fun h => by cases h) rfl, rfl, rfl, rfl, rfl⟩
  · exact ⟨b.get _ rfl (fun h => by cases h) rfl, rfl, rfl, rfl, rfl⟩

end WS.PoolInvZ
