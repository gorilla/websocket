import WS.Lemmas.PoolInv
/-
  The pool balance at the message-writer and handle level (namespace `WS.PoolInvZ`).  `StepZ` is what steps of
  the messageWriter-level functions do to the pool bookkeeping: nothing while the messageWriter stays live or was
  ended already, and the buffer goes back to the pool when it ends.  `ZInv` is the inductive invariant of the
  connection; it is kept by Write, ReadFrom and Close on a handle (`ZInv.hcall`) and by the implicit close, provided the
  compress/flate answers are consistent (`WFInv.CloseEnvOK`: otherwise a flate wrapper is closed over a
  messageWriter that stays live).
-/
namespace WS.PoolInvZ
open WS WS.PoolInv WS.WFInv

structure StepZ (s : W) (m : MW) (s' : W) (m' : MW) : Prop where
  wl : s'.wbufLen = s.wbufLen
  dead : m.err ≠ none → key s' = key s ∧ m'.err ≠ none
  live : m.err = none → m'.err = none → key s' = key s
  fin : m.err = none → m'.err ≠ none → s'.mws = s.mws ∧ s'.handles = s.handles ∧ (BalTZ s → BalFZ s')

theorem StepZ.of_key {s s' : W} {m m' : MW} (hw : s'.wbufLen = s.wbufLen) (hk : key s' = key s) (he : m'.err = m.err) :
    StepZ s m s' m' :=
  ⟨hw, fun h => ⟨hk, by rw [he]; exact h⟩, fun _ _ => hk, fun h h' => absurd (he.trans h) h'⟩

theorem StepZ.trans {s s1 s2 : W} {m m1 m2 : MW} (a : StepZ s m s1 m1) (b : StepZ s1 m1 s2 m2) : StepZ s m s2 m2 := by
  refine ⟨b.wl.trans a.wl, fun h => ?_, fun h h2 => ?_, fun h h2 => ?_⟩
  · have ha := a.dead h
    have hb := b.dead ha.2
    exact ⟨hb.1.trans ha.1, hb.2⟩
  · by_cases h1 : m1.err = none
    · exact (b.live h1 h2).trans (a.live h h1)
    · exact absurd h2 (b.dead h1).2
  · by_cases h1 : m1.err = none
    · have ha := a.live h h1
      have hb := b.fin h1 h2
      exact ⟨hb.1.trans (key_mws ha), hb.2.1.trans (key_handles ha), fun bt => hb.2.2 (bt.congr ha)⟩
    · have ha := a.fin h h1
      have hb := (b.dead h1).1
      exact ⟨(key_mws hb).trans ha.1, (key_handles hb).trans ha.2.1, fun bt => (ha.2.2 bt).congr hb⟩

theorem StepZ.was_live {s s' : W} {m m' : MW} (st : StepZ s m s' m') (h : m'.err = none) : m.err = none := by
  by_cases hm : m.err = none
  · exact hm
  · exact absurd h (st.dead hm).2

theorem endMessage_stepZ (s : W) (m : MW) (e : WErr) : StepZ s m (endMessage s m e).1 (endMessage s m e).2 := by
  have hwl := W.fixed_wbufLen (endMessage_fixed s m e)
  revert hwl
  unfold endMessage
  split
  · intro _; exact StepZ.of_key rfl rfl rfl
  · rename_i hs
    intro hwl
    refine ⟨hwl, fun h => ?_, fun _ h' => ?_, fun _ _ => ?_⟩
    · cases hm : m.err with
      | none => exact absurd hm h
      | some x => rw [hm] at hs; simp at hs
    · simp at h'
    · dsimp only
      refine ⟨?_, ?_, fun bt => ?_⟩
      · split
        · unfold poolPut; split <;> rfl
        · rfl
      · split
        · unfold poolPut; split <;> rfl
        · rfl
      · have bt' : BalTZ { s with writer := none } := ⟨bt.pool, bt.nil0, bt.buf, bt.cnt⟩
        have hp : ({ s with writer := none } : W).pool = true := bt.pool
        rw [if_pos hp]
        exact (poolPut_balZ _ bt').1

theorem stepZInv (s0 : W) (m0 : MW) : MWInv (fun _ => True) (StepZ s0 m0) where
  nil := trivial
  frameWrite := fun {_ _} _ {_} a _ =>
    a.trans (StepZ.of_key (W.fixed_wbufLen (frameWrite_fixed ..)) (frameWrite_key ..) rfl)
  endMessage := fun e a => a.trans (endMessage_stepZ _ _ e)
  uncompress := fun a => a.trans (StepZ.of_key rfl rfl rfl)
  reset := fun a => a.trans (StepZ.of_key rfl rfl rfl)
  extend := fun a _ => a.trans (StepZ.of_key rfl rfl rfl)

theorem _root_.WS.MWStep.stepZ {s s' : W} {m m' : MW} (st : MWStep (fun _ => True) s m s' m') :
    StepZ s m s' m' :=
  (stepZInv s m).step st (StepZ.of_key rfl rfl rfl)

/-- the messageWriter a handle wraps -/
def hix : Handle → Nat
  | .plain i => i
  | .flate i _ _ _ => i

/-- `x` is a handle through which messageWriter `i` can still be written and closed:
    the messageWriter itself, or an open flate wrapper whose flate writer has not failed -/
def Wr (x : Handle) (i : Nat) : Prop := x = .plain i ∨ ∃ sent, x = .flate i true none sent

theorem Wr.idx {x : Handle} {i : Nat} (h : Wr x i) : hix x = i := by
  rcases h with h | ⟨sent, h⟩ <;> subst h <;> rfl

/-- `hA`: every handle wraps a messageWriter that exists; `hB`: a live messageWriter is reachable through the
    current writer handle; `hT` / `hF`: the balance with / without a live messageWriter -/
structure ZInv (s : W) : Prop where
  cap : maxFrameHeaderSize < s.wbufLen
  hA : ∀ (h : Nat) (x : Handle), s.handles[h]? = some x → hix x < s.mws.length
  hB : ∀ (i : Nat) (m : MW), s.mws[i]? = some m → m.err = none →
        ∃ h x, s.writer = some h ∧ s.handles[h]? = some x ∧ Wr x i
  hT : (∃ (i : Nat) (m : MW), s.mws[i]? = some m ∧ m.err = none) → BalTZ s
  hF : (∀ (i : Nat) (m : MW), s.mws[i]? = some m → m.err ≠ none) → BalFZ s

theorem ZInv.cap_pos {s : W} (a : ZInv s) : 0 < s.cap := by
  have := a.cap
  unfold W.cap; omega

theorem ZInv.congr {s s' : W} (h : key s' = key s) (hw : s'.wbufLen = s.wbufLen) (a : ZInv s) : ZInv s' := by
  refine ⟨?_, ?_, ?_, ?_, ?_⟩
  · rw [hw]; exact a.cap
  · rw [key_handles h, key_mws h]; exact a.hA
  · rw [key_handles h, key_mws h, key_writer h]; exact a.hB
  · rw [key_mws h]; exact fun x => (a.hT x).congr h
  · rw [key_mws h]; exact fun x => (a.hF x).congr h

theorem ZInv.uniq {s : W} (a : ZInv s) {i j : Nat} {mi mj : MW} (hi : s.mws[i]? = some mi) (hj : s.mws[j]? = some mj)
    (ei : mi.err = none) (ej : mj.err = none) : i = j := by
  obtain ⟨h1, x1, hw1, hh1, hr1⟩ := a.hB i mi hi ei
  obtain ⟨h2, x2, hw2, hh2, hr2⟩ := a.hB j mj hj ej
  rw [hw1] at hw2
  cases hw2
  rw [hh1] at hh2
  cases hh2
  rw [← hr1.idx, ← hr2.idx]

theorem ZInv.of_noLive {s : W} (hc : maxFrameHeaderSize < s.wbufLen)
    (hA : ∀ (h : Nat) (x : Handle), s.handles[h]? = some x → hix x < s.mws.length)
    (hn : NoLive s) (hb : BalFZ s) : ZInv s :=
  ⟨hc, hA, fun i m hi he => absurd he (hn i m hi), fun ⟨i, m, hi, he⟩ => absurd he (hn i m hi), fun _ => hb⟩

theorem ZInv.balF {s : W} (a : ZInv s) (hn : NoLive s) : BalFZ s := a.hF hn

theorem ZInv.live_writer {s : W} (a : ZInv s) {h : Nat} (hw : s.writer = some h) {j : Nat} {mj : MW}
    (hj : s.mws[j]? = some mj) (ej : mj.err = none) : ∃ x, s.handles[h]? = some x ∧ Wr x j := by
  obtain ⟨h2, x2, hw2, hh2, hr2⟩ := a.hB j mj hj ej
  rw [hw] at hw2; cases hw2
  exact ⟨x2, hh2, hr2⟩

theorem ZInv.noLive_of_noWriter {s : W} (a : ZInv s) (hw : s.writer = none) : NoLive s := by
  intro j mj hj ej
  obtain ⟨h2, x2, hw2, _⟩ := a.hB j mj hj ej
  rw [hw] at hw2; cases hw2

theorem ZInv.noLive_of_not_wr {s : W} (a : ZInv s) {h : Nat} (hw : s.writer = some h)
    (hx : ∀ x j, s.handles[h]? = some x → ¬ Wr x j) : NoLive s := by
  intro j mj hj ej
  obtain ⟨x, hh, hr⟩ := a.live_writer hw hj ej
  exact hx x j hh hr

theorem setMW_mws (s : W) (i : Nat) (m : MW) : (setMW s i m).mws = s.mws.set i m := rfl
theorem setMW_handles (s : W) (i : Nat) (m : MW) : (setMW s i m).handles = s.handles := rfl
theorem setMW_writer (s : W) (i : Nat) (m : MW) : (setMW s i m).writer = s.writer := rfl
theorem setMW_wbufLen (s : W) (i : Nat) (m : MW) : (setMW s i m).wbufLen = s.wbufLen := rfl
theorem setHandle_mws (s : W) (h : Nat) (x : Handle) : (setHandle s h x).mws = s.mws := rfl
theorem setHandle_handles (s : W) (h : Nat) (x : Handle) : (setHandle s h x).handles = s.handles.set h x := rfl
theorem setHandle_writer (s : W) (h : Nat) (x : Handle) : (setHandle s h x).writer = s.writer := rfl
theorem setHandle_wbufLen (s : W) (h : Nat) (x : Handle) : (setHandle s h x).wbufLen = s.wbufLen := rfl

theorem BalTZ.setMW {s : W} (b : BalTZ s) (i : Nat) (m : MW) : BalTZ (setMW s i m) := ⟨b.pool, b.nil0, b.buf, b.cnt⟩
theorem BalFZ.setMW {s : W} (b : BalFZ s) (i : Nat) (m : MW) : BalFZ (setMW s i m) := ⟨b.pool, b.nil0, b.buf, b.cnt⟩
theorem BalTZ.setHandle {s : W} (b : BalTZ s) (h : Nat) (x : Handle) : BalTZ (setHandle s h x) := ⟨b.pool, b.nil0, b.buf, b.cnt⟩
theorem BalFZ.setHandle {s : W} (b : BalFZ s) (h : Nat) (x : Handle) : BalFZ (setHandle s h x) := ⟨b.pool, b.nil0, b.buf, b.cnt⟩

theorem ZInv.apply_step {s s' : W} {i : Nat} {m m' : MW} (a : ZInv s) (hi : s.mws[i]? = some m)
    (st : MWStep (fun _ => True) s m s' m') : ZInv (setMW s' i m') := by
  by_cases hm : m.err = none
  · have hmws : (setMW s' i m').mws = s.mws.set i m' := by rw [setMW_mws, st.fr.mws]
    have hnew_i : (setMW s' i m').mws[i]? = some m' := by
      rw [hmws]; exact List.getElem?_set_self (lt_of_getElem? hi)
    have hhs' : (setMW s' i m').handles = s.handles := st.fr.handles
    have hc' : maxFrameHeaderSize < (setMW s' i m').wbufLen := by
      rw [setMW_wbufLen, st.fr.len]; exact a.cap
    have hA' : ∀ (h : Nat) (x : Handle), (setMW s' i m').handles[h]? = some x →
        hix x < (setMW s' i m').mws.length := by
      rw [hhs', hmws, List.length_set]; exact a.hA
    by_cases hm' : m'.err = none
    · -- stays live
      have hk := st.stepZ.live hm hm'
      refine ⟨hc', hA', ?_, fun _ => ((a.hT ⟨i, m, hi, hm⟩).congr hk).setMW _ _, fun hall => absurd hm' (hall i m' hnew_i)⟩
      intro j mj hj ej
      rw [hhs', setMW_writer, key_writer hk]
      rw [hmws] at hj
      rcases getElem?_set_cases hj with ⟨rfl, _⟩ | ⟨_, hj'⟩
      · exact a.hB j m hi hm
      · exact a.hB j mj hj' ej
    · -- ends: it was the only live one
      have hf := st.stepZ.fin hm hm'
      refine ZInv.of_noLive hc' hA' (fun j mj hj ej => ?_) ((hf.2.2 (a.hT ⟨i, m, hi, hm⟩)).setMW _ _)
      rw [hmws] at hj
      rcases getElem?_set_cases hj with ⟨_, rfl⟩ | ⟨hji, hj'⟩
      · exact hm' ej
      · exact hji (a.uniq hj' hi ej hm)
  · -- was ended already: nothing happened
    obtain ⟨hs, hm'⟩ := st.dead hm
    subst s' m'
    rw [setMW_same hi]
    exact a

/-- `hw`: the new handle can still write whenever the old one could and the messageWriter is live -/
theorem ZInv.setHandle {s : W} {h : Nat} {x x' : Handle} (a : ZInv s) (hh : s.handles[h]? = some x)
    (hx : hix x' = hix x)
    (hw : Wr x (hix x) → (∃ m, s.mws[hix x]? = some m ∧ m.err = none) → Wr x' (hix x)) :
    ZInv (setHandle s h x') := by
  have hlt : h < s.handles.length := lt_of_getElem? hh
  refine ⟨a.cap, ?_, ?_, fun hl => (a.hT hl).setHandle _ _, fun hl => (a.hF hl).setHandle _ _⟩
  · intro k y hy
    rw [setHandle_handles] at hy
    rw [setHandle_mws]
    rcases getElem?_set_cases hy with ⟨rfl, rfl⟩ | ⟨_, hy'⟩
    · rw [hx]; exact a.hA k x hh
    · exact a.hA k y hy'
  · intro j mj hj ej
    obtain ⟨h0, x0, hw0, hh0, hr0⟩ := a.hB j mj hj ej
    show ∃ k y, s.writer = some k ∧ (s.handles.set h x')[k]? = some y ∧ Wr y j
    by_cases hkh : h0 = h
    · subst hkh
      rw [hh] at hh0; cases hh0
      have hj' := hr0.idx
      subst hj'
      exact ⟨h0, x', hw0, List.getElem?_set_self hlt, hw hr0 ⟨mj, hj, ej⟩⟩
    · exact ⟨h0, x0, hw0, by rw [List.getElem?_set_ne (Ne.symm hkh)]; exact hh0, hr0⟩

theorem NoLive.setHandle {s : W} (a : NoLive s) (h : Nat) (x : Handle) : NoLive (setHandle s h x) := a

theorem ZInv.handle_get {s : W} (a : ZInv s) {h : Nat} {x : Handle} (hh : s.handles[h]? = some x) :
    ∃ m, s.mws[hix x]? = some m :=
  ⟨s.mws[hix x]'(a.hA h x hh), List.getElem?_eq_getElem (a.hA h x hh)⟩

theorem hix_eq (x : Handle) : hix x = hidx x := by cases x <;> rfl

theorem not_wr_shut {x : Handle} {j : Nat} (hx : x.shut) : ¬ Wr x j := by
  rintro (h | ⟨_, h⟩) <;> subst h
  · exact hx
  · rcases hx with hx | hx <;> cases hx

theorem wr_of_not_shut {x : Handle} (hx : ¬ x.shut) : Wr x (hidx x) := by
  cases x with
  | plain i => exact Or.inl rfl
  | flate i fo de sent =>
    cases fo with
    | false => exact absurd (Or.inr rfl) hx
    | true =>
      cases de with
      | some e => exact absurd (Or.inl rfl) hx
      | none => exact Or.inr ⟨sent, rfl⟩

theorem ZInv.noLive_set {s S : W} {h i : Nat} {x : Handle} {m' : MW} (a : ZInv s) (hw : s.writer = some h)
    (hh : s.handles[h]? = some x) (hxi : hix x = i) (hS : S.mws = s.mws.set i m') (hd : m'.err ≠ none) :
    NoLive S := by
  intro j mj hj ej
  rw [hS] at hj
  rcases getElem?_set_cases hj with ⟨_, rfl⟩ | ⟨hji, hj'⟩
  · exact hd ej
  · obtain ⟨x2, hh2, hr2⟩ := a.live_writer hw hj' ej
    rw [hh] at hh2; cases hh2
    exact hji (hr2.idx.symm.trans hxi)

theorem ZInv.store {s s' : W} {h i : Nat} {x x' : Handle} {m m' : MW} (a : ZInv s)
    (hh : s.handles[h]? = some x) (hxi : hix x = i) (hm : s.mws[i]? = some m) (st : MWStep (fun _ => True) s m s' m')
    (hx' : hix x' = i) (hw : m'.err = none → Wr x i → Wr x' i) : ZInv (WS.setHandle (setMW s' i m') h x') := by
  subst hxi
  refine (a.apply_step hm st).setHandle (x := x) (by rw [setMW_handles, st.fr.handles]; exact hh) hx' ?_
  rintro hwr ⟨m2, hm2, el⟩
  have : (setMW s' (hix x) m').mws[hix x]? = some m' := by
    show (s'.mws.set _ m')[_]? = _
    rw [st.fr.mws]; exact List.getElem?_set_self (lt_of_getElem? hm)
  rw [this] at hm2; cases hm2
  exact hw el hwr

/-- a call on a handle keeps the invariant, and Close on the current writer leaves no messageWriter live -/
theorem ZInv.hcall {cl : Bool} {s s' : W} {h : Nat} (a : ZInv s) (hc : HCall (fun _ => True) cl s h s') :
    ZInv s' ∧ (cl = true → s.writer = some h → NoLive s') := by
  cases hc with
  | skip hs =>
    exact ⟨a, fun hcl hw => a.noLive_of_not_wr hw (fun x j hx => not_wr_shut (hs hcl x hx))⟩
  | @mark x x' hh hx hx' hi =>
    refine ⟨a.setHandle hh (by rw [hix_eq, hix_eq]; exact hi) (fun hwr _ => absurd hwr (not_wr_shut hx)), fun _ hw => ?_⟩
    exact NoLive.setHandle (a.noLive_of_not_wr hw (fun y j hy => by rw [hh] at hy; cases hy; exact not_wr_shut hx)) _ _
  | @run x x' m1 s1 hh hi _ st hd =>
    have hd := hd a.cap_pos
    obtain ⟨m, hm⟩ := a.handle_get hh
    rw [hix_eq] at hm
    rw [getMW_eq hm] at st
    refine ⟨a.store hh (hix_eq x) hm st ((hix_eq x').trans hi) (fun el _ => ?_), fun hcl hw => ?_⟩
    · exact hi ▸ wr_of_not_shut (fun hs => hd (Or.inl hs) el)
    · exact NoLive.setHandle (a.noLive_set hw hh (hix_eq x) (by rw [setMW_mws, st.fr.mws]) (hd (Or.inr hcl))) _ _

theorem ZInv.idx_lt {s : W} (a : ZInv s) (h : Nat) (x : Handle) (hh : s.handles[h]? = some x) :
    hidx x < s.mws.length := hix_eq x ▸ a.hA h x hh

theorem hClose_invZ (s : W) (h : Nat) (dn : List Bytes) (full : Bytes) (a : ZInv s)
    (henv : CloseEnvOK s h dn full) :
    ZInv (hClose s h dn full).2 ∧ (s.writer = some h → NoLive (hClose s h dn full).2) :=
  have := a.hcall (hClose_hcall s h dn full (fun _ _ => trivial) henv (fun _ _ => a.idx_lt h _))
  ⟨this.1, this.2 rfl⟩

theorem closePrev_invZ (s : W) (dnp : List Bytes) (fullp : Bytes) (a : ZInv s) (henv : PrevEnvOK s dnp fullp) :
    ZInv (closePrev s dnp fullp) ∧ NoLive (closePrev s dnp fullp) := by
  unfold closePrev
  split
  · rename_i h hw
    obtain ⟨h1, h2⟩ := hClose_invZ s h dnp fullp a (henv h hw)
    have h2' := h2 hw
    refine ⟨ZInv.of_noLive h1.cap h1.hA h2' ?_, h2'⟩
    have b := h1.balF h2'
    exact ⟨b.pool, b.nil0, b.buf, b.cnt⟩
  · rename_i hw
    exact ⟨a, a.noLive_of_noWriter hw⟩

end WS.PoolInvZ
