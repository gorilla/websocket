/-
  The mutex discipline shared by the two interleaving models (`WS.Sched`, close frames; `WS.Sched2`, frames
  written in parts). In both every thread has a phase, some phases count as holding `c.mu`, the state records
  a holder, and every step moves one thread and treats the mutex in one of three ways: it leaves the holder
  alone, takes a free mutex, or gives it back. The models have their own phase types and their own `upd`, so
  the moved phase function is written out here; both `upd`s unfold to it.
-/
namespace WS.Mutex
variable {P : Type} {holds : P → Bool} {phase : Nat → P} {holder : Option Nat}

def Locked (holds : P → Bool) (phase : Nat → P) (holder : Option Nat) : Prop :=
  ∀ t, holds (phase t) = true → holder = some t

theorem Locked.unique (h : Locked holds phase holder) {t u : Nat} (ht : holds (phase t) = true)
    (hu : holds (phase u) = true) : u = t :=
  Option.some.inj ((h u hu).symm.trans (h t ht))

theorem Locked.move (t : Nat) (p : P) {holder' : Option Nat}
    (hothers : ∀ u, u ≠ t → holds (phase u) = true → holder' = some u)
    (hself : holds p = true → holder' = some t) :
    Locked holds (fun u => if u = t then p else phase u) holder' := by
  intro u (hu : holds (if u = t then p else phase u) = true)
  by_cases e : u = t
  · rw [if_pos e] at hu; exact e ▸ hself hu
  · rw [if_neg e] at hu; exact hothers u e hu

theorem Locked.stay (h : Locked holds phase holder) (t : Nat) (p : P)
    (hp : holds p = true → holds (phase t) = true) :
    Locked holds (fun u => if u = t then p else phase u) holder :=
  Locked.move t p (fun u _ hu => h u hu) (fun e => h t (hp e))

theorem Locked.acquire (h : Locked holds phase holder) (hfree : holder = none) (t : Nat) (p : P) :
    Locked holds (fun u => if u = t then p else phase u) (some t) :=
  Locked.move t p (fun _ _ hu => nomatch (h _ hu).symm.trans hfree) (fun _ => rfl)

theorem Locked.release (h : Locked holds phase holder) (t : Nat) (p : P) (ht : holds (phase t) = true)
    (hp : holds p = false) : Locked holds (fun u => if u = t then p else phase u) none :=
  Locked.move t p (fun _ e hu => absurd (h.unique ht hu) e) (fun e => nomatch e.symm.trans hp)

end WS.Mutex
