import WS.Lemmas.LimitHistory
import WS.Lemmas.MixedReads
import WS.Lemmas.RobustReader
/-
  C03 at its full quantifier ("the result does not depend on how the application sizes its read calls, … on
  whether it abandons a message part-way"): for every program over the read API, NextReader and Read(k) in
  any order, number and sizes, run against a stream of conformant messages, every event the application
  observes is the one the messages dictate (`Ok`). Proved by one simulation (`Sim`, `run_sim`) with what
  follows the whole messages on the wire, and what a NextReader does there, as parameters: C08 and the
  statements for a cut message (C05) and a violating frame (C04) after whole messages are read off it too.
  `WS.CutProgram`: `completed`, the messages an event trace reports complete. `WS.HlogProgram`: the C08 corollary.
-/
namespace WS.ReadProgram
open WS WS.Codec WS.ReaderDecodes WS.Sequences

/-- operations of the read API; `read k` asks for k + 1 bytes (Read with an empty buffer is not modelled) -/
inductive ROp
  | next
  | read (k : Nat)
  deriving DecidableEq, Repr

def ROp.isNext : ROp → Bool
  | .next => true
  | .read _ => false

/-- what the application observes -/
inductive REvt
  | opened (t : Nat)                       -- NextReader returned a message of type t
  | ret (bs : Bytes) (e : Option RErr)     -- Read returned these bytes and this error
  | failed (e : RErr)                      -- NextReader returned an error
  | panicked
  deriving DecidableEq, Repr

/-- run a program; `cur` is the identity of the message reader the application holds (the one returned
    by its last successful NextReader); a Read before any NextReader is skipped; the run stops at the
    first NextReader failure -/
def runProg : List ROp → Conn → Option Nat → List REvt × Conn
  | [], c, _ => ([], c)
  | .next :: ops, c, _ =>
    match nextReader c with
    | (.msg t rid _, c1) => (.opened t :: (runProg ops c1 (some rid)).1, (runProg ops c1 (some rid)).2)
    | (.err e, c1) => ([.failed e], c1)
    | (.panic, c1) => ([.panicked], c1)
  | .read _ :: ops, c, none => runProg ops c none
  | .read k :: ops, c, some rid =>
    match mrRead c rid (k + 1) with
    | ((bs, e), c1) => (.ret bs e :: (runProg ops c1 (some rid)).1, (runProg ops c1 (some rid)).2)

/-- the specification: `Ok ops msgs open held evs` — running `ops` when the messages still to be opened
    are `msgs` (type, payload), the undelivered rest of the currently open message is `open` (`none`: no
    message open, or its end has been reported) and `held` says whether the application holds a reader,
    may produce exactly the events `evs` -/
inductive Ok : List ROp → List (Nat × Bytes) → Option Bytes → Bool → List REvt → Prop
  | done (ms o h) : Ok [] ms o h []
  | next (ops t p ms o h evs) : Ok ops ms (some p) true evs → Ok (.next :: ops) ((t, p) :: ms) o h (.opened t :: evs)
  | readNoReader (ops k ms o evs) : Ok ops ms o false evs → Ok (.read k :: ops) ms o false evs
  | readData (ops k ms bs rem evs) : bs ≠ [] → bs.length ≤ k + 1 → Ok ops ms (some rem) true evs →
      Ok (.read k :: ops) ms (some (bs ++ rem)) true (.ret bs none :: evs)
  | readEnd (ops k ms evs) : Ok ops ms none true evs → Ok (.read k :: ops) ms (some []) true (.ret [] (some .eof) :: evs)
  | readAfterEnd (ops k ms evs) : Ok ops ms none true evs → Ok (.read k :: ops) ms none true (.ret [] (some .eof) :: evs)

end WS.ReadProgram

namespace WS.CutProgram
open WS WS.Codec WS.ReaderDecodes WS.ReadProgram

/-- the messages an event trace reports as complete: opened, pieces delivered without error, then
    end-of-message (io.EOF, possibly together with a last piece); a message that is re-opened past,
    or whose Read fails with another error, is not reported complete -/
def completedAux : List REvt → Option (Nat × Bytes) → List (Nat × Bytes)
  | [], _ => []
  | .opened t :: evs, _ => completedAux evs (some (t, []))
  | .ret bs none :: evs, some (t, acc) => completedAux evs (some (t, acc ++ bs))
  | .ret bs (some .eof) :: evs, some (t, acc) => (t, acc ++ bs) :: completedAux evs none
  | .ret _ (some _) :: evs, some _ => completedAux evs none
  | .ret _ _ :: evs, none => completedAux evs none
  | .failed _ :: evs, _ => completedAux evs none
  | .panicked :: evs, _ => completedAux evs none

def completed (evs : List REvt) : List (Nat × Bytes) := completedAux evs none

theorem completedAux_ret_none (bs : Bytes) (e : Option RErr) (evs : List REvt) :
    completedAux (.ret bs e :: evs) none = completedAux evs none := by
  cases e with
  | none => rfl
  | some e => cases e <;> rfl

theorem completedAux_ret_err (bs : Bytes) (e : RErr) (evs : List REvt) (cst : Option (Nat × Bytes)) (he : e ≠ .eof) :
    completedAux (.ret bs (some e) :: evs) cst = completedAux evs none := by
  cases cst with
  | none => exact completedAux_ret_none _ _ _
  | some x =>
    obtain ⟨t, acc⟩ := x
    cases e with
    | eof => exact absurd rfl he
    | _ => rfl

theorem completedAux_data (bs : Bytes) (evs : List REvt) (cst : Option (Nat × Bytes)) :
    completedAux (.ret bs none :: evs) cst = completedAux evs (cst.map (fun x => (x.1, x.2 ++ bs))) := by
  cases cst with
  | none => rfl
  | some x => rfl

/-- the message that may still be reported complete -/
def headOf : Option (Nat × Bytes) → Option Bytes → List (Nat × Bytes)
  | some (t, acc), some p => [(t, acc ++ p)]
  | _, _ => []

theorem headOf_data (cst : Option (Nat × Bytes)) (bs rem : Bytes) :
    headOf (cst.map (fun x => (x.1, x.2 ++ bs))) (some rem) = headOf cst (some (bs ++ rem)) := by
  cases cst with
  | none => rfl
  | some x => simp [headOf, List.append_assoc]

end WS.CutProgram

namespace WS.ReadProgram
open WS WS.Codec WS.ReaderDecodes WS.Sequences

section Helpers
open WS.LimitHistoryAux WS.MixedReads WS.RobustAux WS.NegoKeep WS.CutProgram

/-- `Ok` for the whole result of a run (`r.1` the events, `r.2` the connection it ends in), with what
    follows the whole messages left open: a run that ends among the whole messages has a handler log that
    is a prefix of `Hall`; of a run from a NextReader that finds no whole message left (`tail`) only `T` is known -/
inductive Sim (Hall : List REv) (T : List REvt × Conn → Prop) :
    List ROp → List (Nat × Bytes) → Option Bytes → Bool → List REvt × Conn → Prop
  | done (ms o h c) : c.r.hlog <+: Hall → Sim Hall T [] ms o h ([], c)
  | next (ops t p ms o h evs c) : Sim Hall T ops ms (some p) true (evs, c) →
      Sim Hall T (.next :: ops) ((t, p) :: ms) o h (.opened t :: evs, c)
  | readNoReader (ops k ms o r) : Sim Hall T ops ms o false r → Sim Hall T (.read k :: ops) ms o false r
  | readData (ops k ms bs rem evs c) : bs ≠ [] → bs.length ≤ k + 1 → Sim Hall T ops ms (some rem) true (evs, c) →
      Sim Hall T (.read k :: ops) ms (some (bs ++ rem)) true (.ret bs none :: evs, c)
  | readEnd (ops k ms evs c) : Sim Hall T ops ms none true (evs, c) →
      Sim Hall T (.read k :: ops) ms (some []) true (.ret [] (some .eof) :: evs, c)
  | readAfterEnd (ops k ms evs c) : Sim Hall T ops ms none true (evs, c) →
      Sim Hall T (.read k :: ops) ms none true (.ret [] (some .eof) :: evs, c)
  | tail (ops o h r) : T r → Sim Hall T (.next :: ops) [] o h r

theorem Sim.ok {Hall : List REv} {ops : List ROp} {ms : List (Nat × Bytes)} {o : Option Bytes} {h : Bool}
    {r : List REvt × Conn} (s : Sim Hall (fun _ => False) ops ms o h r) : Ok ops ms o h r.1 := by
  induction s with
  | done ms o h c _ => exact Ok.done ms o h
  | next ops t p ms o h evs c _ ih => exact Ok.next ops t p ms o h evs ih
  | readNoReader ops k ms o r _ ih => exact Ok.readNoReader ops k ms o r.1 ih
  | readData ops k ms bs rem evs c h1 h2 _ ih => exact Ok.readData ops k ms bs rem evs h1 h2 ih
  | readEnd ops k ms evs c _ ih => exact Ok.readEnd ops k ms evs ih
  | readAfterEnd ops k ms evs c _ ih => exact Ok.readAfterEnd ops k ms evs ih
  | tail ops o h r hT => exact hT.elim

theorem Sim.hlog {Hall : List REv} {T : List REvt × Conn → Prop} {ops : List ROp} {ms : List (Nat × Bytes)}
    {o : Option Bytes} {h : Bool} {r : List REvt × Conn} (hT : ∀ r, T r → r.2.r.hlog <+: Hall)
    (s : Sim Hall T ops ms o h r) : r.2.r.hlog <+: Hall := by
  induction s with
  | done ms o h c hc => exact hc
  | tail ops o h r ht => exact hT r ht
  | next | readNoReader | readData | readEnd | readAfterEnd => assumption

/-- `cst`: the message being collected when the run starts (as in `completedAux`) -/
theorem Sim.completed {Hall : List REv} {T : List REvt × Conn → Prop} {ops : List ROp}
    {ms : List (Nat × Bytes)} {o : Option Bytes} {h : Bool} {r : List REvt × Conn}
    (hT : ∀ r, T r → ∀ cst, completedAux r.1 cst = []) (s : Sim Hall T ops ms o h r) :
    ∀ cst : Option (Nat × Bytes), (cst.isSome = true → o.isSome = true) →
      List.Sublist (completedAux r.1 cst) (headOf cst o ++ ms) := by
  induction s with
  | done ms o h c _ => intro cst _; exact List.nil_sublist _
  | tail ops o h r ht => intro cst _; rw [hT r ht cst]; exact List.nil_sublist _
  | next ops t p ms o h evs c _ ih =>
    intro cst _
    have hrec : List.Sublist (completedAux evs (some (t, []))) ((t, p) :: ms) := ih (some (t, [])) fun _ => rfl
    exact hrec.trans (List.sublist_append_right _ _)
  | readNoReader ops k ms o r _ ih => exact ih
  | readData ops k ms bs rem evs c _ _ _ ih =>
    intro cst _
    show List.Sublist (completedAux (.ret bs none :: evs) cst) _
    rw [completedAux_data, ← headOf_data]
    exact ih _ fun _ => rfl
  | readEnd ops k ms evs c _ ih =>
    intro cst _
    have hrec : List.Sublist (completedAux evs none) ms := ih none fun h => nomatch h
    cases cst with
    | none =>
      show List.Sublist (completedAux (.ret [] (some .eof) :: evs) none) _
      rw [completedAux_ret_none]
      exact hrec
    | some x =>
      obtain ⟨t', acc⟩ := x
      exact List.Sublist.cons_cons (t', acc ++ []) hrec
  | readAfterEnd ops k ms evs c _ ih =>
    intro cst hco
    cases cst with
    | none =>
      show List.Sublist (completedAux (.ret [] (some .eof) :: evs) none) _
      rw [completedAux_ret_none]
      exact ih none hco
    | some x => exact absurd (hco rfl) (by simp)

theorem run_next_fail (ops : List ROp) (c : Conn) (cur : Option Nat)
    (h : (∃ e c1, nextReader c = (.err e, c1)) ∨ (∃ c1, nextReader c = (.panic, c1))) (cst : Option (Nat × Bytes)) :
    completedAux (runProg (.next :: ops) c cur).1 cst = [] ∧ (runProg (.next :: ops) c cur).2 = (nextReader c).2 := by
  rcases h with ⟨e, c1, h⟩ | ⟨c1, h⟩
  · simp only [runProg, h, and_true]
    rfl
  · simp only [runProg, h, and_true]
    rfl

def MsgsOk (L : Int) (msgs : List (Nat × List PFrame)) : Prop :=
  ∀ m ∈ msgs, (m.1 = 1 ∨ m.1 = 2) ∧ MsgShape m.1 m.2 ∧ (dataPayload m.2).length < 2 ^ 62 ∧
    (L ≤ 0 ∨ ((dataPayload m.2).length : Int) ≤ L)

def wireOf (S : Bool) (msgs : List (Nat × List PFrame)) (rest : Bytes) : Bytes :=
  (msgs.map (fun m => encAll S m.2)).flatten ++ rest

theorem wireOf_nil (S : Bool) (rest : Bytes) : wireOf S [] rest = rest := rfl

theorem wireOf_cons (S : Bool) (m : Nat × List PFrame) (ms : List (Nat × List PFrame)) (rest : Bytes) :
    wireOf S (m :: ms) rest = encAll S m.2 ++ wireOf S ms rest := by
  simp [wireOf]

abbrev payloads (msgs : List (Nat × List PFrame)) : List (Nat × Bytes) := msgs.map (fun m => (m.1, dataPayload m.2))
abbrev ctlAll (msgs : List (Nat × List PFrame)) : List REv := (msgs.map (fun m => ctlEvents m.2)).flatten

/-! constant during a run: the role `S`, the compression flag `N`, the read limit `L`, the transport's
    `together` flag `tg` -/

variable (S N : Bool) (L : Int) (tg : Bool)

/-- what a NextReader call finds: `LimitHistoryAux.Pre` (a reader anywhere inside, before or after a message
    of at most `n` payload bytes, `rest1` following it; `H` = the handler log once the rest of that message
    is passed) with `n` within the bounds -/
def Idle (rest1 : Bytes) (H : List REv) (c : Conn) : Prop :=
  ∃ n, Pre S rest1 H n L tg c ∧ n < 2 ^ 62 ∧ (L ≤ 0 ∨ (n : Int) ≤ L) ∧ c.r.nego = N

/-- the reader `rid` the application holds: inside its message with the payload `p` undelivered
    (`o = some p`), or after the end of the message has been reported (`o = none`) -/
def Held (rest1 : Bytes) (H : List REv) (c : Conn) (rid : Nat) (o : Option Bytes) : Prop :=
  ∃ wire more n, St S c wire more rest1 ∧ LenOk c (dataPayload more).length ∧
    wire.length + (dataPayload more).length ≤ n ∧ n < 2 ^ 62 ∧ (L ≤ 0 ∨ (n : Int) ≤ L) ∧
    c.r.hlog ++ ctlEvents more = H ∧ c.r.limit = L ∧ c.r.buf.t.together = tg ∧ c.r.nego = N ∧
    ((c.r.msgReader = some rid ∧ o = some (unmask c wire ++ dataPayload more)) ∨ (c.r.msgReader = none ∧ o = none))

/-- the state of a run: no NextReader has succeeded yet (`cur = none`), or the application holds `rid` -/
def Inv (rest1 : Bytes) (H : List REv) (c : Conn) : Option Nat → Option Bytes → Bool → Prop
  | none, o, h => Idle S N L tg rest1 H c ∧ o = none ∧ h = false
  | some rid, o, h => Held S N L tg rest1 H c rid o ∧ h = true

variable {S N L tg}

theorem Held.idle {rest1 : Bytes} {H : List REv} {c : Conn} {rid : Nat} {o : Option Bytes}
    (h : Held S N L tg rest1 H c rid o) : Idle S N L tg rest1 H c := by
  obtain ⟨w, m, n, hst, _, hn, hn2, hnL, hH, hlim, htg, hN, _⟩ := h
  exact ⟨n, ⟨w, m, hst.at_c0, hn, hH, hlim, htg⟩,
    hn2, hnL, hN⟩

theorem Inv.idle {rest1 : Bytes} {H : List REv} {c : Conn} {cur : Option Nat} {o : Option Bytes} {h : Bool}
    (hi : Inv S N L tg rest1 H c cur o h) : Idle S N L tg rest1 H c := by
  cases cur with
  | none => exact hi.1
  | some rid => exact hi.1.idle

theorem Idle.hlog {rest1 : Bytes} {H : List REv} {c : Conn} (h : Idle S N L tg rest1 H c) (X : List REv) :
    c.r.hlog <+: H ++ X := by
  obtain ⟨_, ⟨_, m, _, _, e, _, _⟩, _⟩ := h
  rw [← e, List.append_assoc]
  exact List.prefix_append _ _

theorem read_none {rest1 : Bytes} {H : List REv} {c : Conn} {rid : Nat}
    (h : Held S N L tg rest1 H c rid none) (k : Nat) : mrRead c rid k = (([], some .eof), c) := by
  obtain ⟨_, _, _, _, _, _, _, _, _, _, _, _, h | h⟩ := h
  · exact absurd h.2 (by simp)
  · exact mrRead_stale c rid k (by rw [h.1]; simp)

theorem read_some {rest1 : Bytes} {H : List REv} {c : Conn} {rid : Nat} {p : Bytes}
    (h : Held S N L tg rest1 H c rid (some p)) (k : Nat) :
    (∃ bs rem c', mrRead c rid (k + 1) = ((bs, none), c') ∧ bs ≠ [] ∧ bs.length ≤ k + 1 ∧ p = bs ++ rem ∧
      Held S N L tg rest1 H c' rid (some rem)) ∨
    (∃ c', mrRead c rid (k + 1) = (([], some .eof), c') ∧ p = [] ∧ Held S N L tg rest1 H c' rid none) := by
  obtain ⟨wire, more, n, hst, hl, hn, hn2, hnL, hH, hlim, htg, hN, h | h⟩ := h
  · obtain ⟨hm, ho⟩ := h
    have ho' : p = unmask c wire ++ dataPayload more := Option.some.inj ho
    have hcf := hst.env.fuel_lt 1
    have hlen := mrReadLoop_len_le rid (k + 1) (c.fuel + 1) c
    have hng := mrRead_ng c rid (k + 1)
    rw [mrRead_cur c rid (k + 1) hm] at hng ⊢
    rcases mrReadLoop_spec S rid (k + 1) (by omega) rest1 (c.fuel + 1) c wire more ⟨hst, hm, hl⟩ hcf with
      ⟨out, c2, w2, m2, hrd, hne, ho, kp, hpay, hlog, _⟩ | ⟨c2, hrd, hnil, hst2, hfin2, kp, hmr2, hlog, hl0⟩
    · left
      rw [hrd] at hlen hng
      refine ⟨out, unmask c2 w2 ++ dataPayload m2, c2, hrd, hne, hlen, by rw [ho', hpay], w2, m2, n, ho.st, ho.len,
        ?_, hn2, hnL, by rw [hlog, hH], by rw [kp.limit]; exact hlim, by rw [kp.same.together]; exact htg,
        hng.trans hN, Or.inl ⟨ho.mr, rfl⟩⟩
      have := congrArg List.length hpay
      simp only [List.length_append, unmask_length] at this
      omega
    · right
      rw [hrd] at hng
      refine ⟨c2, hrd, by rw [ho', hnil], [], [], n, hst2, hl0, Nat.zero_le n, hn2, hnL,
        by rw [hlog, hH]; exact List.append_nil H, by rw [kp.limit]; exact hlim, by rw [kp.same.together]; exact htg,
        hng.trans hN, Or.inr ⟨hmr2, rfl⟩⟩
  · exact absurd h.2 (by simp)

theorem open_step (t : Nat) (ht : t = 1 ∨ t = 2) (rest : Bytes) (H : List REv) (c : Conn) (fs : List PFrame)
    (hi : Idle S N L tg (encAll S fs ++ rest) H c) (hs : MsgShape t fs) (htog : tg = false ∨ rest ≠ [])
    (hf : (dataPayload fs).length < 2 ^ 62) (hL : L ≤ 0 ∨ ((dataPayload fs).length : Int) ≤ L) :
    ∃ c1 rid, nextReader c = (.msg t rid false, c1) ∧
      Held S N L tg rest (H ++ ctlEvents fs) c1 rid (some (dataPayload fs)) := by
  obtain ⟨n, hpre, hn, hnL, hN⟩ := hi
  obtain ⟨c1, rid, w1, m1, hnr, ho, kp1, hpay1, hlog1⟩ := pre_next S t ht rest H n L tg c fs hpre hs htog hn hf
    (by omega)
  have hlimc := hpre.limit
  obtain ⟨_, _, _, _, _, _, htg⟩ := hpre
  have hng := nextReader_ng c
  rw [hnr] at hng
  refine ⟨c1, rid, hnr, w1, m1, (dataPayload fs).length, ho.st, ho.len, ?_, hf, hL, hlog1, by rw [kp1.limit, hlimc],
    by rw [kp1.same.together]; exact htg, hng.trans hN, Or.inl ⟨ho.mr, by rw [hpay1]⟩⟩
  have := congrArg List.length hpay1
  simp only [List.length_append, unmask_length] at this
  omega

/-- whole messages `msgs`, then `R`: the program opens no more messages than there are whole ones, or
    else `T` holds of every run that starts with a NextReader finding `R` and nothing before it -/
theorem run_sim (R : Bytes) (Hall : List REv) (T : List REvt × Conn → Prop) (htog : tg = false ∨ R ≠ []) :
    ∀ (ops : List ROp) (msgs : List (Nat × List PFrame)) (c : Conn) (cur : Option Nat) (o : Option Bytes) (h : Bool)
      (H : List REv), MsgsOk L msgs → Inv S N L tg (wireOf S msgs R) H c cur o h → H ++ ctlAll msgs = Hall →
      ((ops.filter ROp.isNext).length ≤ msgs.length ∨
        ∀ (ops' : List ROp) (c' : Conn) (cur' : Option Nat), Idle S N L tg R Hall c' →
          T (runProg (.next :: ops') c' cur')) →
      Sim Hall T ops (payloads msgs) o h (runProg ops c cur) := by
  intro ops
  induction ops with
  | nil =>
    intro msgs c cur o h H _ hi hH _
    exact Sim.done _ _ _ _ (hH ▸ hi.idle.hlog _)
  | cons op ops ih =>
    intro msgs c cur o h H hm hi hH hr
    cases op with
    | next =>
      have hi' := hi.idle
      cases msgs with
      | nil =>
        rcases hr with hr | hr
        · exact absurd hr (Nat.not_succ_le_zero _)
        · have hH' : H = Hall := by simpa [ctlAll] using hH
          rw [wireOf_nil, hH'] at hi'
          exact Sim.tail _ _ _ _ (hr ops c cur hi')
      | cons m ms =>
        obtain ⟨mt, ms1, msz, mfit⟩ := hm m (List.mem_cons_self ..)
        rw [wireOf_cons] at hi'
        obtain ⟨c1, rid, e1, e2⟩ := open_step m.1 mt _ H c m.2 hi' ms1
          (htog.imp id (List.append_ne_nil_of_right_ne_nil _)) msz mfit
        have hrec := ih ms c1 (some rid) _ true _ (fun x hx => hm x (List.mem_cons_of_mem _ hx)) ⟨e2, rfl⟩
          (by rw [← hH]; simp [ctlAll, List.append_assoc]) (hr.imp Nat.le_of_succ_le_succ id)
        simp only [runProg, e1]
        exact Sim.next _ _ _ _ _ _ _ _ hrec
    | read k =>
      cases cur with
      | none =>
        obtain ⟨hi1, rfl, rfl⟩ := hi
        simp only [runProg]
        exact Sim.readNoReader _ _ _ _ _ (ih msgs c none none false H hm ⟨hi1, rfl, rfl⟩ hH hr)
      | some rid =>
        obtain ⟨hi1, rfl⟩ := hi
        cases o with
        | none =>
          simp only [runProg, read_none hi1 (k + 1)]
          exact Sim.readAfterEnd _ _ _ _ _ (ih msgs c (some rid) none true H hm ⟨hi1, rfl⟩ hH hr)
        | some p =>
          rcases read_some hi1 k with ⟨bs, rem, c', r1, r2, r3, rfl, r5⟩ | ⟨c', r1, rfl, r3⟩
          · simp only [runProg, r1]
            exact Sim.readData _ _ _ _ _ _ _ r2 r3 (ih msgs c' (some rid) (some rem) true H hm ⟨r5, rfl⟩ hH hr)
          · simp only [runProg, r1]
            exact Sim.readEnd _ _ _ _ _ (ih msgs c' (some rid) none true H hm ⟨r3, rfl⟩ hH hr)

theorem run_program (c : Conn) (hc : ReaderIdle c) (msgs : List (Nat × List PFrame)) (hm : MsgsOk c.r.limit msgs)
    (rest : Bytes) (hp : c.r.buf.pending = wireOf c.r.isServer msgs rest)
    (hend : c.r.buf.t.together = false ∨ rest ≠ []) (T : List REvt × Conn → Prop) (ops : List ROp)
    (hr : (ops.filter ROp.isNext).length ≤ msgs.length ∨
      ∀ (ops' : List ROp) (c' : Conn) (cur' : Option Nat),
        Idle c.r.isServer c.r.nego c.r.limit c.r.buf.t.together rest (c.r.hlog ++ ctlAll msgs) c' →
        T (runProg (.next :: ops') c' cur')) :
    Sim (c.r.hlog ++ ctlAll msgs) T ops (payloads msgs) none false (runProg ops c none) :=
  run_sim rest _ T hend ops msgs c none none false c.r.hlog hm
    ⟨⟨0, pre_idle c hc _ hp (hend.imp id (List.append_ne_nil_of_right_ne_nil _)), by omega, by omega, rfl⟩,
      rfl, rfl⟩ rfl hr

end Helpers

/-- C03 for every read program (with or without a read limit, each message within it; the program opens
    at most as many messages as the stream holds) -/
theorem any_read_program (c : Conn) (hc : ReaderIdle c) (msgs : List (Nat × List PFrame))
    (hm : ∀ m ∈ msgs, (m.1 = 1 ∨ m.1 = 2) ∧ MsgShape m.1 m.2 ∧ (dataPayload m.2).length < 2 ^ 62 ∧
            (c.r.limit ≤ 0 ∨ ((dataPayload m.2).length : Int) ≤ c.r.limit))
    (rest : Bytes)
    (hp : c.r.buf.pending = (msgs.map (fun m => encAll c.r.isServer m.2)).flatten ++ rest)
    (hend : c.r.buf.t.together = false ∨ rest ≠ [])
    (ops : List ROp) (hn : (ops.filter ROp.isNext).length ≤ msgs.length) :
    Ok ops (msgs.map (fun m => (m.1, dataPayload m.2))) none false (runProg ops c none).1 :=
  (run_program c hc msgs hm rest hp hend (fun _ => False) ops (Or.inl hn)).ok

end WS.ReadProgram

namespace WS.HlogProgram
open WS WS.Codec WS.ReaderDecodes WS.ReadProgram

/-- C08 for every read program: the handler log is a prefix of the stream's control frames, in wire order -/
theorem any_read_program_hlog (c : Conn) (hc : ReaderIdle c) (msgs : List (Nat × List PFrame))
    (hm : ∀ m ∈ msgs, (m.1 = 1 ∨ m.1 = 2) ∧ MsgShape m.1 m.2 ∧ (dataPayload m.2).length < 2 ^ 62 ∧
            (c.r.limit ≤ 0 ∨ ((dataPayload m.2).length : Int) ≤ c.r.limit))
    (rest : Bytes)
    (hp : c.r.buf.pending = (msgs.map (fun m => encAll c.r.isServer m.2)).flatten ++ rest)
    (hend : c.r.buf.t.together = false ∨ rest ≠ [])
    (ops : List ROp) (hn : (ops.filter ROp.isNext).length ≤ msgs.length) :
    (runProg ops c none).2.r.hlog <+: c.r.hlog ++ (msgs.map (fun m => ctlEvents m.2)).flatten :=
  (run_program c hc msgs hm rest hp hend (fun _ => False) ops (Or.inl hn)).hlog (fun _ h => h.elim)

end WS.HlogProgram
