import WS.Lemmas.RobustReader
/-
  C07 for frame bytes, for EVERY input (not only conformant streams): the loops of NextReader and of
  messageReader.Read carry a fuel argument in the model, and fuel exhaustion is the model's "hang" outcome. It is
  unreachable: on any byte stream every iteration that does not end the loop has consumed at least two bytes of
  input, so the fuel the model passes (`Conn.fuel`, resp. `Conn.fuel + 1`) is never exhausted, and any larger fuel
  gives the same result. Hypotheses: `WF c.r.buf` and `pending.length ≤ total` (the ghost counter `total` is the
  number of bytes the transport script held when it was installed); NextReader and Read keep both
  (`ReaderMore.ReachInv`). `WS.ReaderTotalAux` holds only two projections of `readErr` through a pair.
-/
namespace WS.ReaderTotalAux
open WS

theorem re_w {α : Type} (a : α) (w : W) (c : Conn) : (a, ({ c with w := w } : Conn)).snd.r.readErr = c.r.readErr := rfl
theorem re_id {α : Type} (a : α) (c : Conn) : (a, c).snd.r.readErr = c.r.readErr := rfl

end WS.ReaderTotalAux

namespace WS.ReaderTotal
open WS WS.SrcLaw WS.AdvFrame WS.RobustAux

theorem advanceFrame_ok_consumes (c c' : Conn) (t : Nat) (hwf : WF c.r.buf)
    (h : advanceFrame c = (.ok t, c')) :
    c'.r.buf.pending.length + 2 ≤ c.r.buf.pending.length ∧ WF c'.r.buf ∧ c'.r.buf.total = c.r.buf.total ∧
      c'.r.buf.size = c.r.buf.size := by
  have p := ReaderProg.advanceFrame_prog c hwf
  rw [h] at p
  exact ⟨p.2 t rfl, p.1.wf, p.1.same.total, p.1.same.size⟩

theorem nextReaderLoop_round (c : Conn) (hwf : WF c.r.buf) (he : c.r.readErr = none) :
    (∃ r, (∀ n, nextReaderLoop (n + 1) c = r) ∧
      ((∃ t rid z c', r = (.msg t rid z, c')) ∨ ∃ e c', r = (.err e, c') ∧ c'.r.readErr = some e)) ∨
    (∃ c1, (∀ n, nextReaderLoop (n + 1) c = nextReaderLoop n c1) ∧ WF c1.r.buf ∧ c1.r.readErr = none ∧
      c1.r.buf.pending.length + 2 ≤ c.r.buf.pending.length) := by
  obtain ⟨hfr, hlen⟩ := advanceFrame_fr c
  cases ha : advanceFrame c with
  | mk res c1 =>
    rw [ha] at hfr hlen
    cases res with
    | error e =>
      exact Or.inl ⟨_, fun n => nextReaderLoop_on_err n c he e c1 ha, Or.inr ⟨e, _, rfl, rfl⟩⟩
    | ok t =>
      cases ht : (t == 1 || t == 2) with
      | true => exact Or.inl ⟨_, fun n => nextReaderLoop_on_msg n c he t c1 ha ht, Or.inl ⟨_, _, _, _, rfl⟩⟩
      | false =>
        exact Or.inr ⟨c1, fun n => nextReaderLoop_on_pass n c he t c1 ha ht, (hfr.prog hwf).wf,
          hfr.readErr.trans he, hlen hwf t rfl⟩

/-- the fuel-0 branch (which would return an error WITHOUT latching one) is never taken -/
theorem nextReaderLoop_no_hang (n : Nat) (c : Conn) (hwf : WF c.r.buf) (he : c.r.readErr = none)
    (hn : c.r.buf.pending.length + 1 ≤ n) :
    (∃ t rid z c', nextReaderLoop n c = (.msg t rid z, c')) ∨
    (∃ e c', nextReaderLoop n c = (.err e, c') ∧ c'.r.readErr = some e) := by
  induction n generalizing c with
  | zero => omega
  | succ n ih =>
    rcases nextReaderLoop_round c hwf he with ⟨r, hr, hcl⟩ | ⟨c1, hr, hw1, he1, hl⟩
    · rw [hr n]
      rcases hcl with ⟨t, rid, z, c', rfl⟩ | ⟨e, c', rfl, hre⟩
      · exact Or.inl ⟨t, rid, z, c', rfl⟩
      · exact Or.inr ⟨e, c', rfl, hre⟩
    · rw [hr n]
      exact ih c1 hw1 he1 (by omega)

theorem nextReaderLoop_fuel (n m : Nat) (c : Conn) (hwf : WF c.r.buf)
    (hn : c.r.buf.pending.length + 1 ≤ n) (hm : c.r.buf.pending.length + 1 ≤ m) :
    nextReaderLoop n c = nextReaderLoop m c := by
  induction n generalizing m c with
  | zero => omega
  | succ n ih =>
    obtain ⟨m, rfl⟩ : ∃ m', m = m' + 1 := ⟨m - 1, by omega⟩
    cases he : c.r.readErr with
    | some e => rw [nextReaderLoop_on_latched n c e he, nextReaderLoop_on_latched m c e he]
    | none =>
      rcases nextReaderLoop_round c hwf he with ⟨r, hr, _⟩ | ⟨c1, hr, hw1, _, hl⟩
      · rw [hr n, hr m]
      · rw [hr n, hr m]
        exact ih m c1 hw1 (by omega) (by omega)

/-- NextReader on ANY input: a message, the documented panic, or an error that is the latched one -/
theorem nextReader_total (c : Conn) (hwf : WF c.r.buf) (hfuel : c.r.buf.pending.length ≤ c.r.buf.total) :
    (∃ t rid z c', nextReader c = (.msg t rid z, c')) ∨
    (∃ c', nextReader c = (.panic, c') ∧ 1000 ≤ c.r.errCount + 1) ∨
    (∃ e c', nextReader c = (.err e, c') ∧ c'.r.readErr = some e) := by
  -- a failed frame loop `(.err e, c1)` with `e` latched and the counter of `c`
  have fin : ∀ e e1 c1, c1.r.readErr = some e1 → c1.r.errCount = c.r.errCount →
      (∃ c', nrFinish (.err e, c1) = (.panic, c') ∧ 1000 ≤ c.r.errCount + 1) ∨
      (∃ e' c', nrFinish (.err e, c1) = (.err e', c') ∧ c'.r.readErr = some e') := by
    intro e e1 c1 hre hec
    rw [nrFinish_on_err, hec]
    split
    · exact Or.inl ⟨_, rfl, by assumption⟩
    · exact Or.inr ⟨_, _, rfl, by rw [hre]; rfl⟩
  rw [nextReader_eq]
  cases he : c.r.readErr with
  | some e0 =>
    rw [nrRes_some c e0 he]
    exact Or.inr (fin .any e0 (c0 c) he rfl)
  | none =>
    rw [nrRes_none c he]
    have hec := (nextReaderLoop_ec_no_panic c.fuel (c0 c)).1
    have hf : (c0 c).r.buf.pending.length + 1 ≤ c.fuel := c0_pending_lt_fuel hfuel
    rcases nextReaderLoop_no_hang c.fuel (c0 c) hwf he hf with ⟨t, rid, z, c1, h⟩ | ⟨e, c1, h, hre⟩
    · rw [h]; exact Or.inl ⟨t, rid, z, c1, rfl⟩
    · rw [h] at hec ⊢
      exact Or.inr (fin e e c1 hre hec)

def ErrLatched (r : (Bytes × Option RErr) × Conn) : Prop :=
  ∀ out e c', r = ((out, some e), c') → e = .eof ∨ c'.r.readErr ≠ none

/-- `n + 2`: a failing frame takes one more round to come back as the latched error -/
theorem mrReadLoop_round (c : Conn) (rid k : Nat) (hwf : WF c.r.buf) :
    (∃ r, (∀ n, mrReadLoop (n + 2) c rid k = r) ∧ ErrLatched r) ∨
    (∃ c1, (∀ n, mrReadLoop (n + 1) c rid k = mrReadLoop n c1 rid k) ∧ WF c1.r.buf ∧
      c1.r.buf.pending.length + 2 ≤ c.r.buf.pending.length) := by
  -- the loop ends in its first round
  have ends : ∀ r, (∀ n, mrReadLoop (n + 1) c rid k = r) → ErrLatched r →
      ∃ r, (∀ n, mrReadLoop (n + 2) c rid k = r) ∧ ErrLatched r :=
    fun r hr hcl => ⟨r, fun n => hr (n + 1), hcl⟩
  -- after a latched error the next round returns it
  have lat : ∀ (c2 : Conn) e2, c2.r.readErr = some e2 → (∀ n, mrReadLoop (n + 1) c rid k = mrReadLoop n c2 rid k) →
      ∃ r, (∀ n, mrReadLoop (n + 2) c rid k = r) ∧ ErrLatched r :=
    fun c2 e2 h2 hr => ⟨_, fun n => (hr (n + 1)).trans (mrReadLoop_on_latched n c2 rid k e2 h2),
      fun out e c' h => Or.inr (by rw [← (Prod.mk.inj h).2, h2]; exact fun hn => by cases hn)⟩
  cases he : c.r.readErr with
  | some e0 =>
    exact Or.inl <| ends _ (fun n => mrReadLoop_on_latched n c rid k e0 he)
      (fun out e c' h => Or.inr (by rw [← (Prod.mk.inj h).2, he]; exact fun hn => by cases hn))
  | none =>
    by_cases hr : c.r.remaining > 0
    · exact Or.inl <| ends _ (fun n => mrReadLoop_on_data n c rid k he hr)
        (fun out e c' h => Or.inr (by rw [mrData_err c k out (some e) c' h]; exact fun hn => by cases hn))
    · cases hfin : c.r.final with
      | true =>
        exact Or.inl <| ends _ (fun n => mrReadLoop_on_eom n c rid k he hr hfin)
          (fun out e c' h => Or.inl (Option.some.inj (Prod.mk.inj (Prod.mk.inj h).1).2).symm)
      | false =>
        obtain ⟨hfr, hlen⟩ := advanceFrame_fr c
        cases ha : advanceFrame c with
        | mk res c1 =>
          rw [ha] at hfr hlen
          cases res with
          | error e1 => exact Or.inl <| lat _ e1 rfl (fun n => mrReadLoop_on_err n c rid k he hr hfin e1 c1 ha)
          | ok t =>
            cases ht : (t == 1 || t == 2) with
            | true =>
              exact Or.inl <| lat _ .internalData rfl
                (fun n => by rw [mrReadLoop_on_ok n c rid k he hr hfin t c1 ha, ht, if_pos rfl])
            | false =>
              exact Or.inr ⟨c1, fun n => by
                rw [mrReadLoop_on_ok n c rid k he hr hfin t c1 ha, ht, if_neg Bool.false_ne_true],
                (hfr.prog hwf).wf, hlen hwf t rfl⟩

theorem mrReadLoop_total (rid k : Nat) (fuel : Nat) : ∀ c : Conn, WF c.r.buf →
    c.r.buf.pending.length + 2 ≤ fuel →
    ∀ out e c', mrReadLoop fuel c rid k = ((out, some e), c') → e = .eof ∨ c'.r.readErr ≠ none := by
  induction fuel with
  | zero => intro c _ h; omega
  | succ f ih =>
    intro c hw hf out e c' h
    obtain ⟨f, rfl⟩ : ∃ f', f = f' + 1 := ⟨f - 1, by omega⟩
    rcases mrReadLoop_round c rid k hw with ⟨r, hr, hcl⟩ | ⟨c1, hr, hw1, hl⟩
    · exact hcl out e c' ((hr f).symm.trans h)
    · rw [hr (f + 1)] at h
      exact ih c1 hw1 (by omega) out e c' h

theorem mrReadLoop_fuel (n m : Nat) (c : Conn) (rid k : Nat) (hwf : WF c.r.buf)
    (hn : c.r.buf.pending.length + 2 ≤ n) (hm : c.r.buf.pending.length + 2 ≤ m) :
    mrReadLoop n c rid k = mrReadLoop m c rid k := by
  induction n generalizing m c with
  | zero => omega
  | succ n ih =>
    obtain ⟨n, rfl⟩ : ∃ n', n = n' + 1 := ⟨n - 1, by omega⟩
    obtain ⟨m, rfl⟩ : ∃ m', m = m' + 2 := ⟨m - 2, by omega⟩
    rcases mrReadLoop_round c rid k hwf with ⟨r, hr, _⟩ | ⟨c1, hr, hw1, hl⟩
    · rw [hr n, hr m]
    · rw [hr (n + 1), hr (m + 1)]
      exact ih (m + 1) c1 hw1 (by omega) (by omega)

/-- Read on ANY input returns data, end of message, or an error that is latched (or, for a stale
    reader, io.EOF): never the fuel-exhaustion outcome -/
theorem mrRead_total (c : Conn) (rid k : Nat) (hk : 0 < k) (hwf : WF c.r.buf)
    (hfuel : c.r.buf.pending.length ≤ c.r.buf.total) :
    ∀ out e c', mrRead c rid k = ((out, some e), c') →
      e = .eof ∨ c'.r.readErr ≠ none := by
  intro out e c' h
  have _ := hk  -- not needed: the argument does not look at the request size
  unfold mrRead at h
  split at h
  · simp only [Prod.mk.injEq, Option.some.injEq] at h
    exact Or.inl h.1.2.symm
  · exact mrReadLoop_total rid k (c.fuel + 1) c hwf (Nat.succ_le_succ (pending_lt_fuel hfuel 0)) out e c' h

end WS.ReaderTotal
