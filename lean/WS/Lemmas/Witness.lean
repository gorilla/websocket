import WS.Lemmas.ReaderLift
import WS.Lemmas.Content
/-
  Facts about concrete witnesses, shared by the non-vacuity examples of WS/Props.  The hypotheses the reader and
  writer theorems make about a connection (`WF`, `ReaderIdle`, `AtBoundary`, `Content.Idle`) are conjunctions of
  decidable conditions on its fields; the instances below say so, and a concrete connection satisfies them
  `by decide`.  For a witness too large to evaluate (a 5000-byte wire) the fields are proved one by one: a frame `e`
  cut into pieces (bufio buffer, transport chunks) with a tail behind has pending bytes `e ++ tail`, whatever `e`
  is (`pending_mk`, `cut2`, `cut3`); nothing has to be encoded or masked to see it.
-/
namespace WS.Witness
open WS WS.SrcLaw WS.ReaderDecodes WS.ReaderRejects WS.ReaderLift

/-- `WF.latched` without the quantifier -/
theorem latched_iff (b : Buf) :
    (∀ e, b.err = some e → b.t.chunks = [] ∧ e = b.t.term) ↔ b.err = none ∨ b.t.chunks = [] ∧ b.err = some b.t.term := by
  cases b.err with
  | none => simp
  | some e => simp only [Option.some.injEq, forall_eq', reduceCtorEq, false_or]

instance (b : Buf) : Decidable (WF b) :=
  decidable_of_iff
    (0 < b.size ∧ b.buf.length ≤ b.size ∧ (∀ c ∈ b.t.chunks, c ≠ []) ∧
      (b.err = none ∨ b.t.chunks = [] ∧ b.err = some b.t.term))
    ⟨fun ⟨h1, h2, h3, h4⟩ => ⟨h1, h2, h3, (latched_iff b).2 h4⟩,
     fun h => ⟨h.size_pos, h.len_le, h.chunks, (latched_iff b).1 h.latched⟩⟩

theorem never_fails_iff (m : HMode) : (∀ id, m ≠ .fail id) ↔ m = .dflt ∨ m = .record := by
  cases m <;> simp

instance (c : Conn) : Decidable (ReaderIdle c) :=
  decidable_of_iff
    (c.r.readErr = none ∧ c.r.remaining = 0 ∧ c.r.final = true ∧ WF c.r.buf ∧ 125 ≤ c.r.buf.size ∧
      c.r.buf.pending.length ≤ c.r.buf.total ∧ (c.r.hPing = .dflt ∨ c.r.hPing = .record) ∧
      (c.r.hPong = .dflt ∨ c.r.hPong = .record))
    ⟨fun ⟨h1, h2, h3, h4, h5, h6, h7, h8⟩ =>
       ⟨h1, h2, h3, h4, h5, h6, (never_fails_iff _).2 h7, (never_fails_iff _).2 h8⟩,
     fun h => ⟨h.noErr, h.rem, h.fin, h.wf, h.size, h.fuel, (never_fails_iff _).1 h.hp, (never_fails_iff _).1 h.hq⟩⟩

instance (c : Conn) : Decidable (AtBoundary c) :=
  decidable_of_iff (c.r.readErr = none ∧ c.r.remaining = 0 ∧ WF c.r.buf ∧ 125 ≤ c.r.buf.size)
    ⟨fun ⟨h1, h2, h3, h4⟩ => ⟨h1, h2, h3, h4⟩, fun h => ⟨h.noErr, h.rem, h.wf, h.size⟩⟩

instance (s : W) : Decidable (Content.Idle s) :=
  decidable_of_iff
    (s.writeErr = none ∧ s.faults = [] ∧ s.writer = none ∧ (∀ m ∈ s.mws, m.err.isSome) ∧
      (maxFrameHeaderSize < s.wbufLen ∧ s.wbufLen < 2 ^ 40) ∧
      (Spec.decodeStream s.wire).map (Spec.endsInMsg false) = some false ∧ s.nego = false)
    ⟨fun ⟨h1, h2, h3, h4, h5, h6, h7⟩ => ⟨h1, h2, h3, h4, h5, Option.map_eq_some_iff.1 h6, h7⟩,
     fun h => ⟨h.healthy, h.noFaults, h.noWriter, h.dead, h.size, Option.map_eq_some_iff.2 h.whole, h.plain⟩⟩

theorem _root_.WS.ReaderDecodes.ReaderIdle.setLimit {c : Conn} (h : ReaderIdle c) (l : Int) :
    ReaderIdle { c with r := { c.r with limit := l } } :=
  ⟨h.noErr, h.rem, h.fin, h.wf, h.size, h.fuel, h.hp, h.hq⟩

theorem pending_mk (b : Buf) : b.pending = b.buf ++ b.t.chunks.flatten := rfl

theorem cut2 {α} (e tail : List α) (i : Nat) : [e.take i, e.drop i ++ tail].flatten = e ++ tail := by
  rw [List.flatten_cons, List.flatten_cons, List.flatten_nil, List.append_nil, ← List.append_assoc,
    List.take_append_drop]

theorem cut3 {α} (e tail : List α) (i j : Nat) :
    [e.take i, (e.drop i).take j, e.drop (i + j) ++ tail].flatten = e ++ tail := by
  rw [List.flatten_cons, ← List.drop_drop, cut2 (e.drop i) tail j, ← cut2 e tail i, List.flatten_cons,
    List.flatten_cons, List.flatten_nil, List.append_nil]

/-- `enc_length` with the payload length given: for a payload too long to evaluate, the sum then holds a
    numeral and not the list -/
theorem enc_length_eq (S : Bool) (op : Nat) (fin : Bool) (key : Key) {payload : Bytes} {n : Nat}
    (h : payload.length = n) :
    (PFrame.enc S ⟨op, fin, key, payload⟩).length = 2 + (AdvFrame.ext n).length + (AdvFrame.keyBytes S key).length + n :=
  h ▸ enc_length S ⟨op, fin, key, payload⟩

/-- a client connection, write buffer 4096, no compression, two masking keys in the key source -/
def witC : W := { newW false 4096 false false with keys := [0x37, 0xfa, 0x21, 0x3d, 1, 2, 3, 4] }

theorem witC_idle : Content.Idle witC := by decide

/-- the write side of the client witnesses of the reader properties: a fresh client connection whose key source
    will hand out the masking key 01 02 03 04 -/
def cliW : W := { newW false 4096 false false with keys := [1, 2, 3, 4] }

end WS.Witness
