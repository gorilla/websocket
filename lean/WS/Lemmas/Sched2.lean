import WS.Lemmas.Mutex
/-
  C11: frames reach the transport contiguously under every interleaving, and a WriteControl that cannot get the
  connection times out cleanly.  The model refines WS/Model/Sched.lean: the transport write of one frame is not
  atomic; a thread that holds the mutex appends the frame to the wire in any number of parts (short writes, the
  two buffers of header+extra), and other threads may run in between.  The wire records, for every chunk, which
  thread wrote it and the number of that thread's frame.  The mutex clause of the invariant is `Mutex.Locked`.
-/
namespace WS.Sched2

inductive Phase
  | idle
  | waiting                 -- wants the mutex (Conn.write: forever; WriteControl: until its deadline)
  | locked                  -- holds mu, has not looked at writeErr yet
  | writing (parts : Nat)   -- holds mu, saw writeErr = nil, set the deadline, `parts` chunks written so far
  | done                    -- holds mu, frame fully written (or write failed), about to release
  deriving DecidableEq, Repr

/-- one chunk on the wire: (thread, that thread's frame number) -/
abbrev Chunk := Nat × Nat

structure G where
  holder : Option Nat
  writeErr : Bool
  wire : List Chunk
  phase : Nat → Phase
  frameNo : Nat → Nat        -- number of frames thread t has started

def upd {α : Type} (f : Nat → α) (t : Nat) (p : α) : Nat → α := fun u => if u = t then p else f u

inductive Step : G → G → Prop
  | want (g t) (h : g.phase t = .idle) : Step g { g with phase := upd g.phase t .waiting }
  | acquire (g t) (h : g.phase t = .waiting) (hf : g.holder = none) :
      Step g { g with holder := some t, phase := upd g.phase t .locked }
  /-- WriteControl's deadline expires while it waits: nothing else changes -/
  | timeout (g t) (h : g.phase t = .waiting) : Step g { g with phase := upd g.phase t .idle }
  | checkFail (g t) (h : g.phase t = .locked) (he : g.writeErr = true) :
      Step g { g with holder := none, phase := upd g.phase t .idle }
  | checkOk (g t) (h : g.phase t = .locked) (he : g.writeErr = false) :
      Step g { g with phase := upd g.phase t (.writing 0), frameNo := upd g.frameNo t (g.frameNo t + 1) }
  /-- one more part of the current frame reaches the transport -/
  | part (g t n) (h : g.phase t = .writing n) :
      Step g { g with wire := g.wire ++ [(t, g.frameNo t)], phase := upd g.phase t (.writing (n + 1)) }
  | finish (g t n) (h : g.phase t = .writing n) : Step g { g with phase := upd g.phase t .done }
  /-- the transport fails in the middle of the frame -/
  | fail (g t n) (h : g.phase t = .writing n) :
      Step g { g with writeErr := true, phase := upd g.phase t .done }
  | release (g t) (h : g.phase t = .done) :
      Step g { g with holder := none, phase := upd g.phase t .idle }

def init : G := { holder := none, writeErr := false, wire := [], phase := fun _ => .idle, frameNo := fun _ => 0 }

inductive Reach : G → Prop
  | init : Reach init
  | step {g g'} : Reach g → Step g g' → Reach g'

/-- all chunks of one frame are adjacent on the wire -/
def Contiguous (w : List Chunk) : Prop :=
  ∀ i j k, i < j → j < k → k < w.length → w[i]? = w[k]? → w[j]? = w[i]?

def holds (p : Phase) : Bool :=
  match p with
  | .idle | .waiting => false
  | _ => true

/-- every occurrence of `c` in `w` is followed only by `c` -/
def SuffixOf (w : List Chunk) (c : Chunk) : Prop :=
  ∀ i j, i < j → j < w.length → w[i]? = some c → w[j]? = some c

structure Inv (g : G) : Prop where
  lock   : ∀ t, holds (g.phase t) = true → g.holder = some t
  bound  : ∀ c, c ∈ g.wire → c.2 ≤ g.frameNo c.1
  suffix : ∀ t n, g.phase t = .writing n → SuffixOf g.wire (t, g.frameNo t)
  contig : Contiguous g.wire

theorem inv_init : Inv init :=
  { lock := fun _ h => nomatch h
    bound := fun _ h => nomatch h
    suffix := fun _ _ h => nomatch h
    contig := fun _ _ _ _ _ h => nomatch h }

@[simp] theorem upd_same {α : Type} (f : Nat → α) (t : Nat) (p : α) : upd f t p t = p := if_pos rfl
theorem upd_other {α : Type} (f : Nat → α) {t u : Nat} (p : α) (e : u ≠ t) : upd f t p u = f u := if_neg e

theorem holder_unique {g : G} (hi : Inv g) {t u : Nat} (ht : holds (g.phase t) = true)
    (hu : holds (g.phase u) = true) : u = t :=
  Mutex.Locked.unique hi.lock ht hu

/-- `hlock` is discharged by the shape of the step (`Mutex.Locked.stay` / `acquire` / `release`). -/
theorem inv_move {g : G} (hi : Inv g) (t : Nat) (p : Phase) {holder' : Option Nat} {we' : Bool}
    (hlock : Mutex.Locked holds (upd g.phase t p) holder')
    (hwr : ∀ n, p = .writing n → ∃ m, g.phase t = .writing m) :
    Inv { g with holder := holder', writeErr := we', phase := upd g.phase t p } where
  lock := hlock
  bound := hi.bound
  contig := hi.contig
  suffix := fun u n hu => by
    by_cases e : u = t
    · subst e
      obtain ⟨m, hm⟩ := hwr n (by simpa using hu)
      exact hi.suffix u m hm
    · exact hi.suffix u n (by simpa [upd_other _ _ e] using hu)

theorem inv_local {g : G} (hi : Inv g) (t : Nat) (p : Phase) (holder' : Option Nat) (we' : Bool)
    (hhold : ∀ u, u ≠ t → holds (g.phase u) = true → holder' = some u)
    (hself : holds p = true → holder' = some t)
    (hwr : ∀ n, p = .writing n → ∃ m, g.phase t = .writing m) :
    Inv { g with holder := holder', writeErr := we', phase := upd g.phase t p } :=
  inv_move hi t p (Mutex.Locked.move t p hhold hself) hwr

theorem contiguous_append {w : List Chunk} {c : Chunk} (hc : Contiguous w) (hs : SuffixOf w c) :
    Contiguous (w ++ [c]) := by
  intro i j k hij hjk hk e
  rw [List.length_append, List.length_singleton] at hk
  have hj : j < w.length := Nat.lt_of_lt_of_le hjk (Nat.le_of_lt_succ hk)
  rw [List.getElem?_append_left (Nat.lt_trans hij hj)] at e ⊢
  rw [List.getElem?_append_left hj]
  rcases Nat.lt_or_eq_of_le (Nat.le_of_lt_succ hk) with hkl | rfl
  · rw [List.getElem?_append_left hkl] at e
    exact hc i j k hij hjk hkl e
  · -- `k` is the new last position, so position `i` holds `c` and `SuffixOf` applies
    rw [List.getElem?_concat_length] at e
    rw [e]
    exact hs i j hij hj e

theorem suffixOf_append_self {w : List Chunk} {c : Chunk} (hs : SuffixOf w c) : SuffixOf (w ++ [c]) c := by
  intro i j hij hj e
  rw [List.length_append, List.length_singleton] at hj
  rcases Nat.lt_or_eq_of_le (Nat.le_of_lt_succ hj) with hjl | rfl
  · rw [List.getElem?_append_left (Nat.lt_trans hij hjl)] at e
    rw [List.getElem?_append_left hjl]
    exact hs i j hij hjl e
  · exact List.getElem?_concat_length

theorem suffixOf_of_not_mem {w : List Chunk} {c : Chunk} (hn : c ∉ w) : SuffixOf w c :=
  fun _ _ _ _ e => absurd (List.mem_of_getElem? e) hn

theorem le_upd_succ (f : Nat → Nat) (t u : Nat) : f u ≤ upd f t (f t + 1) u := by
  by_cases e : u = t
  · rw [e, upd_same]; exact Nat.le_succ _
  · rw [upd_other _ _ e]; exact Nat.le_refl _

theorem inv_step {g g' : G} (hi : Inv g) (hs : Step g g') : Inv g' := by
  have hl : Mutex.Locked holds g.phase g.holder := hi.lock
  cases hs with
  | want t h | timeout t h => exact inv_move hi t _ (hl.stay t _ nofun) (by simp)
  | acquire t h hf => exact inv_move hi t _ (hl.acquire hf t _) (by simp)
  | checkFail t h he | release t h => exact inv_move hi t _ (hl.release t _ (by simp [h, holds]) rfl) (by simp)
  | finish t n h | fail t n h => exact inv_move hi t _ (hl.stay t _ (fun _ => by simp [h, holds])) (by simp)
  | checkOk t h he =>
    refine ⟨hl.stay t _ (fun _ => by simp [h, holds]), ?_, ?_, hi.contig⟩
    · exact fun c hc => Nat.le_trans (hi.bound c hc) (le_upd_succ ..)
    · intro u n hu
      show SuffixOf g.wire (u, upd g.frameNo t (g.frameNo t + 1) u)
      by_cases e : u = t
      · -- a new frame number: by `bound` no chunk on the wire carries it yet
        rw [e, upd_same]
        exact suffixOf_of_not_mem (fun hm => Nat.not_succ_le_self _ (hi.bound _ hm))
      · rw [upd_other _ _ e]
        exact hi.suffix u n (by simpa [upd_other _ _ e] using hu)
  | part t n h =>
    have ht : holds (g.phase t) = true := by simp [h, holds]
    have hsuf := hi.suffix t n h
    refine ⟨hl.stay t _ (fun _ => ht), ?_, ?_, contiguous_append hi.contig hsuf⟩
    · intro c hc
      rcases List.mem_append.1 hc with hc' | hc'
      · exact hi.bound c hc'
      · rw [List.mem_singleton.1 hc']; exact Nat.le_refl _
    · intro u m hu
      by_cases e : u = t
      · rw [e]; exact suffixOf_append_self hsuf
      · have hu' : g.phase u = .writing m := by simpa [upd_other _ _ e] using hu
        exact absurd (hl.unique ht (by simp [hu', holds])) e

theorem inv_reach {g : G} (h : Reach g) : Inv g := by
  induction h with
  | init => exact inv_init
  | step _ hs ih => exact inv_step ih hs

theorem holds_of_ne {p : Phase} (h : p ≠ .idle ∧ p ≠ .waiting) : holds p = true := by
  cases p <;> simp_all [holds]

/-- frames_atomic: in every reachable state of every interleaving of any number of threads, the
    chunks of each frame are contiguous on the wire: control frames appear only between whole frames -/
theorem frames_atomic {g : G} (h : Reach g) : Contiguous g.wire :=
  (inv_reach h).contig

/-- writecontrol_timeout_clean: a waiter that gives up changes nothing but its own phase: nothing is
    written and the connection is not poisoned -/
theorem timeout_clean (g : G) (t : Nat) (h : g.phase t = .waiting) :
    ∃ g', Step g g' ∧ g'.wire = g.wire ∧ g'.writeErr = g.writeErr ∧ g'.holder = g.holder ∧ g'.phase t = .idle :=
  ⟨_, Step.timeout g t h, rfl, rfl, rfl, upd_same ..⟩

/-- a blocked writer cannot keep WriteControl from returning at its deadline: the timeout is enabled while
    waiting, in particular while another thread holds the mutex -/
theorem timeout_always_enabled {g : G} (t u : Nat) (h : g.phase t = .waiting) (hu : g.holder = some u) :
    ∃ g', Step g g' ∧ g'.phase t = .idle ∧ g'.holder = some u :=
  ⟨_, Step.timeout g t h, upd_same .., hu⟩

theorem mutex {g : G} (h : Reach g) (t u : Nat)
    (ht : g.phase t ≠ .idle ∧ g.phase t ≠ .waiting) (hu : g.phase u ≠ .idle ∧ g.phase u ≠ .waiting) : t = u :=
  holder_unique (inv_reach h) (holds_of_ne hu) (holds_of_ne ht)

end WS.Sched2
