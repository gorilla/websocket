import WS.Model.Source
/-
  Stream law of the bufio model (refinement L0 ⊑ L1): for a well-formed source `WF` the reader sees a plain byte
  stream `pending` with a terminal error delivered after all bytes before it, whatever the transport chunking,
  buffer size and read sizes are (`take_law`, `read_law`, `skipLoop_law`). `Same2`: what no operation changes in
  any state of the source (size, terminal error, `together`, the ghost `total`); `Same` is `Same2` without `total`.
  `Prog`: every operation leaves a well-formed source well formed and never lengthens `pending`.
-/
namespace WS.SrcLaw
open WS

theorem tread_spec (t : TSrc) (room : Nat) (hroom : 0 < room) (hc : ∀ c ∈ t.chunks, c ≠ []) :
    (t.read room).1 ++ (t.read room).2.2.pending = t.pending ∧
    (t.read room).1.length ≤ room ∧
    (t.chunks ≠ [] → (t.read room).1 ≠ []) ∧
    (∀ e, (t.read room).2.1 = some e → (t.read room).2.2.chunks = [] ∧ e = t.term) ∧
    (t.chunks = [] → (t.read room).2.1 = some t.term ∧ (t.read room).1 = [] ∧ (t.read room).2.2 = t) ∧
    (∀ c ∈ (t.read room).2.2.chunks, c ≠ []) ∧
    (t.read room).2.2.term = t.term ∧ (t.read room).2.2.together = t.together := by
  unfold TSrc.read
  split
  next heq =>
    simp [TSrc.pending, heq]
  next c rest heq =>
    have hcne : c ≠ [] := hc c (by simp [heq])
    have hrest : ∀ c ∈ rest, c ≠ [] := fun c' h' => hc c' (by simp [heq, h'])
    have hclen : 0 < c.length := List.length_pos_iff.mpr hcne
    have hmin : 0 < min room c.length := by omega
    have hout : List.take (min room c.length) c ≠ [] := by
      intro h
      have := congrArg List.length h
      rw [List.length_take, List.length_nil] at this
      omega
    simp only []
    split
    next hemp =>
      have hd : List.drop (min room c.length) c = [] := by simpa using hemp
      have htk : List.take (min room c.length) c = c := by
        have := List.take_append_drop (min room c.length) c
        rw [hd] at this; simpa using this
      split
      next hb =>
        simp only [Bool.and_eq_true, List.isEmpty_iff] at hb
        refine ⟨?_, ?_, ?_, ?_, ?_, ?_, rfl, rfl⟩
        · simp [TSrc.pending, heq, hb.1, htk]
        · simp; omega
        · intro _; exact hout
        · intro e he; simp at he; simp [he]
        · intro h; simp [heq] at h
        · simp
      next hb =>
        refine ⟨?_, ?_, ?_, ?_, ?_, ?_, rfl, rfl⟩
        · simp [TSrc.pending, heq, htk]
        · simp; omega
        · intro _; exact hout
        · intro e he; simp at he
        · intro h; simp [heq] at h
        · simpa using hrest
    next hemp =>
      have hd : List.drop (min room c.length) c ≠ [] := by simpa using hemp
      refine ⟨?_, ?_, ?_, ?_, ?_, ?_, rfl, rfl⟩
      · simp [TSrc.pending, heq]
        rw [← List.append_assoc, List.take_append_drop]
      · simp; omega
      · intro _; exact hout
      · intro e he; simp at he
      · intro h; simp [heq] at h
      · intro c' hc'
        simp at hc'
        rcases hc' with h | h
        · rw [h]; exact hd
        · exact hrest c' h



/-- well-formed source; `latched`: an error is latched only once the transport script is exhausted, and is then
    the terminal error -/
structure WF (b : Buf) : Prop where
  size_pos : 0 < b.size
  len_le : b.buf.length ≤ b.size
  chunks : ∀ c ∈ b.t.chunks, c ≠ []
  latched : ∀ e, b.err = some e → b.t.chunks = [] ∧ e = b.t.term

def Same (b b' : Buf) : Prop := b'.size = b.size ∧ b'.t.term = b.t.term ∧ b'.t.together = b.t.together

/-- what Conn.read reports for the terminal error -/
def mapEOF (e : RErr) : RErr := if e = .eof then .unexpectedEOF else e

theorem Same.refl (b : Buf) : Same b b := ⟨rfl, rfl, rfl⟩

theorem Same.trans {a b c : Buf} (h1 : Same a b) (h2 : Same b c) : Same a c :=
  ⟨h2.1.trans h1.1, h2.2.1.trans h1.2.1, h2.2.2.trans h1.2.2⟩

structure Same2 (b b' : Buf) : Prop where
  size : b'.size = b.size
  term : b'.t.term = b.t.term
  together : b'.t.together = b.t.together
  total : b'.total = b.total

theorem Same2.refl (b : Buf) : Same2 b b := ⟨rfl, rfl, rfl, rfl⟩

theorem Same2.trans {a b c : Buf} (h1 : Same2 a b) (h2 : Same2 b c) : Same2 a c :=
  ⟨h2.size.trans h1.size, h2.term.trans h1.term, h2.together.trans h1.together, h2.total.trans h1.total⟩

theorem tpending_nil_iff (t : TSrc) (hc : ∀ c ∈ t.chunks, c ≠ []) : t.pending = [] ↔ t.chunks = [] := by
  unfold TSrc.pending
  constructor
  · intro h
    cases hch : t.chunks with
    | nil => rfl
    | cons c rest =>
      rw [hch] at h
      have := hc c (by simp [hch])
      simp at h
      exact absurd h.1 this
  · intro h; rw [h]; rfl

theorem fill_eq (b : Buf) : b.fill =
    { b with buf := b.buf ++ (b.t.read (b.size - b.buf.length)).1,
             err := (b.t.read (b.size - b.buf.length)).2.1,
             t := (b.t.read (b.size - b.buf.length)).2.2 } := rfl

theorem fill_spec (b : Buf) (h : WF b) (hroom : b.buf.length < b.size) :
    b.fill.pending = b.pending ∧ WF b.fill ∧ Same b b.fill ∧
    (b.buf.length < b.fill.buf.length ∨ b.fill.err.isSome) := by
  have hr : 0 < b.size - b.buf.length := by omega
  obtain ⟨h1, h2, h3, h4, h5, h6, h7, h8⟩ := tread_spec b.t _ hr h.chunks
  rw [fill_eq]
  refine ⟨?_, ⟨?_, ?_, ?_, ?_⟩, ⟨rfl, h7, h8⟩, ?_⟩
  · simp only [Buf.pending]
    rw [List.append_assoc, h1]
  · exact h.size_pos
  · simp only [List.length_append]; omega
  · exact h6
  · intro e he
    have := h4 e he
    exact ⟨this.1, by rw [this.2, h7]⟩
  · by_cases hch : b.t.chunks = []
    · right; simp [(h5 hch).1]
    · left
      have := h3 hch
      have : 0 < (b.t.read (b.size - b.buf.length)).1.length := List.length_pos_iff.mpr this
      simp only [List.length_append]; omega

theorem peekLoop_err (fuel : Nat) (b : Buf) (n : Nat) (he : b.err.isSome) : b.peekLoop fuel n = b := by
  cases fuel with
  | zero => rfl
  | succ f =>
    unfold Buf.peekLoop
    have : b.err.isNone = false := by
      cases hb : b.err with
      | none => simp [hb] at he
      | some e => rfl
    simp [this]

theorem peekLoop_spec (fuel : Nat) : ∀ (b : Buf) (n : Nat), WF b → n < fuel + b.buf.length →
    (b.peekLoop fuel n).pending = b.pending ∧ WF (b.peekLoop fuel n) ∧ Same b (b.peekLoop fuel n) ∧
    (n ≤ (b.peekLoop fuel n).buf.length ∨ (b.peekLoop fuel n).size ≤ (b.peekLoop fuel n).buf.length ∨
      (b.peekLoop fuel n).err.isSome) := by
  induction fuel with
  | zero =>
    intro b n h hn
    refine ⟨rfl, h, Same.refl b, ?_⟩
    left; show n ≤ b.buf.length; omega
  | succ f ih =>
    intro b n h hn
    unfold Buf.peekLoop
    split
    next hc =>
      simp only [Bool.and_eq_true, decide_eq_true_eq] at hc
      obtain ⟨⟨hc1, hc2⟩, hc3⟩ := hc
      obtain ⟨f1, f2, f3, f4⟩ := fill_spec b h hc2
      rcases f4 with f4 | f4
      · obtain ⟨i1, i2, i3, i4⟩ := ih b.fill n f2 (by omega)
        exact ⟨i1.trans f1, i2, f3.trans i3, i4⟩
      · rw [peekLoop_err f b.fill n f4]
        exact ⟨f1, f2, f3, Or.inr (Or.inr f4)⟩
    next hc =>
      refine ⟨rfl, h, Same.refl b, ?_⟩
      simp only [Bool.and_eq_true, decide_eq_true_eq, not_and] at hc
      by_cases h1 : b.buf.length < n
      · by_cases h2 : b.buf.length < b.size
        · right; right
          have := hc ⟨h1, h2⟩
          cases hb : b.err with
          | none => simp [hb] at this
          | some e => rfl
        · right; left; omega
      · left; omega


theorem pending_of_err (b : Buf) (h : WF b) (he : b.err.isSome) : b.pending = b.buf ∧ b.t.pending = [] := by
  cases hb : b.err with
  | none => simp [hb] at he
  | some e =>
    have := (h.latched e hb).1
    simp [Buf.pending, TSrc.pending, this]

/-- Conn.read(n) within the buffer size: the first `n` pending bytes, or all of them and the terminal
    error (io.EOF as errUnexpectedEOF) when there are fewer -/
theorem take_law (b : Buf) (h : WF b) (n : Nat) (hn : n ≤ b.size) :
    (b.take n).1 = b.pending.take n ∧
    (b.take n).2.1 = (if n ≤ b.pending.length then none else some (mapEOF b.t.term)) ∧
    (b.take n).2.2.pending = b.pending.drop n ∧ WF (b.take n).2.2 ∧ Same b (b.take n).2.2 := by
  obtain ⟨p1, p2, p3, p4⟩ := peekLoop_spec (n + 1) b n h (by omega)
  have hsz : (b.peekLoop (n + 1) n).size = b.size := p3.1
  unfold Buf.take
  simp only []
  rw [if_neg (by omega)]
  by_cases hp : n ≤ b.pending.length
  · -- enough bytes: Peek stops with `n` bytes buffered, or on a latched error with everything buffered
    have hlen : n ≤ (b.peekLoop (n + 1) n).buf.length := by
      rcases p4 with p4 | p4 | p4
      · exact p4
      · omega
      · rw [← (pending_of_err _ p2 p4).1, p1]; exact hp
    rw [if_pos hlen, if_pos hp]
    refine ⟨?_, rfl, ?_, ⟨p2.size_pos, ?_, p2.chunks, p2.latched⟩, p3⟩
    · rw [← p1]; simp only [Buf.pending]
      rw [List.take_append_of_le_length hlen]
    · rw [← p1]; simp only [Buf.pending]
      rw [List.drop_append_of_le_length hlen]
    · have := p2.len_le
      simp only [List.length_drop]; omega
  · -- too few: the buffer is neither full nor long enough, so Peek stopped on the latched terminal error
    have hble : (b.peekLoop (n + 1) n).buf.length ≤ b.pending.length := by
      rw [← p1]; simp [Buf.pending]
    have herr : (b.peekLoop (n + 1) n).err.isSome := by
      rcases p4 with p4 | p4 | p4
      · omega
      · omega
      · exact p4
    obtain ⟨q1, q2⟩ := pending_of_err _ p2 herr
    rw [if_neg (by omega), if_neg hp, List.take_of_length_le (by omega), List.drop_eq_nil_of_le (by omega)]
    cases hb : (b.peekLoop (n + 1) n).err with
    | none => simp [hb] at herr
    | some e =>
      obtain ⟨l1, l2⟩ := p2.latched e hb
      refine ⟨by rw [← p1, q1], by simp only [mapEOF, l2, p3.2.1], ?_, ⟨p2.size_pos, by simp, p2.chunks, ?_⟩, p3⟩
      · simp only [Buf.pending, q2, List.append_nil]
      · intro e he; simp at he

theorem take_ok (b : Buf) (h : WF b) (n : Nat) (hn : n ≤ b.size) (hp : n ≤ b.pending.length) :
    (b.take n).1 = b.pending.take n ∧ (b.take n).2.1 = none ∧
    (b.take n).2.2.pending = b.pending.drop n ∧ WF (b.take n).2.2 ∧ Same b (b.take n).2.2 := by
  have := take_law b h n hn
  rwa [if_pos hp] at this

theorem take_short (b : Buf) (h : WF b) (n : Nat) (hn : n ≤ b.size) (hp : b.pending.length < n) :
    (b.take n).1 = b.pending ∧ (b.take n).2.1 = some (mapEOF b.t.term) ∧
    (b.take n).2.2.pending = [] ∧ WF (b.take n).2.2 ∧ Same b (b.take n).2.2 := by
  have := take_law b h n hn
  rwa [if_neg (by omega), List.take_of_length_le (by omega), List.drop_eq_nil_of_le (by omega)] at this

theorem read_law (b : Buf) (h : WF b) (k : Nat) :
    (b.read k).1 ++ (b.read k).2.2.pending = b.pending ∧ (b.read k).1.length ≤ k ∧
    (0 < k → b.pending ≠ [] → (b.read k).1 ≠ []) ∧
    (∀ e, (b.read k).2.1 = some e → (b.read k).2.2.pending = [] ∧ e = b.t.term) ∧
    (b.pending = [] → (b.read k).2.1 = some b.t.term) ∧
    WF (b.read k).2.2 ∧ Same b (b.read k).2.2 := by
  have hpn := tpending_nil_iff b.t h.chunks
  unfold Buf.read
  split
  next hemp =>
    have hbuf : b.buf = [] := by simpa using hemp
    have hpend : b.pending = b.t.pending := by simp [Buf.pending, hbuf]
    split
    next e he =>
      obtain ⟨l1, l2⟩ := h.latched e he
      have hp0 : b.t.pending = [] := hpn.mpr l1
      refine ⟨?_, ?_, ?_, ?_, ?_, ⟨h.size_pos, h.len_le, h.chunks, ?_⟩, Same.refl b⟩
      · simp [Buf.pending, hbuf, hp0]
      · simp
      · intro _ hne; rw [hpend, hp0] at hne; exact absurd rfl hne
      · intro e' he'
        simp at he'
        exact ⟨by simp [Buf.pending, hbuf, hp0], by rw [← he', l2]⟩
      · intro _; simp [l2]
      · intro e' he'; simp at he'
    next he =>
      split
      next hks =>
        have hk : 0 < k := Nat.lt_of_lt_of_le h.size_pos hks
        obtain ⟨h1, h2, h3, h4, h5, h6, h7, h8⟩ := tread_spec b.t k hk h.chunks
        refine ⟨?_, h2, ?_, ?_, ?_, ⟨h.size_pos, h.len_le, h6, ?_⟩, ⟨rfl, h7, h8⟩⟩
        · simp only [Buf.pending, hbuf, List.nil_append]; exact h1
        · intro _ hne; rw [hpend] at hne
          exact h3 (fun hc => hne (hpn.mpr hc))
        · intro e' he'
          obtain ⟨a1, a2⟩ := h4 e' he'
          refine ⟨?_, a2⟩
          simp only [Buf.pending, hbuf, List.nil_append, TSrc.pending, a1, List.flatten_nil]
        · intro hp; rw [hpend] at hp
          exact (h5 (hpn.mp hp)).1
        · intro e' he'; simp only [he] at he'; exact absurd he' (by simp)
      next hks =>
        obtain ⟨h1, h2, h3, h4, h5, h6, h7, h8⟩ := tread_spec b.t b.size h.size_pos h.chunks
        simp only []
        split
        next hbs =>
          have hbs' : (b.t.read b.size).1 = [] := by simpa using hbs
          have hch : b.t.chunks = [] := by
            by_cases hc : b.t.chunks = []
            · exact hc
            · exact absurd hbs' (h3 hc)
          obtain ⟨c1, c2, c3⟩ := h5 hch
          have hp0 : b.t.pending = [] := hpn.mpr hch
          refine ⟨?_, ?_, ?_, ?_, ?_, ⟨h.size_pos, h.len_le, h6, ?_⟩, ⟨rfl, h7, h8⟩⟩
          · simp only [Buf.pending, hbuf, List.nil_append, c3]
          · simp
          · intro _ hne; rw [hpend, hp0] at hne; exact absurd rfl hne
          · intro e' he'
            obtain ⟨a1, a2⟩ := h4 e' he'
            refine ⟨?_, a2⟩
            simp only [Buf.pending, hbuf, List.nil_append, c3, hp0]
          · intro _; exact c1
          · intro e' he'; simp only [he] at he'; exact absurd he' (by simp)
        next hbs =>
          have hbs' : (b.t.read b.size).1 ≠ [] := by simpa using hbs
          refine ⟨?_, ?_, ?_, ?_, ?_, ⟨h.size_pos, ?_, h6, ?_⟩, ⟨rfl, h7, h8⟩⟩
          · simp only [Buf.pending]
            rw [← List.append_assoc, List.take_append_drop, hbuf, List.nil_append, h1]
          · simp only [List.length_take]; omega
          · intro hk _ hc
            have := congrArg List.length hc
            rw [List.length_take, List.length_nil] at this
            have : 0 < (b.t.read b.size).1.length := List.length_pos_iff.mpr hbs'
            omega
          · intro e' he'; exact absurd he' (by simp)
          · intro hp; rw [hpend] at hp
            exact absurd (h5 (hpn.mp hp)).2.1 hbs'
          · simp only [List.length_drop]; omega
          · intro e' he'
            obtain ⟨a1, a2⟩ := h4 e' he'
            exact ⟨a1, by rw [a2, h7]⟩
  next hemp =>
    have hbuf : b.buf ≠ [] := by simpa using hemp
    have hpos : 0 < b.buf.length := List.length_pos_iff.mpr hbuf
    refine ⟨?_, ?_, ?_, ?_, ?_, ⟨h.size_pos, ?_, h.chunks, h.latched⟩, Same.refl b⟩
    · simp only [Buf.pending]
      rw [← List.append_assoc, List.take_append_drop]
    · simp only [List.length_take]; omega
    · intro hk _ hc
      have := congrArg List.length hc
      rw [List.length_take, List.length_nil] at this
      omega
    · intro e' he'; exact absurd he' (by simp)
    · intro hp
      simp [Buf.pending] at hp
      exact absurd hp.1 hbuf
    · have := h.len_le
      simp only [List.length_drop]; omega

theorem read_spec (b : Buf) (h : WF b) (k : Nat) (hk : 0 < k) :
    (b.read k).1 ++ (b.read k).2.2.pending = b.pending ∧ (b.read k).1.length ≤ k ∧
    (b.pending ≠ [] → (b.read k).1 ≠ []) ∧
    (∀ e, (b.read k).2.1 = some e → (b.read k).2.2.pending = [] ∧ e = b.t.term) ∧
    (b.pending = [] → (b.read k).2.1 = some b.t.term) ∧
    WF (b.read k).2.2 ∧ Same b (b.read k).2.2 := by
  obtain ⟨r1, r2, r3, r⟩ := read_law b h k
  exact ⟨r1, r2, r3 hk, r⟩

theorem skipLoop_law (fuel : Nat) : ∀ (b : Buf) (n : Nat), WF b → n < fuel →
    (b.skipLoop fuel n).1 = (if n ≤ b.pending.length then none else some b.t.term) ∧
    (b.skipLoop fuel n).2.pending = b.pending.drop n ∧
    WF (b.skipLoop fuel n).2 ∧ Same b (b.skipLoop fuel n).2 := by
  induction fuel with
  | zero => intro b n _ hn; omega
  | succ f ih =>
    intro b n h hf
    unfold Buf.skipLoop
    split
    next hn0 => subst hn0; exact ⟨by simp, by simp, h, Same.refl b⟩
    next hn0 =>
      obtain ⟨r1, r2, r3, r4, r5, r6, r7⟩ := read_spec b h (min 8192 n) (by omega)
      generalize b.read (min 8192 n) = r at r1 r2 r3 r4 r5 r6 r7
      obtain ⟨bs, e, b'⟩ := r
      simp only [] at r1 r2 r3 r4 r5 r6 r7 ⊢
      have hlen : bs.length + b'.pending.length = b.pending.length := by
        rw [← r1, List.length_append]
      -- an error ends the stream: everything pending was read, which was at most `n` bytes
      have herr : ∀ e', e = some e' →
          (if n - bs.length = 0 then none else some e') = (if n ≤ b.pending.length then none else some b.t.term) ∧
            b'.pending = List.drop n b.pending := by
        intro e' he'
        obtain ⟨a1, a2⟩ := r4 e' he'
        rw [a1, List.length_nil] at hlen
        refine ⟨?_, ?_⟩
        · rw [a2]
          by_cases hc : n ≤ b.pending.length
          · rw [if_pos hc, if_pos (by omega)]
          · rw [if_neg hc, if_neg (by omega)]
        · rw [a1, List.drop_eq_nil_of_le (by omega)]
      split
      next => exact ⟨(herr _ rfl).1, (herr _ rfl).2, r6, r7⟩
      next e' _ => exact ⟨(herr _ rfl).1, (herr _ rfl).2, r6, r7⟩
      next =>
        have hpne : b.pending ≠ [] := fun hc => absurd (r5 hc) (by simp)
        have hbs : 0 < bs.length := List.length_pos_iff.mpr (r3 hpne)
        rw [if_neg (by simpa using (r3 hpne))]
        obtain ⟨i1, i2, i3, i4⟩ := ih b' (n - bs.length) r6 (by omega)
        refine ⟨?_, ?_, i3, r7.trans i4⟩
        · rw [i1, r7.2.1]
          by_cases hc : n ≤ b.pending.length
          · rw [if_pos hc, if_pos (by omega)]
          · rw [if_neg hc, if_neg (by omega)]
        · rw [i2, ← r1, List.drop_append, List.drop_eq_nil_of_le (by omega : bs.length ≤ n), List.nil_append]

theorem skip_ok (b : Buf) (h : WF b) (n : Nat) (hp : n ≤ b.pending.length) :
    (b.skip n).1 = none ∧ (b.skip n).2.pending = b.pending.drop n ∧ WF (b.skip n).2 ∧ Same b (b.skip n).2 := by
  have := skipLoop_law (n + 1) b n h (by omega)
  rwa [if_pos hp] at this

theorem skip_short (b : Buf) (h : WF b) (n : Nat) (hp : b.pending.length < n) :
    (b.skip n).1 = some b.t.term ∧ (b.skip n).2.pending = [] ∧ WF (b.skip n).2 ∧ Same b (b.skip n).2 := by
  have := skipLoop_law (n + 1) b n h (by omega)
  rwa [if_neg (by omega), List.drop_eq_nil_of_le (by omega)] at this

theorem Same2.upd {b b' : Buf} (h : Same2 b b') {buf : Bytes} {err : Option RErr} :
    Same2 b { b' with buf := buf, err := err } := ⟨h.size, h.term, h.together, h.total⟩

theorem tread_same (t : TSrc) (room : Nat) :
    (t.read room).2.2.term = t.term ∧ (t.read room).2.2.together = t.together := by
  unfold TSrc.read
  split
  · exact ⟨rfl, rfl⟩
  · simp only []
    split
    · split <;> exact ⟨rfl, rfl⟩
    · exact ⟨rfl, rfl⟩

theorem fill_same2 (b : Buf) : Same2 b b.fill :=
  ⟨rfl, (tread_same b.t _).1, (tread_same b.t _).2, rfl⟩

theorem peekLoop_same2 (fuel : Nat) : ∀ (b : Buf) (n : Nat), Same2 b (b.peekLoop fuel n) := by
  induction fuel with
  | zero => intro b n; exact Same2.refl b
  | succ f ih =>
    intro b n
    unfold Buf.peekLoop
    split
    · exact (fill_same2 b).trans (ih _ _)
    · exact Same2.refl b

theorem take_same2 (b : Buf) (n : Nat) : Same2 b (b.take n).2.2 := by
  unfold Buf.take
  simp only []
  split
  · exact (peekLoop_same2 _ _ _).upd
  · split <;> exact (peekLoop_same2 _ _ _).upd

theorem read_same2 (b : Buf) (k : Nat) : Same2 b (b.read k).2.2 := by
  have ht := tread_same b.t
  unfold Buf.read
  split
  · split
    · exact (Same2.refl b).upd
    · split
      · exact ⟨rfl, (ht k).1, (ht k).2, rfl⟩
      · simp only []
        split <;> exact ⟨rfl, (ht b.size).1, (ht b.size).2, rfl⟩
  · exact (Same2.refl b).upd

theorem skipLoop_same2 (fuel : Nat) : ∀ (b : Buf) (n : Nat), Same2 b (b.skipLoop fuel n).2 := by
  induction fuel with
  | zero => intro b n; exact Same2.refl b
  | succ f ih =>
    intro b n
    unfold Buf.skipLoop
    split
    · exact Same2.refl b
    · have ht := read_same2 b (min 8192 n)
      generalize b.read (min 8192 n) = r at ht
      obtain ⟨bs, e, b'⟩ := r
      simp only [] at ht ⊢
      split
      · exact ht
      · exact ht
      · split
        · exact ht
        · exact ht.trans (ih _ _)

theorem skip_same2 (b : Buf) (n : Nat) : Same2 b (b.skip n).2 := skipLoop_same2 _ _ _

theorem tread_err_together (t : TSrc) (room : Nat) :
    ∀ e, (t.read room).2.1 = some e → (t.read room).1 ≠ [] → t.together = true := by
  unfold TSrc.read
  split
  · intro e _ hne; simp at hne
  · simp only []
    split
    · split
      · rename_i hb
        simp only [Bool.and_eq_true] at hb
        intro _ _ _; exact hb.2
      · intro e he; simp at he
    · intro e he; simp at he

theorem read_err_together (b : Buf) (k : Nat) :
    ∀ e, (b.read k).2.1 = some e → (b.read k).1 ≠ [] → b.t.together = true := by
  unfold Buf.read
  split
  · split
    · intro e _ hne; simp at hne
    · split
      · exact tread_err_together b.t k
      · simp only []
        split
        · intro e _ hne; simp at hne
        · intro e he; simp at he
  · intro e he; simp at he


theorem take_exact (b : Buf) (h : WF b) (n : Nat) (hn : n ≤ b.size) (xs ys : Bytes)
    (hp : b.pending = xs ++ ys) (hx : xs.length = n) :
    ∃ b', b.take n = (xs, none, b') ∧ b'.pending = ys ∧ WF b' ∧ Same2 b b' := by
  obtain ⟨t1, t2, t3, t4, t5⟩ := take_ok b h n hn (by rw [hp, List.length_append]; omega)
  have ht := take_same2 b n
  generalize b.take n = r at t1 t2 t3 t4 t5 ht
  obtain ⟨p, e, b'⟩ := r
  simp only [] at t1 t2 t3 t4 t5 ht
  refine ⟨b', ?_, ?_, t4, ht⟩
  · rw [t1, t2, hp, List.take_left' hx]
  · rw [t3, hp, List.drop_left' hx]

theorem mapEOF_ne_eof (e : RErr) : mapEOF e ≠ .eof := by
  unfold mapEOF
  split
  · intro h; cases h
  · assumption

theorem take_append_ge {α : Type} (xs ys : List α) (m : Nat) (h : xs.length ≤ m) :
    (xs ++ ys).take m = xs ++ ys.take (m - xs.length) := by
  rw [List.take_append, List.take_of_length_le h]

/-- Conn.read(n) on a stream that would go on with `xs ++ T` but ends after `m` bytes: `xs` if it is all
    there (and the cut moves on), otherwise an error that is not io.EOF -/
theorem take_cut (b : Buf) (h : WF b) (xs T : Bytes) (m n : Nat) (hx : xs.length = n) (hn : n ≤ b.size)
    (hp : b.pending = (xs ++ T).take m) :
    (xs.length ≤ m ∧ ∃ b', b.take n = (xs, none, b') ∧ b'.pending = T.take (m - xs.length) ∧ WF b' ∧ Same2 b b') ∨
    (m < xs.length ∧ ∃ p e b', b.take n = (p, some e, b') ∧ e ≠ .eof) := by
  by_cases hm : xs.length ≤ m
  · exact Or.inl ⟨hm, take_exact b h n hn xs _ (hp.trans (take_append_ge xs T m hm)) hx⟩
  · obtain ⟨_, t2, _⟩ := take_short b h n hn (by rw [hp, List.length_take]; omega)
    exact Or.inr ⟨Nat.lt_of_not_le hm, (b.take n).1, mapEOF b.t.term, (b.take n).2.2, by rw [← t2], mapEOF_ne_eof _⟩

theorem whole_cut (xs T : Bytes) :
    xs ++ T = (xs ++ T).take (xs.length + T.length) ∧ T.take (xs.length + T.length - xs.length) = T :=
  ⟨by rw [← List.length_append, List.take_length], by rw [Nat.add_sub_cancel_left, List.take_length]⟩

theorem skip_exact (b : Buf) (h : WF b) (n : Nat) (xs ys : Bytes)
    (hp : b.pending = xs ++ ys) (hx : xs.length = n) :
    ∃ b', b.skip n = (none, b') ∧ b'.pending = ys ∧ WF b' ∧ Same2 b b' := by
  obtain ⟨t1, t3, t4, t5⟩ := skip_ok b h n (by rw [hp, List.length_append]; omega)
  have ht := skip_same2 b n
  generalize b.skip n = r at t1 t3 t4 t5 ht
  obtain ⟨e, b'⟩ := r
  simp only [] at t1 t3 t4 t5 ht
  refine ⟨b', ?_, ?_, t4, ht⟩
  · rw [t1]
  · rw [t3, hp, List.drop_left' hx]

/-- `hend`: a `together` transport reports its error with the very last bytes of the stream -/
theorem read_exact (b : Buf) (h : WF b) (k : Nat) (hk : 0 < k) (xs ys : Bytes)
    (hp : b.pending = xs ++ ys) (hx : k ≤ xs.length) (hend : b.t.together = false ∨ ys ≠ []) :
    ∃ bs b', b.read k = (bs, none, b') ∧ bs ≠ [] ∧ bs.length ≤ xs.length ∧ xs = bs ++ xs.drop bs.length ∧
      b'.pending = xs.drop bs.length ++ ys ∧ WF b' ∧ Same2 b b' := by
  obtain ⟨r1, r2, r3, r4, r5, r6, r7⟩ := read_spec b h k hk
  have ht := read_same2 b k
  have hto := read_err_together b k
  generalize b.read k = r at r1 r2 r3 r4 r5 r6 r7 ht hto
  obtain ⟨bs, e, b'⟩ := r
  simp only [] at r1 r2 r3 r4 r5 r6 r7 ht hto
  have hpne : b.pending ≠ [] := by
    intro hc
    have := congrArg List.length hc
    rw [hp, List.length_append, List.length_nil] at this
    omega
  have hbs : bs ≠ [] := r3 hpne
  have hle : bs.length ≤ xs.length := by omega
  have hpre : bs = xs.take bs.length := by
    have h1 : (bs ++ b'.pending).take bs.length = (xs ++ ys).take bs.length := by rw [r1, hp]
    rw [List.take_left' rfl, List.take_append_of_le_length hle] at h1
    exact h1
  have hxs : xs = bs ++ xs.drop bs.length := by
    conv => lhs; rw [← List.take_append_drop bs.length xs]
    rw [← hpre]
  have hpend : b'.pending = xs.drop bs.length ++ ys := by
    have h1 : (bs ++ b'.pending).drop bs.length = (xs ++ ys).drop bs.length := by rw [r1, hp]
    rw [List.drop_left' rfl, List.drop_append_of_le_length hle] at h1
    exact h1
  have he : e = none := by
    cases e with
    | none => rfl
    | some e' =>
      exfalso
      obtain ⟨a1, _⟩ := r4 e' rfl
      have htg := hto e' rfl hbs
      rw [a1] at hpend
      have h2 : ys = [] := by
        have := congrArg List.length hpend
        simp only [List.length_nil, List.length_append] at this
        apply List.eq_nil_of_length_eq_zero; omega
      rcases hend with hend | hend
      · rw [htg] at hend; exact absurd hend (by simp)
      · exact hend h2
  subst he
  exact ⟨bs, b', rfl, hbs, hle, hxs, hpend, r6, ht⟩


structure Prog (b b' : Buf) : Prop where
  wf : WF b'
  len : b'.pending.length ≤ b.pending.length
  same : Same2 b b'

theorem Prog.refl (b : Buf) (h : WF b) : Prog b b := ⟨h, Nat.le_refl _, Same2.refl b⟩

theorem Prog.trans {a b c : Buf} (h1 : Prog a b) (h2 : Prog b c) : Prog a c :=
  ⟨h2.wf, Nat.le_trans h2.len h1.len, h1.same.trans h2.same⟩

theorem Prog.fuel {b b' : Buf} (h : Prog b b') (hf : b.pending.length ≤ b.total) : b'.pending.length ≤ b'.total :=
  Nat.le_trans h.len (Nat.le_trans hf (Nat.le_of_eq h.same.total.symm))

theorem take_prog (b : Buf) (h : WF b) (n : Nat) :
    Prog b (b.take n).2.2 ∧
      ((b.take n).2.1 = none → (b.take n).2.2.pending.length + n ≤ b.pending.length) := by
  by_cases hn : n ≤ b.size
  · obtain ⟨_, t2, t3, t4, t5⟩ := take_law b h n hn
    refine ⟨⟨t4, by rw [t3, List.length_drop]; omega, take_same2 b n⟩, fun he => ?_⟩
    by_cases hp : n ≤ b.pending.length
    · rw [t3, List.length_drop]; omega
    · rw [t2, if_neg hp] at he; cases he
  · -- n exceeds the buffer: ErrBufferFull, the buffered bytes are handed out
    obtain ⟨p1, p2, p3, _⟩ := peekLoop_spec (n + 1) b n h (by omega)
    have hgt : n > (b.peekLoop (n + 1) n).size := by rw [p3.1]; omega
    unfold Buf.take
    simp only []
    rw [if_pos hgt]
    refine ⟨⟨⟨p2.size_pos, Nat.zero_le _, p2.chunks, p2.latched⟩, ?_, (peekLoop_same2 (n + 1) b n).upd⟩, ?_⟩
    · rw [← p1]
      simp only [Buf.pending, List.nil_append, List.length_append]
      omega
    · intro he; cases he

theorem skip_prog (b : Buf) (h : WF b) (n : Nat) : Prog b (b.skip n).2 := by
  obtain ⟨_, t2, t3, t4⟩ := skipLoop_law (n + 1) b n h (by omega)
  exact ⟨t3, by unfold Buf.skip; rw [t2, List.length_drop]; omega, skip_same2 b n⟩

theorem read_prog (b : Buf) (h : WF b) (k : Nat) : Prog b (b.read k).2.2 := by
  obtain ⟨r1, _, _, _, _, r6, r7⟩ := read_law b h k
  refine ⟨r6, ?_, read_same2 b k⟩
  rw [← r1, List.length_append]
  omega

end WS.SrcLaw
