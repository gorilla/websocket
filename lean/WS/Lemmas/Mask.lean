import WS.Model.Mask
/-
  `maskFrom k p` (RFC 6455 §5.3, byte by byte from key offset `p`) over append, take, drop; it is an
  involution and depends on `p` only modulo 4. `xorWords_eq`: XOR with aligned 8-byte key words, the
  inner loop of mask.go, is `maskFrom`.
-/
namespace WS

theorem Key.at_mod (k : Key) (i : Nat) : k.at (i % 4) = k.at i := by
  unfold Key.at; rw [Nat.mod_mod]

theorem Key.at_add4 (k : Key) (i : Nat) : k.at (i + 4) = k.at i := by
  unfold Key.at
  have : (i + 4) % 4 = i % 4 := by omega
  rw [this]

theorem Key.at_add8 (k : Key) (i : Nat) : k.at (i + 8) = k.at i := by
  rw [show i + 8 = (i + 4) + 4 from rfl, Key.at_add4, Key.at_add4]

theorem Key.at_congr (k : Key) {i j : Nat} (h : i % 4 = j % 4) : k.at i = k.at j := by
  unfold Key.at; rw [h]

@[simp] theorem maskFrom_nil (k : Key) (p : Nat) : maskFrom k p [] = [] := rfl

@[simp] theorem maskFrom_length (k : Key) (p : Nat) (bs : Bytes) : (maskFrom k p bs).length = bs.length := by
  induction bs generalizing p with
  | nil => rfl
  | cons b bs ih => simp [maskFrom, ih]

theorem maskFrom_append (k : Key) (p : Nat) (xs ys : Bytes) :
    maskFrom k p (xs ++ ys) = maskFrom k p xs ++ maskFrom k (p + xs.length) ys := by
  induction xs generalizing p with
  | nil => simp
  | cons x xs ih =>
    simp only [List.cons_append, maskFrom, List.length_cons, ih]
    rw [show p + (xs.length + 1) = p + 1 + xs.length by omega]

theorem maskFrom_congr (k : Key) {p q : Nat} (h : p % 4 = q % 4) (bs : Bytes) :
    maskFrom k p bs = maskFrom k q bs := by
  induction bs generalizing p q with
  | nil => rfl
  | cons b bs ih =>
    simp only [maskFrom]
    rw [Key.at_congr k h, ih (p := p + 1) (q := q + 1) (by omega)]

theorem maskFrom_involutive (k : Key) (p : Nat) (bs : Bytes) : maskFrom k p (maskFrom k p bs) = bs := by
  induction bs generalizing p with
  | nil => rfl
  | cons b bs ih => simp [maskFrom, ih, UInt8.xor_assoc]

theorem maskFrom_take (k : Key) (p n : Nat) (bs : Bytes) :
    (maskFrom k p bs).take n = maskFrom k p (bs.take n) := by
  induction bs generalizing p n with
  | nil => simp
  | cons b bs ih =>
    cases n with
    | zero => simp
    | succ n => simp [maskFrom, ih]

theorem maskFrom_drop (k : Key) (p n : Nat) (bs : Bytes) :
    (maskFrom k p bs).drop n = maskFrom k (p + min n bs.length) (bs.drop n) := by
  induction bs generalizing p n with
  | nil => simp
  | cons b bs ih =>
    cases n with
    | zero => simp
    | succ n =>
      simp only [maskFrom, List.drop_succ_cons, List.length_cons, ih]
      congr 1
      omega

theorem zipWith_word (k : Key) (p : Nat) (bs : Bytes) (h : bs.length = 8) :
    List.zipWith (· ^^^ ·) bs ((List.range 8).map (fun i => k.at (p + i))) = maskFrom k p bs := by
  match bs, h with
  | [b0, b1, b2, b3, b4, b5, b6, b7], _ =>
    simp [maskFrom, List.range, List.range.loop]

theorem xorWords_eq (k : Key) (p n : Nat) (bs : Bytes) (h : bs.length = n * 8) :
    xorWords ((List.range 8).map (fun i => k.at (p + i))) n bs = maskFrom k p bs := by
  induction n generalizing bs with
  | zero =>
    have : bs = [] := by
      apply List.eq_nil_of_length_eq_zero; omega
    subst this; rfl
  | succ n ih =>
    have hsplit : bs = bs.take 8 ++ bs.drop 8 := (List.take_append_drop 8 bs).symm
    have htl : (bs.take 8).length = 8 := by simp [List.length_take]; omega
    have hdl : (bs.drop 8).length = n * 8 := by simp [List.length_drop]; omega
    rw [xorWords, zipWith_word k p _ htl, ih _ hdl]
    conv => rhs; rw [hsplit, maskFrom_append, htl]
    congr 1
    exact maskFrom_congr k (by omega) _

end WS
