import WS.Lemmas.ReaderMore
import WS.Lemmas.ZCutAux
import WS.Lemmas.ReaderZ
/-
  C05 for compressed messages (finding F10 as a theorem): whatever compress/flate does with the raw bytes,
  however many it asks for before it reports the end of the deflate stream (e.g. at a BFINAL block long
  before the last frame), a compressed message whose last frame has not arrived is never reported
  complete; and one that has arrived whole is.
-/
namespace WS.ZCut
open WS WS.Codec WS.ReaderDecodes WS.ReaderZ WS.ReaderMore

/-
  Without `htog`, `complete_reads_to_end_partial` below is FALSE (`complete_reads_to_end_counterexample`): when
  bufio passes a raw Read through (request ≥ buffer size, buffer empty) and the transport hands over the last
  payload bytes of the final frame together with io.EOF (io.Reader allows it), `messageReader.Read` returns
  both in the same call: the message is complete, but `c.messageReader = nil` was never executed; io.EOF is
  latched in `readErr` instead.
-/

def cxC : Conn :=
  { w := { isServer := false, wbufLen := 0, pool := false, nego := true },
    r := { isServer := false, nego := true, remaining := 1, final := true, msgReader := some 0, nextId := 1,
           decompress := true,
           buf := { size := 1, t := { chunks := [[7]], term := .eof, together := true }, total := 1 } } }

/-- the decompressor asks once for 4096 bytes and then reports the end of the deflate stream -/
def cxE : ZEnv := ⟨[4096], true, 32768⟩

theorem complete_reads_to_end_counterexample :
    cxC.r.msgReader = some 0 ∧ (∀ k ∈ cxE.reqs, 0 < k) ∧ 0 < cxE.drainK ∧
    (zReadToEnd cxC 0 cxE).1 = ([7], .complete) ∧ (zReadToEnd cxC 0 cxE).2.r.msgReader = some 0 := by
  decide

/-- F10: on a transport that reports its terminal error after the last bytes (`htog`), a message the
    decompressing reader reports complete has been read to its end: the message reader returned io.EOF from
    the branch that detaches it, for every behaviour `env` of the decompressor (any request sizes, including 0) -/
theorem complete_reads_to_end_partial (c : Conn) (rid : Nat) (hrid : c.r.msgReader = some rid)
    (htog : c.r.buf.t.together = false) (env : ZEnv)
    (raw : Bytes) (c' : Conn) (h : zReadToEnd c rid env = ((raw, .complete), c')) :
    c'.r.msgReader = none := by
  rcases WS.ZCutAux.zReadToEnd_class c rid hrid env raw c' h with d | ⟨d, _⟩
  · exact d
  · rw [htog] at d; cases d

/-- the same on any transport -/
theorem complete_reads_to_end_or_latched_partial (c : Conn) (rid : Nat) (hrid : c.r.msgReader = some rid)
    (env : ZEnv) (raw : Bytes) (c' : Conn) (h : zReadToEnd c rid env = ((raw, .complete), c')) :
    c'.r.msgReader = none ∨
    (c.r.buf.t.together = true ∧ c'.r.readErr = some .eof ∧ c'.r.remaining ≤ 0 ∧ c'.r.final = true) := by
  rcases WS.ZCutAux.zReadToEnd_class c rid hrid env raw c' h with d | ⟨d1, _, d3, d4, d5⟩
  · exact Or.inl d
  · exact Or.inr ⟨d1, d3, d4, d5⟩

/-- C05 for compressed messages, for every behaviour `env` of the decompressor: any number of raw read
    requests of positive sizes before it reports the end of the deflate stream or a data error, any positive
    request size of the drain. `hlim` is not used. -/
theorem compressed_cut_never_complete (c : Conn) (hc : ReaderIdle c) (hi : CountInv c) (hn : c.r.nego = true)
    (t : Nat) (ht : t = 1 ∨ t = 2) (f : PFrame) (more : List PFrame) (hs : ZShape t f more)
    (cut : Nat) (hcut : cut < (encZ c.r.isServer f ++ encAll c.r.isServer more).length)
    (hp : c.r.buf.pending = (encZ c.r.isServer f ++ encAll c.r.isServer more).take cut)
    (hsz : (f.payload ++ dataPayload more).length < 2 ^ 62) (hlim : c.r.limit ≤ 0) (env : ZEnv)
    (hreq : ∀ k ∈ env.reqs, 0 < k) (hdr : 0 < env.drainK) :
    (∃ e c1, nextReader c = (.err e, c1)) ∨
    (∃ c1 rid, nextReader c = (.msg t rid true, c1) ∧ ∃ raw e c2, zReadToEnd c1 rid env = ((raw, .failed e), c2)) := by
  obtain ⟨rfl, hlen, _, _⟩ := hs.split
  rw [List.length_append] at hsz
  have hl0 : WS.CutLoopsL.LenOv (WS.RobustAux.c0 c) (f.payload.length + (dataPayload more).length) := by
    show (0 : Int) + ((f.payload.length + (dataPayload more).length : Nat) : Int) < 9223372036854775808
    omega
  have htb : (f.op == 1 || f.op == 2) = true := by rcases ht with h | h <;> rw [h] <;> rfl
  rw [← encz_true] at hp hcut
  rcases WS.CutLoops.cadv_data c.r.isServer (WS.RobustAux.c0 c) true f more cut (.ofIdle hc)
    (fun _ => hn) rfl hc.noErr hc.rem hp hcut hs.split (Or.inr ⟨ht, hc.fin⟩) (Int.le_refl 0) _ hl0 with
    ⟨e, c', a1, _⟩ | ⟨c', m', a1, a2, _, a6, a7, _⟩
  · left
    exact ⟨_, _, WS.RobustAux.nextReader_of_err c c' e hc.noErr (hi hc.noErr) a1⟩
  · right
    have hnr := WS.RobustAux.nextReader_of_msg c c' f.op hc.noErr a1 htb
    rw [a6] at hnr
    exact ⟨_, _, hnr, WS.ZCutLoops.zReadToEnd_cut c.r.isServer c'.r.nextId env hreq hdr _ _ more m'
      (a2.congr rfl rfl rfl rfl rfl rfl rfl a2.len0) rfl a7⟩

/-- the counterpart: the message arrived whole and the decompressor accepts it (`true`), however early
    it reports the end of the deflate stream; `raw` is what it was given -/
theorem compressed_whole_complete (c : Conn) (hc : ReaderIdle c) (hn : c.r.nego = true)
    (t : Nat) (ht : t = 1 ∨ t = 2) (f : PFrame) (more : List PFrame) (hs : ZShape t f more) (rest : Bytes)
    (hp : c.r.buf.pending = encZ c.r.isServer f ++ encAll c.r.isServer more ++ rest)
    (hend : c.r.buf.t.together = false ∨ rest ≠ [])
    (hsz : (f.payload ++ dataPayload more).length < 2 ^ 62) (hlim : c.r.limit ≤ 0)
    (reqs : List Nat) (drainK : Nat) (hreq : ∀ k ∈ reqs, 0 < k) (hdr : 0 < drainK) :
    ∃ c1 rid, nextReader c = (.msg t rid true, c1) ∧
      ∃ raw c2, zReadToEnd c1 rid ⟨reqs, true, drainK⟩ = ((raw, .complete), c2) ∧
        raw <+: f.payload ++ dataPayload more ∧ ReaderIdle c2 ∧ c2.r.buf.pending = rest := by
  obtain ⟨c1, rid, h1, ho, h5, _⟩ := nextReader_z c hc hn t ht f more hs rest hp hend hsz (Or.inl hlim)
  refine ⟨c1, rid, h1, ?_⟩
  rcases zFills_spec c.r.isServer rid rest reqs hreq c1 _ more [] ho with
    ⟨out, c2, w2, m2, z1, ho2, z5, _⟩ | ⟨c2, z1, z2, z3, _⟩
  · obtain ⟨c3, d1, d2, d3, _⟩ := readAll_spec c.r.isServer rid drainK hdr rest c2 w2 m2 ho2
    refine ⟨out, c3, ?_, ?_, d2, d3⟩
    · unfold zReadToEnd
      simp only []
      rw [z1]
      simp only [Bool.not_true, Bool.false_eq_true, if_false]
      rw [d1]
      simp
    · rw [h5] at z5
      exact ⟨_, z5.symm⟩
  · obtain ⟨i1, i2⟩ := z2.idle z3
    refine ⟨f.payload ++ dataPayload more, c2, ?_, List.prefix_refl _, i1, i2⟩
    unfold zReadToEnd
    simp only []
    rw [z1, h5]
    simp

end WS.ZCut
