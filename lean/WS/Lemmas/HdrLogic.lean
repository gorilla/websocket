import WS.Model.Reader
/-
  Decision logic of the reader's header check and close-code table (C04 / C08).
-/
namespace WS.HdrLogic
open WS

/-- RFC 6455 framing violations visible in the first two header bytes, as listed by property C04:
    reserved bits (RSV1 counts as reserved iff permessage-deflate was not negotiated), reserved
    opcodes, fragmented or oversized control frames, a continuation with no message in progress,
    a new data frame inside an unfinished message, wrong masking for the role. -/
def Violates (readerIsServer nego inMsg : Bool) (h : Hdr) : Prop :=
  h.rsv2 = true ∨ h.rsv3 = true ∨ (h.rsv1 = true ∧ nego = false) ∨
  (3 ≤ h.opcode ∧ h.opcode ≤ 7) ∨ 11 ≤ h.opcode ∨
  ((h.opcode = 8 ∨ h.opcode = 9 ∨ h.opcode = 10) ∧ (h.fin = false ∨ 125 < h.len7)) ∨
  (h.opcode = 0 ∧ inMsg = false) ∨ ((h.opcode = 1 ∨ h.opcode = 2) ∧ inMsg = true) ∨
  h.mask ≠ readerIsServer

private theorem ite_single_nil {α} (c : Prop) [Decidable c] (x : α) : (if c then [x] else []) = [] ↔ ¬ c := by
  split <;> simp [*]

/-- an opcode lies in exactly one of four classes (control, text / binary, continuation, reserved); in each
    class the other classes' disjuncts of `Violates` are dead -/
private theorem opcodeErrs_nil_iff (op l7 : Nat) (fin final : Bool) :
  ((if op == 8 || op == 9 || op == 10 then
     (if l7 > 125 then ["len > 125 for control"] else []) ++
     (if !fin then ["FIN not set on control"] else [])
   else if op == 1 || op == 2 then
     (if !final then ["data before FIN"] else [])
   else if op == 0 then
     (if final then ["continuation after FIN"] else [])
   else ["bad opcode " ++ toString op]) = []) ↔
   ¬ (3 ≤ op ∧ op ≤ 7) ∧ ¬ 11 ≤ op ∧
  ¬ ((op = 8 ∨ op = 9 ∨ op = 10) ∧ (fin = false ∨ 125 < l7)) ∧
  ¬ (op = 0 ∧ (!final) = false) ∧ ¬ ((op = 1 ∨ op = 2) ∧ (!final) = true) := by
  simp only [Bool.or_eq_true, beq_iff_eq, or_assoc]
  split
  · rename_i h
    have e1 : ¬ (3 ≤ op ∧ op ≤ 7) := by omega
    have e2 : ¬ 11 ≤ op := by omega
    have e4 : ¬ op = 0 := by omega
    have e5 : ¬ (op = 1 ∨ op = 2) := by omega
    simp only [List.append_eq_nil_iff, ite_single_nil, e1, e2, e4, e5, h, true_and, false_and, not_false_eq_true,
      and_true, not_or, Bool.not_eq_true', gt_iff_lt]
    exact And.comm
  · split
    · rename_i h h2
      have e1 : ¬ (3 ≤ op ∧ op ≤ 7) := by omega
      have e2 : ¬ 11 ≤ op := by omega
      have e4 : ¬ op = 0 := by omega
      simp only [ite_single_nil, e1, e2, e4, h, h2, true_and, false_and, not_false_eq_true]
    · split
      · rename_i h3
        subst h3
        simp
      · have e : (3 ≤ op ∧ op ≤ 7) ∨ 11 ≤ op := by omega
        exact ⟨fun hn => (nomatch hn), fun ⟨a, b, _⟩ => (e.elim a b).elim⟩

/-- the model's header check (which mirrors advanceFrame's list of checks) reports an error exactly
    for the violations; `final` is the reader's readFinal, i.e. "no message in progress" -/
theorem headerErrors_nil_iff (isServer nego final : Bool) (h : Hdr) :
    headerErrors isServer nego final h = [] ↔ ¬ Violates isServer nego (!final) h := by
  have hm : maxControlPayload = 125 := by decide
  unfold headerErrors Violates
  -- each check contributes `[]` iff its condition fails; what is left is the same conjunction in another order
  simp only [hm, List.append_eq_nil_iff, opcodeErrs_nil_iff, ite_single_nil]
  simp only [not_or, and_assoc, Bool.and_eq_true, Bool.not_eq_true', bne_iff_ne]
  exact ⟨fun ⟨c, a, b, d⟩ => ⟨a, b, c, d⟩, fun ⟨a, b, c, d⟩ => ⟨c, a, b, d⟩⟩

theorem parseHdr_bounds (b0 b1 : UInt8) : (parseHdr b0 b1).opcode < 16 ∧ (parseHdr b0 b1).len7 < 128 := by
  unfold parseHdr
  simp only
  omega

/-- the accepted close codes are exactly RFC 6455 §7.4.1 / IANA: 1000–1003, 1007–1013, 3000–4999 -/
theorem closecode_spec (c : Nat) :
    isValidReceivedCloseCode c = true ↔
      ((1000 ≤ c ∧ c ≤ 1003) ∨ (1007 ≤ c ∧ c ≤ 1013) ∨ (3000 ≤ c ∧ c ≤ 4999)) := by
  unfold isValidReceivedCloseCode Gen.validReceivedCloseCodes Gen.closeCodeRangeLo Gen.closeCodeRangeHi
  simp
  omega

/-- the 1002 close payload never exceeds a control frame: handleProtocolError truncates to 125 -/
theorem protocolError_payload_le (c : Conn) (msg : String) :
    ((closePayload 1002 (strBytes msg)).take maxControlPayload).length ≤ 125 := by
  rw [List.length_take]
  have hm : maxControlPayload = 125 := by decide
  omega

end WS.HdrLogic
