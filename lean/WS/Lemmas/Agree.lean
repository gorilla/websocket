import WS.Lemmas.HttpLogic
import WS.Lemmas.RequestLogic
/-
  C15, first sentence, over the two handshake models composed: a Dialer and an Upgrader always agree on whether
  compression is in use, and it is in use exactly when both enabled it. The carrier net/http is environment:
  `reqOf` says the server sees the client's header fields under canonical names (http.ReadRequest), `replyOf`
  the same for the client and the 101 (http.ReadResponse); `replyOf_renders` ties `replyOf` to the bytes
  `response101` produces.
-/
namespace WS.Agree
open WS WS.Http WS.Server WS.Client WS.RequestLogic

/-- http.ReadRequest: the header fields the client wrote, under canonical names; method GET -/
def reqOf (host : Bytes) (h : Client.Hdr) : Req :=
  { method := strBytes "GET", host := host, hdr := h.map (fun p => (canonicalKey p.1, p.2)) }

/-- http.ReadResponse of the 101 the Upgrader wrote (no application response header): status and header
    fields under canonical names -/
def replyOf (a : Accepted) (accept : Bytes) : Reply :=
  { status := 101,
    hdr := [(strBytes "Upgrade", [strBytes "websocket"]), (strBytes "Connection", [strBytes "Upgrade"]),
            (strBytes "Sec-Websocket-Accept", [accept])] ++
           (if a.subprotocol.isEmpty then [] else [(strBytes "Sec-Websocket-Protocol", [scrub a.subprotocol])]) ++
           (if a.compress then [(strBytes "Sec-Websocket-Extensions",
              [strBytes "permessage-deflate; server_no_context_takeover; client_no_context_takeover"])] else []) }

/-- what the server sees of that request -/
def srvHdr (d : DCfg) (key : Bytes) : List (Bytes × List Bytes) :=
  [(strBytes "Upgrade", [strBytes "websocket"]), (strBytes "Connection", [strBytes "Upgrade"]),
   (strBytes "Sec-Websocket-Key", [key]), (strBytes "Sec-Websocket-Version", [strBytes "13"])] ++
  (if d.subprotocols.isEmpty then [] else [(strBytes "Sec-Websocket-Protocol", [joinCommaSp d.subprotocols])]) ++
  (if d.enableCompression then [(strBytes "Sec-Websocket-Extensions", [offerLit])] else [])

theorem canon_wireNames : wireNames.map canonicalKey =
    [strBytes "Upgrade", strBytes "Connection", strBytes "Sec-Websocket-Key", strBytes "Sec-Websocket-Version",
     strBytes "Sec-Websocket-Protocol", strBytes "Sec-Websocket-Extensions"] := by
  unfold wireNames
  repeat rw [strBytes_ofList]
  decide +kernel

def canonNames : List Bytes :=
  [strBytes "Upgrade", strBytes "Connection", strBytes "Sec-Websocket-Key", strBytes "Sec-Websocket-Version",
   strBytes "Sec-Websocket-Accept", strBytes "Sec-Websocket-Protocol", strBytes "Sec-Websocket-Extensions", strBytes "Origin"]

theorem canonNames_ne : canonNames.Pairwise (fun a b => (a == b) = false) := by decide +kernel

structure SrvView (d : DCfg) (key : Bytes) (r : Req) : Prop where
  method : r.method = strBytes "GET"
  conn : r.values "Connection" = [strBytes "Upgrade"]
  upg : r.values "Upgrade" = [strBytes "websocket"]
  ver : r.values "Sec-Websocket-Version" = [strBytes "13"]
  key : r.get "Sec-Websocket-Key" = key
  origin : r.values "Origin" = []
  ext : r.values "Sec-Websocket-Extensions" = if d.enableCompression then [offerLit] else []

/- `srvView`, `cliView`: lookups by name in a short header list; all that is used is that the names are pairwise
   different (`canonNames_ne`), in each of the four shapes the two optional entries give the list. -/
theorem srvView (d : DCfg) (key host : Bytes) : SrvView d key { method := strBytes "GET", host := host, hdr := srvHdr d key } := by
  have ne := canonNames_ne
  simp only [canonNames, List.pairwise_cons, List.mem_cons, List.not_mem_nil, or_false, forall_eq_or_imp, forall_eq] at ne
  constructor
  · rfl
  all_goals
    simp only [srvHdr, Req.get, Req.values]
    cases d.subprotocols.isEmpty <;> cases d.enableCompression <;> simp [ne]

structure CliView (a : Accepted) (accept : Bytes) (r : Reply) : Prop where
  status : r.status = 101
  conn : r.values "Connection" = [strBytes "Upgrade"]
  upg : r.values "Upgrade" = [strBytes "websocket"]
  acc : r.get "Sec-Websocket-Accept" = accept
  ext : r.values "Sec-Websocket-Extensions" = if a.compress then [offerLit] else []

theorem cliView (a : Accepted) (accept : Bytes) : CliView a accept (replyOf a accept) := by
  have ne := canonNames_ne
  simp only [canonNames, List.pairwise_cons, List.mem_cons, List.not_mem_nil, or_false, forall_eq_or_imp, forall_eq] at ne
  constructor
  · rfl
  all_goals
    simp only [replyOf, Reply.get, Reply.values, offerLit]
    cases a.subprotocol.isEmpty <;> cases a.compress <;> simp [ne]

theorem reqOf_eq (d : DCfg) (url : Url) (key host : Bytes) (h : Client.Hdr)
    (hb : buildRequest d url key [] = .ok (host, h)) :
    reqOf host h = { method := strBytes "GET", host := host, hdr := srvHdr d key } := by
  obtain ⟨_, rfl⟩ := buildRequest_ok d url key [] host h hb
  -- `Hdr.set` appends, the names being new (`wireNames_ne`); then every name is canonicalised (`canon_wireNames`)
  have ne := wireNames_ne
  simp only [wireNames, List.pairwise_cons, List.mem_cons, List.not_mem_nil, or_false, forall_eq_or_imp, forall_eq] at ne
  have c := canon_wireNames
  simp only [wireNames, List.map_cons, List.map_nil, List.cons.injEq, and_true] at c
  unfold reqOf finalHdr baseHdr srvHdr
  simp only [List.foldl_nil]
  cases d.subprotocols.isEmpty <;> cases d.enableCompression <;> simp [Client.Hdr.set, ne, c]

theorem srvView_reqOf {d : DCfg} {url : Url} {key host : Bytes} {h : Client.Hdr}
    (hb : buildRequest d url key [] = .ok (host, h)) : SrvView d key (reqOf host h) :=
  reqOf_eq d url key host h hb ▸ srvView d key host

theorem parse_nil : parseExtensions [] = [] := rfl

theorem acceptKey_no_cr (g k : Bytes) : ∀ b ∈ Spec.acceptKey g k, b ≠ 13 := by
  intro b hb
  exact (HttpLogic.base64_no_crlf _ b hb).1

theorem dropLast2 {α} (l : List α) (x y : α) : (l ++ [x, y]).dropLast.dropLast = l := by
  have : l ++ [x, y] = (l ++ [x]) ++ [y] := by simp
  rw [this, List.dropLast_concat, List.dropLast_concat]

/-- `replyOf` is what the 101 bytes say: `names` are the wire spellings of its keys -/
theorem replyOf_renders (u : UCfg) (r : Req) (oh : Option Bytes) (hj : Hijack) (bytes : Bytes) (a : Accepted)
    (hu : upgrade u r none oh hj = .ok (bytes, a)) :
    ∃ names : List Bytes,
      names.map canonicalKey = (replyOf a (Spec.acceptKey Gen.keyGUID (r.get "Sec-Websocket-Key"))).hdr.map (·.1) ∧
      a.lines = strBytes "HTTP/1.1 101 Switching Protocols" ::
        (names.zip (replyOf a (Spec.acceptKey Gen.keyGUID (r.get "Sec-Websocket-Key"))).hdr).map
          (fun p => p.1 ++ strBytes ": " ++ p.2.2.headD []) := by
  have c := canon_wireNames
  simp only [wireNames, List.map_cons, List.map_nil, List.cons.injEq, and_true] at c
  have c3 : canonicalKey (strBytes "Sec-WebSocket-Accept") = strBytes "Sec-Websocket-Accept" := by decide +kernel
  have l1 : strBytes "Upgrade" ++ (strBytes ": " ++ strBytes "websocket") = strBytes "Upgrade: websocket" := by decide +kernel
  have l2 : strBytes "Connection" ++ (strBytes ": " ++ strBytes "Upgrade") = strBytes "Connection: Upgrade" := by decide +kernel
  have l3 : ∀ x : Bytes, strBytes "Sec-WebSocket-Accept" ++ (strBytes ": " ++ x) = strBytes "Sec-WebSocket-Accept: " ++ x := by
    intro x
    have : strBytes "Sec-WebSocket-Accept" ++ strBytes ": " = strBytes "Sec-WebSocket-Accept: " := by decide +kernel
    rw [← List.append_assoc, this]
  have l5 : ∀ x : Bytes, strBytes "Sec-WebSocket-Protocol" ++ (strBytes ": " ++ x) = strBytes "Sec-WebSocket-Protocol: " ++ x := by
    intro x
    have : strBytes "Sec-WebSocket-Protocol" ++ strBytes ": " = strBytes "Sec-WebSocket-Protocol: " := by decide +kernel
    rw [← List.append_assoc, this]
  have l6 : strBytes "Sec-WebSocket-Extensions" ++ (strBytes ": " ++ offerLit) =
      strBytes "Sec-WebSocket-Extensions: permessage-deflate; server_no_context_takeover; client_no_context_takeover" := by
    rw [offerLit]
    repeat rw [strBytes_ofList]
    decide +kernel
  rw [offerLit] at l6
  refine ⟨[strBytes "Upgrade", strBytes "Connection", strBytes "Sec-WebSocket-Accept"] ++
      (if a.subprotocol.isEmpty then [] else [strBytes "Sec-WebSocket-Protocol"]) ++
      (if a.compress then [strBytes "Sec-WebSocket-Extensions"] else []), ?_, ?_⟩
  · simp only [replyOf]
    cases a.subprotocol.isEmpty <;> cases a.compress <;> simp [c, c3]
  · rw [HttpLogic.upgrade_lines u r none oh hj bytes a hu, response101_lines _ _ _ (acceptKey_no_cr _ _), dropLast2]
    simp only [replyOf]
    cases a.subprotocol.isEmpty <;> cases a.compress <;> simp [l1, l2, l3, l5, l6]

/-- C15 both_or_neither, for the Dialer's request without caller headers -/
theorem both_or_neither (d : DCfg) (u : UCfg) (url : Url) (key host : Bytes) (h : Client.Hdr)
    (oh : Option Bytes) (hj : Hijack) (bytes : Bytes) (a : Accepted)
    (hb : buildRequest d url key [] = .ok (host, h))
    (hu : upgrade u (reqOf host h) none oh hj = .ok (bytes, a)) :
    a.compress = (d.enableCompression && u.enableCompression) ∧
    ∃ dl, checkReply key (replyOf a (Spec.acceptKey Gen.keyGUID key)) = .ok dl ∧ dl.compress = a.compress := by
  have hv := srvView_reqOf hb
  have hc := HttpLogic.deflate_announced_iff u _ _ _ _ _ _ hu
  rw [hv.ext] at hc
  have hcv := cliView a (Spec.acceptKey Gen.keyGUID key)
  have hok : ∃ dl, checkReply key (replyOf a (Spec.acceptKey Gen.keyGUID key)) = .ok dl := by
    refine ⟨_, (HttpLogic.checkReply_eq_ok ..).mpr ⟨?_, ?_, rfl⟩⟩
    · rw [hcv.upg, hcv.conn, hcv.acc]
      exact ⟨hcv.status, by decide +kernel, by decide +kernel, rfl⟩
    rw [hcv.ext]
    cases a.compress
    · intro e he
      simp [parse_nil] at he
    · simp only [if_true, offerLit]
      have := HttpLogic.announce_literal_accepted
      intro e he
      rw [he] at this
      simpa using this
  obtain ⟨dl, hdl⟩ := hok
  refine ⟨?_, dl, hdl, ?_⟩
  · rw [hc]
    cases d.enableCompression
    · simp [parse_nil]
    · simp only [if_true, offerLit, HttpLogic.offer_literal_negotiates]
      simp
  · rw [HttpLogic.client_any_reply key _ dl hdl, hcv.ext]
    cases a.compress
    · simp [parse_nil]
    · simp only [if_true, offerLit, HttpLogic.offer_literal_negotiates]

/-- the hypotheses of `both_or_neither` can be met; `hco`: the default origin policy accepts because the Dialer
    sends no Origin header -/
theorem handshake_succeeds (d : DCfg) (u : UCfg) (url : Url) (key : Bytes) (oh : Option Bytes) (hj : Hijack)
    (hs : url.scheme = strBytes "ws" ∨ url.scheme = strBytes "wss") (hnu : url.hasUser = false)
    (hk : isValidChallengeKey key = true) (hjok : hj.ok = true) (hco : u.checkOrigin = none ∨ u.checkOrigin = some true) :
    ∃ host h bytes a, buildRequest d url key [] = .ok (host, h) ∧ upgrade u (reqOf host h) none oh hj = .ok (bytes, a) := by
  have hb := buildRequest_nil_ok d url key hs hnu
  have hv := srvView_reqOf hb
  have hok : ∃ p, upgrade u (reqOf url.host (finalHdr d key [])) none oh hj = .ok p := by
    refine ⟨_, (HttpLogic.upgrade_eq_ok ..).mpr ⟨(HttpLogic.refusal_eq_none ..).mpr ?_, hjok, rfl⟩⟩
    rw [hv.conn, hv.upg, hv.ver, hv.key]
    refine ⟨by decide +kernel, by decide +kernel, hv.method, by decide +kernel, rfl, ?_, hk⟩
    rcases hco with h | h <;> rw [h]
    · simp only
      rw [HttpLogic.same_origin_iff]
      exact Or.inl hv.origin
  obtain ⟨⟨bytes, a⟩, hp⟩ := hok
  exact ⟨_, _, bytes, a, hb, hp⟩

/-- `both_or_neither` applied to a handshake that went through (what `handshake_succeeds` returns): both ends end up
    with the value `c` of `d.enableCompression && u.enableCompression` -/
theorem agreed_of_handshake {d : DCfg} {u : UCfg} {url : Url} {key : Bytes} {oh : Option Bytes} {hj : Hijack} {c : Bool}
    (hs : ∃ host h bytes a, buildRequest d url key [] = .ok (host, h) ∧ upgrade u (reqOf host h) none oh hj = .ok (bytes, a))
    (hc : (d.enableCompression && u.enableCompression) = c) :
    ∃ host h bytes a, buildRequest d url key [] = .ok (host, h) ∧
      upgrade u (reqOf host h) none oh hj = .ok (bytes, a) ∧ a.compress = c ∧
      ∃ dl, checkReply key (replyOf a (Spec.acceptKey Gen.keyGUID key)) = .ok dl ∧ dl.compress = c := by
  obtain ⟨host, h, bytes, a, hb, hu⟩ := hs
  obtain ⟨ha, dl, hdl, hdc⟩ := both_or_neither d u url key host h oh hj bytes a hb hu
  exact ⟨host, h, bytes, a, hb, hu, ha.trans hc, dl, hdl, hdc.trans (ha.trans hc)⟩

end WS.Agree
