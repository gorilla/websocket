import WS.Lemmas.Content
/-
  C01 / C02 / C15 (write side, negotiated compression): a compressed data message puts on the wire
  exactly one message with RSV1 on its first frame whose payload is the deflate stream minus its
  4-byte tail, however compress/flate chunks its output and whatever the buffer size is.
  compress/flate is an environment: `dn*` are the chunks it pushed (through truncWriter) into the
  message writer during each call, `full` the complete deflate stream (ending in 00 00 ff ff) as an
  independent deflater produced it. The model refuses inconsistent answers (deflateMismatch).
-/
namespace WS.CompressedWrite
open WS WS.Codec WS.Content

/-- `IdleG` (Content.lean), `nego` and `enabled` -/
structure IdleZ (s : W) : Prop where
  healthy : s.writeErr = none
  noFaults : s.faults = []
  noWriter : s.writer = none
  dead : ∀ m ∈ s.mws, m.err.isSome
  size : maxFrameHeaderSize < s.wbufLen ∧ s.wbufLen < 2 ^ 40
  whole : ∃ fs, Spec.decodeStream s.wire = some fs ∧ Spec.endsInMsg false fs = false
  nego : s.nego = true
  enabled : s.enableWC = true

/-- NextWriter(t); Write(p_i) with flate pushing chunks dn_i; Close with flate's flush chunks dnC -/
def zOps (s : W) (t : Nat) (writes : List (Bytes × List Bytes)) (dnC : List Bytes) (full : Bytes) : List Op :=
  [.nextWriter t [] []] ++ writes.map (fun w => Op.write (nextHandle s) w.1 w.2 false) ++ [.close (nextHandle s) dnC full]

/-- everything flate pushed downstream during the message -/
def pushed (writes : List (Bytes × List Bytes)) (dnC : List Bytes) : Bytes :=
  (writes.map (fun w => w.2.flatten)).flatten ++ dnC.flatten


section Helpers
open WS.Stream WS.Flow WS.ZFlow

theorem IdleZ.toG {s : W} (hi : IdleZ s) : IdleG s :=
  ⟨hi.healthy, hi.noFaults, hi.noWriter, hi.dead, hi.size, hi.whole⟩

theorem IdleG.toIdleZ {s : W} (hi : IdleG s) (hn : s.nego = true) (he : s.enableWC = true) :
    IdleZ s :=
  ⟨hi.healthy, hi.noFaults, hi.noWriter, hi.dead, hi.size, hi.whole, hn, he⟩

theorem isData_t (t : Nat) (ht : t = 1 ∨ t = 2) : isData (t : Int) = true := by
  rcases ht with rfl | rfl <;> decide

/-- invariant while a compressed message is being written through flate handle `h` -/
structure MidF (s : W) (h : Nat) (t : Nat) (M : List Spec.Msg) (C : List (Nat × Bytes)) (acc : Bytes) : Prop where
  nego : s.nego = true
  enabled : s.enableWC = true
  mw : ∃ pre m, s.mws = pre ++ [m] ∧ (∀ x ∈ pre, x.err.isSome) ∧
    s.handles[h]? = some (.flate pre.length true none acc) ∧ MidZ s m t true M C acc

theorem nextWriter_idleZ {s : W} (hi : IdleZ s) (t : Nat) (ht : t = 1 ∨ t = 2) :
    (nextWriter s (t : Int) [] []).1 = .ok (nextHandle s) ∧
    MidF (nextWriter s (t : Int) [] []).2 (nextHandle s) t (wireMessages s) (wireControls s) [] := by
  have hf := ensureBuf_fixed s
  have hk := Keep.ensureBuf s
  have hn : (ensureBuf s).nego = true := (W.fixed_nego hf).trans hi.nego
  have he : (ensureBuf s).enableWC = true := (W.fixed_enableWC hf).trans hi.enabled
  unfold nextWriter
  rw [beginMessage_ok hi.noWriter hi.healthy t (by omega)]
  simp only [hn, he, isData_t t ht, Bool.and_self, if_true]
  refine ⟨by rw [hk.handles]; rfl, rfl, rfl, (ensureBuf s).mws, { ft := t, compress := true }, rfl, ?_, ?_, ?_⟩
  · rw [hk.mws]; exact hi.dead
  · simp [nextHandle, hk.handles]
  · exact (midZ_start hi.toG t true _ hk.writeErr hk.faults hk.wbufLen (ensureBuf_wire s).1 [] (Nat.zero_le _)).congr
      rfl rfl rfl rfl

theorem handle_lt {s : W} {h : Nat} {x : Handle} (hh : s.handles[h]? = some x) : h < s.handles.length :=
  (List.getElem?_eq_some_iff.mp hh).1

theorem hWrite_midF {s : W} {h t : Nat} {M C acc} (hM : MidF s h t M C acc) (ht : t = 1 ∨ t = 2) (p : Bytes)
    (dn : List Bytes) (hdn : ∀ c ∈ dn, c.length < 2 ^ 40) :
    (hWrite s h p dn false).1.2 = none ∧ MidF (hWrite s h p dn false).2 h t M C (acc ++ dn.flatten) := by
  obtain ⟨pre, m, hmws, hdead, hh, hmid⟩ := hM.mw
  have hw := feed_midZ dn hmid ht hdn
  have hf := feed_fixed s m dn
  rw [hWrite_flate hh, getMW_last s pre m hmws]
  -- of the feed only `hw` and `hf` are used
  generalize feed s m dn = r at hw hf ⊢
  rw [hw.1]
  refine ⟨rfl, (W.fixed_nego hf).trans hM.nego, (W.fixed_enableWC hf).trans hM.enabled, pre, r.2.2, ?_,
    hdead, ?_, hw.2.of_core rfl rfl⟩
  · show r.2.1.mws.set pre.length _ = _
    rw [W.fixed_mws hf, hmws, set_last]
  · show (r.2.1.handles.set h _)[h]? = _
    rw [W.fixed_handles hf, List.getElem?_set_self (handle_lt hh)]

theorem hClose_midF {s : W} {h t : Nat} {M C acc} (hM : MidF s h t M C acc) (ht : t = 1 ∨ t = 2)
    (dn : List Bytes) (hdn : ∀ c ∈ dn, c.length < 2 ^ 40) (full : Bytes)
    (htail : 4 ≤ full.length ∧ full.drop (full.length - 4) = sync4)
    (hcons : acc ++ dn.flatten = full.take (full.length - 4)) :
    (hClose s h dn full).1 = none ∧ IdleZ (hClose s h dn full).2 ∧
    wireMessages (hClose s h dn full).2 = M ++ [⟨t, true, acc ++ dn.flatten⟩] ∧
    wireControls (hClose s h dn full).2 = C := by
  obtain ⟨pre, m, hmws, hdead, hh, hmid⟩ := hM.mw
  have hw := feed_midZ dn hmid ht hdn
  have hf := feed_fixed s m dn
  have hc1 : (full.length < 4 || full.drop (full.length - 4) != sync4) = false := by
    rw [htail.2]; simp; omega
  have hc2 : (acc ++ dn.flatten != full.take (full.length - 4)) = false := by
    rw [hcons]; simp
  have hg := getMW_last s pre m hmws
  -- `S`: the state just before mwClose
  obtain ⟨S, hS⟩ : ∃ S, S = setHandle (setMW (feed s m dn).2.1 pre.length (feed s m dn).2.2) h
      (.flate pre.length false none (acc ++ dn.flatten)) := ⟨_, rfl⟩
  rw [hClose_flate hh dn full (by rw [hg]; exact hw.1) hc1 hc2 S (by rw [hg]; exact hS)]
  generalize feed s m dn = r at hw hf hS
  replace hS := hS.symm
  have hmws2 : S.mws = pre ++ [r.2.2] := by
    subst hS
    show r.2.1.mws.set pre.length _ = _
    rw [W.fixed_mws hf, hmws, set_last]
  rw [getMW_last _ pre _ hmws2]
  have hmid2 : MidZ S r.2.2 t true M C (acc ++ dn.flatten) := by
    subst hS; exact hw.2.of_core rfl rfl
  obtain ⟨he, hi, hm, hcs⟩ := close_result hmws2 hdead hmid2 ht
  have hS' : S.nego = s.nego ∧ S.enableWC = s.enableWC := by
    subst hS; exact ⟨(W.fixed_nego hf :), (W.fixed_enableWC hf :)⟩
  have hf2 := mwClose_fixed S r.2.2
  exact ⟨he, hi.toIdleZ (((W.fixed_nego hf2).trans hS'.1).trans hM.nego)
    (((W.fixed_enableWC hf2).trans hS'.2).trans hM.enabled), hm, hcs⟩

theorem run_writes {s : W} {h t : Nat} {M C acc} (hM : MidF s h t M C acc) (ht : t = 1 ∨ t = 2)
    (writes : List (Bytes × List Bytes)) (hsz : ∀ w ∈ writes, ∀ c ∈ w.2, c.length < 2 ^ 40) :
    MidF (run s (writes.map (fun w => Op.write h w.1 w.2 false))) h t M C
      (acc ++ (writes.map (fun w => w.2.flatten)).flatten) := by
  induction writes generalizing s acc with
  | nil => simpa [run] using hM
  | cons w ws ih =>
    have h1 := (hWrite_midF hM ht w.1 w.2 (hsz w (by simp))).2
    have h2 := ih h1 (fun q hq => hsz q (by simp [hq]))
    simp only [List.map_cons, run, List.flatten_cons]
    rw [← List.append_assoc]
    exact h2

end Helpers

/-- `hcons`: the environment is consistent (what was pushed is the deflate stream minus its tail) -/
theorem compressed_message_roundtrip (s : W) (hi : IdleZ s) (t : Nat) (ht : t = 1 ∨ t = 2)
    (writes : List (Bytes × List Bytes)) (dnC : List Bytes) (full : Bytes)
    (hsz : ∀ w ∈ writes, ∀ c ∈ w.2, c.length < 2 ^ 40) (hszC : ∀ c ∈ dnC, c.length < 2 ^ 40)
    (htail : 4 ≤ full.length ∧ full.drop (full.length - 4) = sync4)
    (hcons : pushed writes dnC = full.take (full.length - 4)) :
    let s' := run s (zOps s t writes dnC full)
    IdleZ s' ∧
    wireMessages s' = wireMessages s ++ [⟨t, true, full.take (full.length - 4)⟩] ∧
    wireControls s' = wireControls s := by
  intro s'
  have hnw := nextWriter_idleZ hi t ht
  have hs' : s' = (hClose (run (nextWriter s (t : Int) [] []).2
      (writes.map (fun w => Op.write (nextHandle s) w.1 w.2 false))) (nextHandle s) dnC full).2 := by
    show run s (zOps s t writes dnC full) = _
    unfold zOps
    rw [run_append, run_append]
    simp only [run, applyOp_nextWriter_snd]
    rfl
  have hmid := run_writes hnw.2 ht writes hsz
  simp only [List.nil_append] at hmid
  have hc := hClose_midF hmid ht dnC hszC full htail hcons
  rw [← hs'] at hc
  have hp : (writes.map (fun w => w.2.flatten)).flatten ++ dnC.flatten = full.take (full.length - 4) := hcons
  rw [hp] at hc
  exact hc.2

/-- C15 toggle safety: with write compression switched off (EnableWriteCompression(false)) the same
    connection sends the next message uncompressed; a negotiated peer accepts plain and RSV1 + deflate -/
theorem toggled_off_message_plain (s : W) (hi : IdleZ s) (t : Nat) (ht : t = 1 ∨ t = 2) (data : Bytes) (hd : data.length < 2 ^ 40) :
    let s1 := enableWriteCompression s false
    (writeMessage s1 t data).1 = none ∧
    wireMessages (writeMessage s1 t data).2 = wireMessages s ++ [⟨t, false, data⟩] := by
  intro s1
  have hi1 : IdleG s1 := ⟨hi.healthy, hi.noFaults, hi.noWriter, hi.dead, hi.size, hi.whole⟩
  have h := writeMessage_plainG s1 hi1 (Bool.and_false _) t ht data hd
  exact ⟨h.1, h.2.2.2.1⟩

end WS.CompressedWrite
