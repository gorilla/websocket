import WS.Model.Writer
import WS.Lemmas.Writer
/-
  C10: invalid write requests (bad message type, oversized or fragmented control message) are refused
  without a transport call; every frame is written under the deadline in force: the transport events
  `connWrite` appends to the log are a SetWriteDeadline with the deadline argument, then the Writes.
-/
namespace WS.WriterExtras
open WS

theorem writeControl_badType (s : W) (t : Int) (data : Bytes) (d : Int) (ht : isControl t = false) :
    writeControl s t data d = (some .badOpcode, s) := by
  unfold writeControl
  simp [ht]

theorem writeControl_tooLong (s : W) (t : Int) (data : Bytes) (d : Int) (ht : isControl t = true) (hl : 125 < data.length) :
    writeControl s t data d = (some .invalidControl, s) := by
  have hm : maxControlPayload = 125 := by decide
  unfold writeControl
  rw [hm]
  simp [ht, hl]

theorem beginMessage_badType (s : W) (t : Int) (dnp : List Bytes) (fullp : Bytes)
    (ht : isControl t = false ∧ isData t = false) :
    beginMessage s t dnp fullp = (.error .badOpcode, closePrev s dnp fullp) := by
  unfold beginMessage beginMessage'
  simp [ht.1, ht.2]

/-- no transport call for this request: only the implicit close of a previously open writer
    (`closePrev`) can reach the transport -/
theorem nextWriter_badType (s : W) (t : Int) (dnp : List Bytes) (fullp : Bytes) (ht : isControl t = false ∧ isData t = false) :
    (nextWriter s t dnp fullp).1 = .error .badOpcode ∧ (nextWriter s t dnp fullp).2 = closePrev s dnp fullp := by
  unfold nextWriter
  rw [beginMessage_badType s t dnp fullp ht]
  exact ⟨rfl, rfl⟩

theorem writeMessage_badType (s : W) (t : Int) (data : Bytes) (dnp : List Bytes) (fullp : Bytes) (dn : List Bytes) (full : Bytes)
    (ht : isControl t = false ∧ isData t = false) :
    (writeMessage s t data dnp fullp dn full).1 = some .badOpcode ∧
    (writeMessage s t data dnp fullp dn full).2 = closePrev s dnp fullp := by
  have hn : nextWriter s t dnp fullp = (.error .badOpcode, closePrev s dnp fullp) :=
    Prod.ext (nextWriter_badType s t dnp fullp ht).1 (nextWriter_badType s t dnp fullp ht).2
  unfold writeMessage
  split
  · rw [beginMessage_badType s t dnp fullp ht]; exact ⟨rfl, rfl⟩
  · rw [hn]; exact ⟨rfl, rfl⟩

theorem flushFrame_invalidControl (s : W) (m : MW) (final : Bool) (extra : Bytes)
    (hc : isControl m.ft = true) (hbad : final = false ∨ 125 < m.buf.length + extra.length) :
    (flushFrame s m final extra).1 = some .invalidControl ∧
    (flushFrame s m final extra).2.1.core = s.core := by
  have hm : maxControlPayload = 125 := by decide
  have hcond : (isControl m.ft && (!final || decide (m.buf.length + extra.length > maxControlPayload))) = true := by
    rw [hm, hc]
    cases hbad with
    | inl h => simp [h]
    | inr h => simp [h]
  unfold flushFrame
  rw [if_pos hcond]
  exact ⟨rfl, endMessage_core _ _ _⟩

def isSwdOk : Ev → Option Int
  | .swd d none => some d
  | _ => none

def tevents (l : List Ev) : List Ev := l.filter (fun e => match e with | .swd _ _ => true | .wr _ _ _ => true | _ => false)

@[simp] theorem writeFatal_log (s : W) (e : WErr) : (writeFatal s e).log = s.log := by
  unfold writeFatal; split <;> rfl

theorem tSetWD_log (s : W) (d : Int) : ∃ f, (tSetWD s d).2.log = s.log ++ [.swd d f] := by
  unfold tSetWD
  dsimp only
  split
  · exact ⟨none, rfl⟩
  · exact ⟨some _, rfl⟩
  · exact ⟨some _, rfl⟩

theorem tWrite_log (s : W) (b : Bytes) : ∃ n f, (tWrite s b).2.log = s.log ++ [.wr b n f] := by
  unfold tWrite
  dsimp only
  split
  · exact ⟨_, none, rfl⟩
  · exact ⟨_, some _, rfl⟩
  · exact ⟨_, some _, rfl⟩

theorem writeBufs_log (s : W) (b0 b1 : Bytes) :
    ∃ evs, (writeBufs s b0 b1).2.log = s.log ++ evs ∧
      (∀ e ∈ evs, ∃ b n f, e = .wr b n f) ∧ evs.length ≤ 2 := by
  unfold writeBufs
  obtain ⟨n0, f0, h0⟩ := tWrite_log s b0
  split
  · exact ⟨[.wr b0 n0 f0], h0, by simp, by simp⟩
  · split
    · rename_i e s1 heq
      rw [heq] at h0
      exact ⟨[.wr b0 n0 f0], h0, by simp, by simp⟩
    · rename_i s1 heq
      rw [heq] at h0
      obtain ⟨n1, f1, h1⟩ := tWrite_log s1 b1
      refine ⟨[.wr b0 n0 f0, .wr b1 n1 f1], ?_, by simp, by simp⟩
      rw [h1]; simp only at h0; rw [h0]; simp

theorem connWrite_events (s : W) (ft d : Int) (b0 b1 : Bytes) :
    ∃ evs, (connWrite s ft d b0 b1).2.log = s.log ++ evs ∧
      (evs = [] ∨ ∃ f, evs.head? = some (.swd d f)) ∧
      (∀ e ∈ evs.drop 1, ∃ b n f, e = .wr b n f) ∧ evs.length ≤ 3 := by
  unfold connWrite
  split
  · exact ⟨[], by simp, Or.inl rfl, by simp, by simp⟩
  · obtain ⟨f, hf⟩ := tSetWD_log s d
    split
    · rename_i e s1 heq
      rw [heq] at hf
      refine ⟨[.swd d f], ?_, Or.inr ⟨f, rfl⟩, by simp, by simp⟩
      rw [writeFatal_log]; exact hf
    · rename_i s1 heq
      rw [heq] at hf
      obtain ⟨ws, hws, hall, hlen⟩ := writeBufs_log s1 b0 b1
      have hfin : ∀ s2 : W, s2.log = s1.log ++ ws →
          s2.log = s.log ++ (.swd d f :: ws) := by
        intro s2 h2
        rw [h2]; simp only at hf; rw [hf]; simp
      split
      · rename_i e s2 heq2
        rw [heq2] at hws
        refine ⟨.swd d f :: ws, ?_, Or.inr ⟨f, rfl⟩, by simpa using hall, by simp; omega⟩
        rw [writeFatal_log]; exact hfin _ hws
      · rename_i s2 heq2
        rw [heq2] at hws
        refine ⟨.swd d f :: ws, ?_, Or.inr ⟨f, rfl⟩, by simpa using hall, by simp; omega⟩
        split
        · rw [writeFatal_log]; exact hfin _ hws
        · exact hfin _ hws

theorem frameWrite_deadline (s : W) (m : MW) (final : Bool) (extra : Bytes) :
    ∃ evs, (frameWrite s m final extra).2.log = s.log ++ evs ∧
      (evs = [] ∨ ∃ f, evs.head? = some (.swd s.deadline f)) ∧
      (∀ e ∈ evs.drop 1, ∃ b n f, e = .wr b n f) := by
  unfold frameWrite
  dsimp only
  split
  · exact (connWrite_events ..).imp fun evs h => ⟨h.1, h.2.1, h.2.2.1⟩
  · split
    · refine ⟨[], ?_, Or.inl rfl, by simp⟩
      rw [writeFatal_log]; simp [newKey]
    · exact (connWrite_events (newKey s).2 ..).imp fun evs h => ⟨h.1, h.2.1, h.2.2.1⟩

theorem writeControl_deadline (s : W) (t : Int) (data : Bytes) (d : Int) :
    ∃ evs, (writeControl s t data d).2.log = s.log ++ evs ∧
      (evs = [] ∨ ∃ f, evs.head? = some (.swd d f)) ∧
      (∀ e ∈ evs.drop 1, ∃ b n f, e = .wr b n f) := by
  have hk : (ctlKey s).2.log = s.log := by
    unfold ctlKey; split <;> rfl
  unfold writeControl
  split
  · exact ⟨[], by simp, Or.inl rfl, by simp⟩
  · split
    · exact ⟨[], by simp, Or.inl rfl, by simp⟩
    · dsimp only
      split
      · exact ⟨[], by simp [hk], Or.inl rfl, by simp⟩
      · exact (connWrite_events (ctlKey s).2 ..).imp fun evs h => ⟨hk ▸ h.1, h.2.1, h.2.2.1⟩

end WS.WriterExtras
