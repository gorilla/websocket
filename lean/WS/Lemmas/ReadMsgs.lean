import WS.Lemmas.ReaderDecodes
/-
  The reader over any number of messages, one after the other (C03; nothing of the writer is needed):
  `readMsgs`, and `iterate_msgs`, the induction over the list from a one-message step, which `WS.JoinSeq`
  (JoinLaw.lean) uses for JoinMessages as well. The one-message step is `ReaderDecodes.read_message_keep`: what the reader never
  changes (`Keep`) lets the per-message hypotheses travel along the list. The definitions and theorems about
  sequences are in `WS.Sequences`, with the writer programs of Sequences.lean.
-/
namespace WS.Sequences
open WS WS.Codec WS.ReaderDecodes

/-- read `n` messages one after the other: NextReader, then read to the end of the message with
    reads of size `k`; stops at the first call that does not deliver a complete message -/
def readMsgs (k : Nat) : Nat → Conn → List (Nat × Bytes) × Conn
  | 0, c => ([], c)
  | n + 1, c =>
    match nextReader c with
    | (.msg t rid _, c1) =>
      match readAll c1 rid k with
      | ((d, none), c2) => (((t, d) :: (readMsgs k n c2).1), (readMsgs k n c2).2)
      | (_, c2) => ([], c2)
    | (_, c1) => ([], c1)

/-- the message `m` (type, frames) is conformant and within the read limit of `c`; `ReadProgram.MsgsOk L` states
    the same for a whole list with `L` for the limit -/
def Fits (c : Conn) (m : Nat × List PFrame) : Prop :=
  (m.1 = 1 ∨ m.1 = 2) ∧ MsgShape m.1 m.2 ∧ (dataPayload m.2).length < 2 ^ 62 ∧
    (c.r.limit ≤ 0 ∨ ((dataPayload m.2).length : Int) ≤ c.r.limit)

theorem Fits.keep {c c' : Conn} {m : Nat × List PFrame} (h : Fits c m) (k : Keep c c') : Fits c' m := by
  unfold Fits
  rw [k.limit]
  exact h

/-- A per-message step that leaves the reader idle at the first byte after the message iterates over a
    run of messages. `Step c m c'`: what the caller's loop does on one message; `Q c msgs c'`: what it
    does on a run (`hnil`, `hcons`: how the loop unfolds). -/
theorem iterate_msgs {Step : Conn → Nat × List PFrame → Conn → Prop}
    {Q : Conn → List (Nat × List PFrame) → Conn → Prop} (hnil : ∀ c, Q c [] c)
    (hcons : ∀ c m c1 ms c', Step c m c1 → Q c1 ms c' → Q c (m :: ms) c')
    (rest : Bytes) (msgs : List (Nat × List PFrame))
    (hstep : ∀ m ∈ msgs, ∀ (c : Conn) (tail : Bytes), ReaderIdle c → Fits c m →
      c.r.buf.pending = encAll c.r.isServer m.2 ++ tail → (c.r.buf.t.together = false ∨ tail ≠ []) →
      ∃ c1, Step c m c1 ∧ ReaderIdle c1 ∧ c1.r.buf.pending = tail ∧ c1.r.hlog = c.r.hlog ++ ctlEvents m.2 ∧
        Keep c c1) :
    ∀ (c : Conn), ReaderIdle c → (∀ m ∈ msgs, Fits c m) →
      c.r.buf.pending = (msgs.map (fun m => encAll c.r.isServer m.2)).flatten ++ rest →
      (c.r.buf.t.together = false ∨ rest ≠ []) →
      ∃ c', Q c msgs c' ∧ ReaderIdle c' ∧ c'.r.buf.pending = rest ∧
        c'.r.hlog = c.r.hlog ++ (msgs.map (fun m => ctlEvents m.2)).flatten ∧ Keep c c' := by
  induction msgs with
  | nil =>
    intro c hc _ hp _
    exact ⟨c, hnil c, hc, by simpa using hp, by simp, Keep.refl c⟩
  | cons m ms ih =>
    intro c hc hm hp hend
    have hend1 : c.r.buf.t.together = false ∨
        (ms.map (fun m => encAll c.r.isServer m.2)).flatten ++ rest ≠ [] :=
      hend.imp_right (List.append_ne_nil_of_right_ne_nil _)
    obtain ⟨c1, h1, h2, h3, h4, h5⟩ := hstep m (by simp) c _ hc (hm m (by simp)) (by rw [hp]; simp) hend1
    obtain ⟨c', e1, e2, e3, e4, e5⟩ := ih (fun x hx => hstep x (by simp [hx])) c1 h2
      (fun x hx => (hm x (by simp [hx])).keep h5) (by rw [h3, h5.isServer]) (by rw [h5.same.together]; exact hend)
    exact ⟨c', hcons c m c1 ms c' h1 e1, e2, e3, by rw [e4, h4]; simp, h5.trans e5⟩

theorem readMsgs_succ (k n : Nat) (c c1 c2 : Conn) (t rid : Nat) (z : Bool) (d : Bytes)
    (h1 : nextReader c = (.msg t rid z, c1)) (h2 : readAll c1 rid k = ((d, none), c2)) :
    readMsgs k (n + 1) c = ((t, d) :: (readMsgs k n c2).1, (readMsgs k n c2).2) := by
  rw [readMsgs, h1]
  dsimp only
  rw [h2]

theorem read_messages_keep (k : Nat) (hk : 0 < k) (rest : Bytes) (msgs : List (Nat × List PFrame))
    (c : Conn) (hc : ReaderIdle c) (hm : ∀ m ∈ msgs, Fits c m)
    (hp : c.r.buf.pending = (msgs.map (fun m => encAll c.r.isServer m.2)).flatten ++ rest)
    (hend : c.r.buf.t.together = false ∨ rest ≠ []) :
    ∃ c', readMsgs k msgs.length c = (msgs.map (fun m => (m.1, dataPayload m.2)), c') ∧
      ReaderIdle c' ∧ c'.r.buf.pending = rest ∧
      c'.r.hlog = c.r.hlog ++ (msgs.map (fun m => ctlEvents m.2)).flatten ∧ Keep c c' := by
  refine iterate_msgs
    (Step := fun c m c2 => ∃ rid c1, nextReader c = (.msg m.1 rid false, c1) ∧
      readAll c1 rid k = ((dataPayload m.2, none), c2))
    (Q := fun c msgs c' => readMsgs k msgs.length c = (msgs.map (fun m => (m.1, dataPayload m.2)), c'))
    (fun _ => rfl) ?_ rest msgs ?_ c hc hm hp hend
  · intro c m c2 ms c' ⟨rid, c1, h1, h2⟩ hq
    rw [List.length_cons, readMsgs_succ k ms.length c c1 c2 m.1 rid false _ h1 h2, hq]
    rfl
  · intro m _ c tail hc hf hp hend
    obtain ⟨c1, rid, h1, c2, h2, h⟩ := read_message_keep c hc m.1 hf.1 m.2 hf.2.1 tail hp hend hf.2.2.1 hf.2.2.2 k hk
    exact ⟨c2, ⟨rid, c1, h1, h2⟩, h⟩

/-- C03, any number of messages: from an idle reader, a stream consisting of ANY number of
    conformant messages (each with any fragmentation, control frames between fragments) followed
    by `rest` is read as exactly those messages, in order, each exactly once; the handlers saw the
    interleaved control frames in wire order; the reader is idle again with `rest` untouched -/
theorem read_messages (c : Conn) (hc : ReaderIdle c) (msgs : List (Nat × List PFrame))
    (hm : ∀ m ∈ msgs, (m.1 = 1 ∨ m.1 = 2) ∧ MsgShape m.1 m.2 ∧ (dataPayload m.2).length < 2 ^ 62)
    (rest : Bytes)
    (hp : c.r.buf.pending = (msgs.map (fun m => encAll c.r.isServer m.2)).flatten ++ rest)
    (hend : c.r.buf.t.together = false ∨ rest ≠ []) (hlim : c.r.limit ≤ 0) (k : Nat) (hk : 0 < k) :
    ∃ c', readMsgs k msgs.length c = (msgs.map (fun m => (m.1, dataPayload m.2)), c') ∧
      ReaderIdle c' ∧ c'.r.buf.pending = rest ∧
      c'.r.hlog = c.r.hlog ++ (msgs.map (fun m => ctlEvents m.2)).flatten := by
  obtain ⟨c', h1, h2, h3, h4, _⟩ := read_messages_keep k hk rest msgs c hc
    (fun m hx => ⟨(hm m hx).1, (hm m hx).2.1, (hm m hx).2.2, Or.inl hlim⟩) hp hend
  exact ⟨c', h1, h2, h3, h4⟩

end WS.Sequences
