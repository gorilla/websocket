import WS.Lemmas.Stream
import WS.Lemmas.Transport
/-
  C01/C02 on a healthy connection (no sticky error, empty fault script): `Keep`, what the content
  theorems need unchanged; Conn.write, `flushFrame` (`flushFrame_ok` with its outcome `Flushed`: for
  every opcode but close, with or without RSV1) and WriteControl succeed and append exactly the encoded
  frame.
-/
namespace WS.Flow
open WS WS.Codec WS.Stream WS.KeyFlow

structure Keep (s s' : W) : Prop where
  isServer : s'.isServer = s.isServer
  wbufLen : s'.wbufLen = s.wbufLen
  pool : s'.pool = s.pool
  nego : s'.nego = s.nego
  writeErr : s'.writeErr = s.writeErr
  faults : s'.faults = s.faults
  mws : s'.mws = s.mws
  handles : s'.handles = s.handles

theorem Keep.refl (s : W) : Keep s s := ⟨rfl, rfl, rfl, rfl, rfl, rfl, rfl, rfl⟩

theorem Keep.trans {a b c : W} (h1 : Keep a b) (h2 : Keep b c) : Keep a c :=
  ⟨h2.isServer.trans h1.isServer, h2.wbufLen.trans h1.wbufLen, h2.pool.trans h1.pool, h2.nego.trans h1.nego,
   h2.writeErr.trans h1.writeErr, h2.faults.trans h1.faults, h2.mws.trans h1.mws, h2.handles.trans h1.handles⟩

theorem Keep.cap {s s' : W} (h : Keep s s') : s'.cap = s.cap := by
  unfold W.cap; rw [h.wbufLen]

theorem Keep.of_fixed {s s' : W} (h : s'.fixed = s.fixed) (he : s'.writeErr = s.writeErr) : Keep s s' :=
  ⟨W.fixed_isServer h, W.fixed_wbufLen h, W.fixed_pool h, W.fixed_nego h, he, W.fixed_faults h, W.fixed_mws h,
    W.fixed_handles h⟩

theorem Keep.emit (s : W) (e : Ev) : Keep s (emit s e) := .of_fixed rfl rfl

theorem Keep.ensureBuf (s : W) : Keep s (ensureBuf s) := .of_fixed (ensureBuf_fixed s) (core_writeErr (ensureBuf_core s))

theorem ensureBuf_wire (s : W) : (ensureBuf s).wire = s.wire ∧ (ensureBuf s).writer = s.writer := by
  unfold WS.ensureBuf WS.poolGet; split
  · split <;> exact ⟨rfl, rfl⟩
  · exact ⟨rfl, rfl⟩

theorem Keep.ctlKey (s : W) : Keep s (ctlKey s).2 := .of_fixed (ctlKey_fixed s) (core_writeErr (ctlKey_core s))

theorem ctlKey_wire (s : W) : (ctlKey s).2.wire = s.wire ∧ (ctlKey s).2.writer = s.writer := by
  unfold WS.ctlKey; split <;> exact ⟨rfl, rfl⟩

theorem Keep.endMessage (s : W) (m : MW) (e : WErr) : Keep s (endMessage s m e).1 :=
  .of_fixed (endMessage_fixed s m e) (core_writeErr (endMessage_core s m e))

theorem endMessage_writer (s : W) (m : MW) (e : WErr) (hm : m.err = none) :
    (endMessage s m e).1.writer = none := by
  unfold WS.endMessage WS.poolPut
  rw [hm]
  simp only [Option.isSome_none, Bool.false_eq_true, if_false]
  split
  · split <;> rfl
  · rfl

theorem endMessage_wire (s : W) (m : MW) (e : WErr) : (endMessage s m e).1.wire = s.wire :=
  core_wire (endMessage_core s m e)

/-- `close = false`: a close frame would leave `ErrCloseSent` as sticky error -/
theorem _root_.WS.Wrote.healthy {s : W} {f : Bytes} {r : Option WErr × W} (h : Wrote s f false r)
    (hf : s.faults = []) (he : s.writeErr = none) :
    r.1 = none ∧ Keep s r.2 ∧ r.2.wire = s.wire ++ f ∧ r.2.writer = s.writer := by
  have hn : r.1 = none := by
    cases hr : r.1 with
    | none => rfl
    | some e => exact absurd hf (h.fault (by rw [hr]; rfl))
  obtain ⟨p, q, hpq, hw, hq⟩ := h.sent
  rw [hq hn, List.append_nil] at hpq
  exact ⟨hn, .of_fixed h.fixed ((h.ok hn).trans he.symm), hpq ▸ hw, h.writer⟩

theorem connWrite_ok (s : W) (ft d : Int) (b0 b1 : Bytes) (he : s.writeErr = none) (hf : s.faults = [])
    (hft : (ft == 8) = false) :
    (connWrite s ft d b0 b1).1 = none ∧ Keep s (connWrite s ft d b0 b1).2 ∧
    (connWrite s ft d b0 b1).2.wire = s.wire ++ (b0 ++ b1) ∧ (connWrite s ft d b0 b1).2.writer = s.writer :=
  (hft ▸ (connWrite_spec s ft d b0 b1 he).1).healthy hf he

theorem isControl_small (n : Nat) (h : n < 8) : isControl (n : Int) = false := by
  simp only [isControl, Gen.CloseMessage, Gen.PingMessage, Gen.PongMessage]
  simp
  omega

theorem ne8_small (n : Nat) (h : n < 8) : ((n : Int) == 8) = false := by
  simp
  omega

structure Flushed (s : W) (m : MW) (final : Bool) (extra : Bytes) (r : Option WErr × W × MW) : Prop where
  ok : r.1 = none
  keep : Keep s r.2.1
  wire : r.2.1.wire =
    s.wire ++ encode s.isServer (m.ft + (if final then 128 else 0) + (if m.compress then 64 else 0))
      (keyOf s.keys s.keyIdx) (m.buf ++ extra)
  writer : r.2.1.writer = (if final then none else s.writer)
  keyIdx : r.2.1.keyIdx = s.keyIdx + (if s.isServer then 0 else 1)
  ended : final = true → r.2.2.err.isSome
  reset : final = false → r.2.2 = { m with compress := false, buf := [], ft := 0 }

/-- `hft`: any frame but a close frame; `hctl`: it passes the control check (not a control frame, or
    final and at most `maxControlPayload` bytes) -/
theorem flushFrame_ok (s : W) (m : MW) (final : Bool) (extra : Bytes) (he : s.writeErr = none)
    (hf : s.faults = []) (hft : ((m.ft : Int) == 8) = false) (hx : s.isServer = true ∨ extra = [])
    (hm : m.err = none)
    (hctl : isControl (m.ft : Int) = false ∨ (final = true ∧ m.buf.length + extra.length ≤ maxControlPayload)) :
    Flushed s m final extra (flushFrame s m final extra) := by
  have hcond : (isControl (m.ft : Int) && (!final || decide (m.buf.length + extra.length > maxControlPayload))) = false := by
    rcases hctl with h | ⟨h1, h2⟩
    · simp [h]
    · subst h1
      have : ¬ (m.buf.length + extra.length > maxControlPayload) := by omega
      simp [this]
  obtain ⟨hw, hki⟩ := frameWrite_spec s m final extra he hx
  rw [hft] at hw
  have hfw := hw.healthy hf he
  unfold flushFrame
  rw [hcond]
  simp only [Bool.false_eq_true, if_false]
  split
  · rename_i heq
    rw [heq] at hfw
    exact absurd hfw.1 (by simp)
  · rename_i s' heq
    rw [heq] at hfw hki
    obtain ⟨_, hk, hwire, hwr⟩ := hfw
    dsimp only at hk hwire hwr hki
    cases final with
    | true =>
      simp only [if_true]
      exact ⟨rfl, hk.trans (Keep.endMessage _ _ _), (endMessage_wire _ _ _).trans hwire,
        endMessage_writer _ _ _ hm, (endMessage_keyIdx _ _ _).trans hki, fun _ => endMessage_err _ _ _, nofun⟩
    | false => exact ⟨rfl, hk, hwire, hwr, hki, nofun, fun _ => rfl⟩

theorem flushFrame_data (s : W) (m : MW) (final : Bool) (extra : Bytes) (he : s.writeErr = none)
    (hf : s.faults = []) (hft : m.ft < 8) (hx : s.isServer = true ∨ extra = []) (hm : m.err = none) :
    Flushed s m final extra (flushFrame s m final extra) :=
  flushFrame_ok s m final extra he hf (ne8_small _ hft) hx hm (Or.inl (isControl_small _ hft))

/-- Close (8) is left out here and in everything built on this: it succeeds too, but latches
    `ErrCloseSent`, so the connection is not healthy afterwards. -/
theorem writeControl_healthy (s : W) (t : Nat) (ht : t = 9 ∨ t = 10) (data : Bytes) (hd : data.length ≤ 125) (d : Nat)
    (he : s.writeErr = none) (hf : s.faults = []) :
    (writeControl s t data d).1 = none ∧ Keep s (writeControl s t data d).2 ∧
    (writeControl s t data d).2.writer = s.writer ∧
    (writeControl s t data d).2.wire = s.wire ++ encode s.isServer (t + 128) (ctlKey s).1 data := by
  have hctl : isControl (t : Int) = true := by
    rcases ht with rfl | rfl <;> decide
  have hmax : ¬ data.length > maxControlPayload := by
    have : maxControlPayload = 125 := by decide
    rw [this]; omega
  have hdn : ¬ ((d : Int) < 0) := by omega
  have hne : ((t : Int) == 8) = false := by
    rcases ht with rfl | rfl <;> decide
  unfold writeControl
  rw [hctl]
  simp only [Bool.not_true, Bool.false_eq_true, if_false, hmax, hdn, Int.toNat_natCast]
  have hk := Keep.ctlKey s
  have hkw := ctlKey_wire s
  have h := connWrite_ok (ctlKey s).2 t d (controlFrame s.isServer t data (ctlKey s).1) []
    (hk.writeErr.trans he) (hk.faults.trans hf) hne
  refine ⟨h.1, hk.trans h.2.1, h.2.2.2.trans hkw.2, ?_⟩
  rw [h.2.2.1, hkw.1, List.append_nil, controlFrame_eq _ _ _ _ (by omega) hd]

theorem writeControl_ok (s : W) (t : Nat) (ht : t = 9 ∨ t = 10) (data : Bytes) (hd : data.length ≤ 125) (d : Nat)
    (he : s.writeErr = none) (hf : s.faults = []) {M C cur} (hw : WireSt s.wire M C cur) :
    (writeControl s t data d).1 = none ∧ Keep s (writeControl s t data d).2 ∧
    (writeControl s t data d).2.writer = s.writer ∧
    WireSt (writeControl s t data d).2.wire M (C ++ [(t, data)]) cur := by
  have h := writeControl_healthy s t ht data hd d he hf
  refine ⟨h.1, h.2.1, h.2.2.1, ?_⟩
  rw [h.2.2.2]
  exact hw.control s.isServer t ht _ data (by omega)

end WS.Flow
