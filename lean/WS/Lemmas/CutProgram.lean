import WS.Lemmas.ReadProgram
import WS.Lemmas.ReaderMore
import WS.Lemmas.CutProgramAux
import WS.Lemmas.ReaderTotal
/-
  C05, first sentence, for every read program: whole messages (each within the read limit if one is set), then
  the transport fails or ends at any byte offset strictly inside one more message, with any terminal error.
  Every message the read API reports as complete, by whatever sequence of NextReader / Read(k) calls up to the
  first NextReader failure (`runProg` models no call after it), was completely received and is byte-identical to
  what was sent. `completed` and the simulation are in ReadProgram.lean; here is what a program can still do once
  NextReader has found the cut message (`cut_tail`).
-/
namespace WS.CutProgram
open WS WS.Codec WS.ReaderDecodes WS.ReadProgram

section Helpers
open WS.LimitHistoryAux WS.CutLoops WS.CutProgramAux WS.RobustAux
open WS.CutLoopsL (LenOv)

theorem latched_nil (e : RErr) : ∀ (ops : List ROp) (c : Conn) (cur : Option Nat), c.r.readErr = some e →
    completedAux (runProg ops c cur).1 none = [] := by
  intro ops
  induction ops with
  | nil => intro c cur _; rfl
  | cons op ops ih =>
    intro c cur he
    cases op with
    | next =>
      refine (run_next_fail ops c cur ?_ none).1
      by_cases hn : c.r.errCount + 1 < 1000
      · obtain ⟨c', h1, _⟩ := WS.ReaderRejects.nextReader_sticky c e he hn
        exact Or.inl ⟨e, c', h1⟩
      · obtain ⟨c', h1⟩ := WS.ReaderRejects.nextReader_panics_at_1000 c e he (by omega)
        exact Or.inr ⟨c', h1⟩
    | read k =>
      cases cur with
      | none =>
        simp only [runProg]
        exact ih c none he
      | some rid =>
        have hid := WS.ReaderMore.mrRead_failed_id c rid (k + 1) e he
        generalize hr : mrRead c rid (k + 1) = r at hid
        obtain ⟨⟨bs, e'⟩, c1⟩ := r
        simp only [] at hid
        subst hid
        simp only [runProg, hr]
        rw [completedAux_ret_none]
        exact ih c1 (some rid) he

/-- the fuel bound `pending.length ≤ total` (kept by every reader step, `Fr0.prog`) is what makes a failing Read
    latch its error (`mrRead_total`): `CSt` itself does not exclude the model's unlatched out-of-fuel answer -/
theorem cut_nil (S : Bool) (rid : Nat) : ∀ (ops : List ROp) (c : Conn) (wire : Bytes) (more : List PFrame) (m : Nat)
    (cst : Option (Nat × Bytes)), CSt S c wire more m → c.r.msgReader = some rid →
    LenOv c (dataPayload more).length → c.r.buf.pending.length ≤ c.r.buf.total →
    completedAux (runProg ops c (some rid)).1 cst = [] := by
  intro ops
  induction ops with
  | nil => intro c _ _ _ cst _ _ _ _; rfl
  | cons op ops ih =>
    intro c wire more m cst hst hm hl hfu
    cases op with
    | next => exact (run_next_fail ops c _ (nextReader_cut_fails S c wire more m hst hl) cst).1
    | read k =>
      have hmr := mrRead_cur c rid (k + 1) hm
      rcases WS.CutLoopsL.mrReadLoop_cut S rid (k + 1) (by omega) (c.fuel + 1) c wire more m hst hm hl with
        ⟨out, c', w', m', n', b1, b2, b3, b4, _⟩ | ⟨out, e, c', b1, b2, _⟩
      · rw [← hmr] at b1
        have hk := (mrRead_fr0 c rid (k + 1)).prog hst.env.wf
        rw [b1] at hk
        simp only [runProg, b1]
        rw [completedAux_data]
        exact ih c' w' m' n' _ b2 b3 b4 (hk.fuel hfu)
      · rw [← hmr] at b1
        simp only [runProg, b1]
        rw [completedAux_ret_err _ _ _ _ b2]
        rcases WS.ReaderTotal.mrRead_total c rid (k + 1) (by omega) hst.env.wf hfu out e c' b1 with h | h
        · exact absurd h b2
        · cases he : c'.r.readErr with
          | none => exact absurd he h
          | some e' => exact latched_nil e' ops c' (some rid) he

theorem cut_tail (S N : Bool) (L : Int) (tg : Bool) (t : Nat) (ht : t = 1 ∨ t = 2) (fs : List PFrame)
    (hs : MsgShape t fs) (hsz : (dataPayload fs).length < 2 ^ 62) (cut : Nat) (hcut : cut < (encAll S fs).length)
    (ops : List ROp) (c : Conn) (cur : Option Nat) (H : List REv)
    (hi : Idle S N L tg ((encAll S fs).take cut) H c) (cst : Option (Nat × Bytes)) :
    completedAux (runProg (.next :: ops) c cur).1 cst = [] := by
  obtain ⟨n, hpre, hn, hnL, _⟩ := hi
  have hlimc := hpre.limit
  obtain ⟨wire, more, hst, hwn, _, _, _⟩ := hpre
  rcases nextReader_into_cut S t ht fs hs hsz cut hcut c wire more hst n (by omega) hn (by rw [hlimc]; exact hnL) with
    ⟨c1, rid, w1, m1, n1, h1, h2, h3, h4, h5⟩ | h
  · simp only [runProg, h1]
    exact cut_nil S rid ops c1 w1 m1 n1 (some (t, [])) h2 h3 h4 h5
  · exact (run_next_fail ops c cur h cst).1

end Helpers

/-- C05 for every read program, when every whole message is within the read limit and the transport does not
    report its terminal condition together with the last byte of the last whole message (`hend`) -/
theorem cut_program_never_complete_fits_partial (c : Conn) (hc : ReaderIdle c) (msgs : List (Nat × List PFrame))
    (hm : ∀ m ∈ msgs, (m.1 = 1 ∨ m.1 = 2) ∧ MsgShape m.1 m.2 ∧ (dataPayload m.2).length < 2 ^ 62 ∧
      (c.r.limit ≤ 0 ∨ ((dataPayload m.2).length : Int) ≤ c.r.limit))
    (t : Nat) (ht : t = 1 ∨ t = 2) (fs : List PFrame) (hs : MsgShape t fs) (hsz : (dataPayload fs).length < 2 ^ 62)
    (cut : Nat) (hcut : cut < (encAll c.r.isServer fs).length)
    (hp : c.r.buf.pending = (msgs.map (fun m => encAll c.r.isServer m.2)).flatten ++ (encAll c.r.isServer fs).take cut)
    (hend : c.r.buf.t.together = false ∨ 0 < cut)
    (ops : List ROp) :
    List.Sublist (completed (runProg ops c none).1) (msgs.map (fun m => (m.1, dataPayload m.2))) := by
  have hR : c.r.buf.t.together = false ∨ (encAll c.r.isServer fs).take cut ≠ [] :=
    hend.imp id fun h hcn => by
      have := congrArg List.length hcn
      rw [List.length_take, List.length_nil] at this
      omega
  exact (run_program c hc msgs hm _ hp hR (fun r => ∀ cst, completedAux r.1 cst = []) ops
    (Or.inr fun ops' c' cur' hi => cut_tail _ _ _ _ t ht fs hs hsz cut hcut ops' c' cur' _ hi)).completed
    (fun _ h => h) none (fun h => nomatch h)

/- NOT PROVED: the same without the two restrictions, whole messages above the read limit (needs the steps of a
   reader inside a whole message without `LenOk`) and `together = true ∧ cut = 0` (the last Read of the last whole
   message may return its last bytes together with the terminal error, which `St.tog` excludes).

theorem cut_program_never_complete (c : Conn) (hc : ReaderIdle c) (msgs : List (Nat × List PFrame))
    (hm : ∀ m ∈ msgs, (m.1 = 1 ∨ m.1 = 2) ∧ MsgShape m.1 m.2 ∧ (dataPayload m.2).length < 2 ^ 62)
    (t : Nat) (ht : t = 1 ∨ t = 2) (fs : List PFrame) (hs : MsgShape t fs) (hsz : (dataPayload fs).length < 2 ^ 62)
    (cut : Nat) (hcut : cut < (encAll c.r.isServer fs).length)
    (hp : c.r.buf.pending = (msgs.map (fun m => encAll c.r.isServer m.2)).flatten ++ (encAll c.r.isServer fs).take cut)
    (ops : List ROp) :
    List.Sublist (completed (runProg ops c none).1) (msgs.map (fun m => (m.1, dataPayload m.2)))
-/

end WS.CutProgram

