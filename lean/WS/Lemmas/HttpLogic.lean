import WS.Model.Http
import WS.Model.Server
import WS.Model.Client
import WS.Lemmas.StrBytes
/-
  Decision logic of the two handshakes. `WS.HttpLogic`: C13 (ASCII folding, same-origin policy), C12 (`Server.upgrade`
  as first refusal / Hijack / accepted record; the 101 response as a list of lines), C14 / C15 (`Client.checkReply`,
  the extension offer parsed). `WS.RequestLogic.response101_lines`: the exact lines of the 101 without application
  header. `WS.Agree.offerLit` is declared here so that every file of the handshake sees it.
-/
namespace WS.Agree
/-- the extension offer of client.go, which is also what server.go announces after "Sec-WebSocket-Extensions: " -/
def offerLit : Bytes := strBytes "permessage-deflate; server_no_context_takeover; client_no_context_takeover"
end WS.Agree

namespace WS.HttpLogic
open WS WS.Http WS.Server WS.Client

/-! ### guards: one step `if c then refuse else …` of a chain, in `Except` and read off as an `Option` -/

theorem guard_elim {ε α : Type} (c : Bool) (e : ε) (k f : Except ε α) (o : Option ε) (h : k = o.elim f .error) :
    (if c then .error e else k) = (if c then some e else o).elim f .error := by
  cases c
  · exact h
  · rfl

theorem guard_none {ε : Type} (c : Prop) [Decidable c] (e : ε) (k : Option ε) :
    (if c then some e else k) = none ↔ ¬c ∧ k = none := by
  by_cases h : c <;> simp [h]

theorem guard_some {ε : Type} (c : Prop) [Decidable c] (e e' : ε) (k : Option ε) :
    (if c then some e else k) = some e' ↔ (c ∧ e = e') ∨ (¬c ∧ k = some e') := by
  by_cases h : c <;> simp [h]

theorem guard_ok {ε α : Type} (c : Prop) [Decidable c] (e : ε) (k : Except ε α) (a : α) :
    (if c then .error e else k) = .ok a ↔ ¬c ∧ k = .ok a := by
  by_cases h : c <;> simp [h]

/-! ### C13: ASCII case folding -/

/-- `Http.foldByte` written with `∧` for `&&` (`foldByte_eq`) -/
def asciiLower (b : UInt8) : UInt8 := if 65 ≤ b.toNat ∧ b.toNat ≤ 90 then b + 32 else b

theorem foldByte_eq (b : UInt8) : foldByte b = asciiLower b := by
  unfold foldByte asciiLower
  simp

/-- C13: equalASCIIFold accepts exactly the byte strings that are equal after byte-wise ASCII lower-casing;
    no non-ASCII byte folds to an ASCII one -/
theorem fold_eq_iff (s t : Bytes) :
    equalASCIIFold s t = true ↔ t.map asciiLower = s.map asciiLower := by
  induction s generalizing t with
  | nil => cases t <;> simp [equalASCIIFold]
  | cons a s ih =>
    cases t with
    | nil => simp [equalASCIIFold]
    | cons b t =>
      simp only [equalASCIIFold, Bool.and_eq_true, beq_iff_eq, ih, foldByte_eq, List.map_cons,
        List.cons.injEq]
      constructor
      · rintro ⟨h1, h2⟩; exact ⟨h1.symm, h2⟩
      · rintro ⟨h1, h2⟩; exact ⟨h1.symm, h2⟩

theorem fold_symm (s t : Bytes) : equalASCIIFold s t = equalASCIIFold t s := by
  rw [Bool.eq_iff_iff, fold_eq_iff, fold_eq_iff]
  exact eq_comm

/-- no prefix / suffix look-alike passes -/
theorem fold_length (s t : Bytes) (h : equalASCIIFold s t = true) : s.length = t.length := by
  rw [fold_eq_iff] at h
  have := congrArg List.length h
  simpa using this.symm

/-- regression sentinel for finding F7: two different invalid UTF-8 bytes are different -/
theorem fold_distinguishes_invalid_utf8 : equalASCIIFold [0x61, 0xff] [0x61, 0xfe] = false := by
  decide

/-- U+212A KELVIN SIGN (e2 84 aa) and U+017F LONG S (c5 bf) do not fold to k / s -/
theorem fold_no_unicode_folding :
    equalASCIIFold [0xe2, 0x84, 0xaa] [0x6b] = false ∧ equalASCIIFold [0xc5, 0xbf] [0x73] = false := by
  decide

theorem same_origin_iff (r : Req) (oh : Option Bytes) :
    checkSameOrigin r oh = true ↔ (r.values "Origin" = [] ∨ ∃ h, oh = some h ∧ equalASCIIFold h r.host = true) := by
  unfold checkSameOrigin
  cases r.values "Origin" with
  | nil => simp
  | cons a l => cases oh <;> simp

/-! ### C12: server decision

`upgrade` is a chain of guards `if ¬check then .error status else …` ending in the Hijack call. Everything
follows from one equation, `upgrade_eq`: the answer is the first failing request check (`refusal`, which never
looks at the connection), else a failed Hijack, else the record `accepted`. -/

/-- the answer Upgrade gives before it touches the connection: the status of the first request check that fails -/
def refusal (u : UCfg) (r : Req) (rh : RespHdr) (oh : Option Bytes) : Option Reject :=
  if !tokenListContainsValue (r.values "Connection") (strBytes "upgrade") then some .noConnectionUpgrade
  else if !tokenListContainsValue (r.values "Upgrade") (strBytes "websocket") then some .noUpgradeWebsocket
  else if r.method != strBytes "GET" then some .notGet
  else if !tokenListContainsValue (r.values "Sec-Websocket-Version") (strBytes "13") then some .badVersion
  else if rh.has "Sec-Websocket-Extensions" then some .appExtensions
  else if !(match u.checkOrigin with | some b => b | none => checkSameOrigin r oh) then some .origin
  else if !isValidChallengeKey (r.get "Sec-Websocket-Key") then some .badKey
  else none

/-- what Upgrade returns once the connection is hijacked: the 101 bytes and the parameters of the Conn -/
def accepted (u : UCfg) (r : Req) (rh : RespHdr) (hj : Hijack) : Bytes × Accepted :=
  let sub := selectSubprotocol u r rh
  let compress := u.enableCompression &&
    (parseExtensions (r.values "Sec-Websocket-Extensions")).any (fun e => e.name == strBytes "permessage-deflate")
  let reuse := u.readBufferSize == 0 && hj.brSize > 256
  let wrap := !reuse && hj.buffered > 0
  let reuseW := !u.pool && u.writeBufferSize == 0 && hj.availLen ≥ maxFrameHeaderSize + 256
  let w := newW true u.writeBufferSize u.pool compress (if reuseW then some hj.availLen else none)
  let bytes := response101 (Spec.acceptKey Gen.keyGUID (r.get "Sec-Websocket-Key")) sub compress rh
  (bytes, { lines := (splitCRLF bytes []).dropLast.dropLast, subprotocol := sub, compress, reuseReader := reuse,
            wrapConn := wrap, readerSize := if reuse then hj.brSize else readBufSize u.readBufferSize,
            wbufLen := w.wbufLen })

theorem accepted_bytes (u : UCfg) (r : Req) (rh : RespHdr) (hj : Hijack) :
    (accepted u r rh hj).1 = response101 (Spec.acceptKey Gen.keyGUID (r.get "Sec-Websocket-Key")) (selectSubprotocol u r rh)
      (u.enableCompression &&
        (parseExtensions (r.values "Sec-Websocket-Extensions")).any (fun e => e.name == strBytes "permessage-deflate")) rh :=
  rfl

theorem upgrade_eq (u : UCfg) (r : Req) (rh : RespHdr) (oh : Option Bytes) (hj : Hijack) :
    upgrade u r rh oh hj =
      (refusal u r rh oh).elim (if hj.ok then .ok (accepted u r rh hj) else .error .hijack) .error := by
  unfold upgrade refusal
  repeat apply guard_elim
  cases hj.ok <;> rfl

theorem upgrade_eq_ok (u : UCfg) (r : Req) (rh : RespHdr) (oh : Option Bytes) (hj : Hijack) (p : Bytes × Accepted) :
    upgrade u r rh oh hj = .ok p ↔ refusal u r rh oh = none ∧ hj.ok = true ∧ p = accepted u r rh hj := by
  rw [upgrade_eq]
  cases refusal u r rh oh <;> cases hj.ok <;> simp [eq_comm]

theorem upgrade_eq_error (u : UCfg) (r : Req) (rh : RespHdr) (oh : Option Bytes) (hj : Hijack) (e : Reject) :
    upgrade u r rh oh hj = .error e ↔
      refusal u r rh oh = some e ∨ (refusal u r rh oh = none ∧ hj.ok = false ∧ e = .hijack) := by
  rw [upgrade_eq]
  cases refusal u r rh oh <;> cases hj.ok <;> simp [eq_comm]

theorem refusal_eq_none (u : UCfg) (r : Req) (rh : RespHdr) (oh : Option Bytes) :
    refusal u r rh oh = none ↔
      (tokenListContainsValue (r.values "Connection") (strBytes "upgrade") = true ∧
       tokenListContainsValue (r.values "Upgrade") (strBytes "websocket") = true ∧
       r.method = strBytes "GET" ∧
       tokenListContainsValue (r.values "Sec-Websocket-Version") (strBytes "13") = true ∧
       rh.has "Sec-Websocket-Extensions" = false ∧
       (match u.checkOrigin with | some b => b | none => checkSameOrigin r oh) = true ∧
       isValidChallengeKey (r.get "Sec-Websocket-Key") = true) := by
  simp only [refusal, guard_none]
  simp

theorem refusal_noUpgradeWebsocket (u : UCfg) (r : Req) (rh : RespHdr) (oh : Option Bytes) :
    refusal u r rh oh = some .noUpgradeWebsocket ↔
      tokenListContainsValue (r.values "Connection") (strBytes "upgrade") = true ∧
      tokenListContainsValue (r.values "Upgrade") (strBytes "websocket") = false := by
  simp only [refusal, guard_some]
  simp

theorem refusal_noConnectionUpgrade (u : UCfg) (r : Req) (rh : RespHdr) (oh : Option Bytes) :
    refusal u r rh oh = some .noConnectionUpgrade ↔
      tokenListContainsValue (r.values "Connection") (strBytes "upgrade") = false := by
  simp only [refusal, guard_some]
  simp

theorem refusal_origin (u : UCfg) (r : Req) (rh : RespHdr) (oh : Option Bytes) (h : refusal u r rh oh = some .origin) :
    (match u.checkOrigin with | some b => b | none => checkSameOrigin r oh) = false := by
  simp only [refusal, guard_some] at h
  simp at h
  exact h.2.2.2.2.2

theorem upgrade_ok_iff (u : UCfg) (r : Req) (rh : RespHdr) (oh : Option Bytes) (hj : Hijack) :
    (∃ a, upgrade u r rh oh hj = .ok a) ↔
      (tokenListContainsValue (r.values "Connection") (strBytes "upgrade") = true ∧
       tokenListContainsValue (r.values "Upgrade") (strBytes "websocket") = true ∧
       r.method = strBytes "GET" ∧
       tokenListContainsValue (r.values "Sec-Websocket-Version") (strBytes "13") = true ∧
       rh.has "Sec-Websocket-Extensions" = false ∧
       (match u.checkOrigin with | some b => b | none => checkSameOrigin r oh) = true ∧
       isValidChallengeKey (r.get "Sec-Websocket-Key") = true ∧
       hj.ok = true) := by
  simp only [upgrade_eq_ok, exists_and_left, exists_eq, and_true, refusal_eq_none, and_assoc]

theorem reject_status (u : UCfg) (r : Req) (rh : RespHdr) (oh : Option Bytes) (hj : Hijack) (e : Reject)
    (h : upgrade u r rh oh hj = .error e) :
    (e.status = 403 ↔ e = .origin) ∧ (e.status = 426 ↔ e = .noUpgradeWebsocket) ∧
    (e = .noUpgradeWebsocket → tokenListContainsValue (r.values "Connection") (strBytes "upgrade") = true ∧
        tokenListContainsValue (r.values "Upgrade") (strBytes "websocket") = false) ∧
    (e = .origin → (match u.checkOrigin with | some b => b | none => checkSameOrigin r oh) = false) := by
  refine ⟨by cases e <;> simp [Reject.status], by cases e <;> simp [Reject.status], ?_, ?_⟩
  all_goals
    rintro rfl
    rcases (upgrade_eq_error ..).mp h with h | ⟨_, _, h⟩
  · exact (refusal_noUpgradeWebsocket ..).mp h
  · cases h
  · exact refusal_origin _ _ _ _ h
  · cases h

theorem upgrade_ok_snd {u : UCfg} {r : Req} {rh : RespHdr} {oh : Option Bytes} {hj : Hijack} {b : Bytes} {a : Accepted}
    (h : upgrade u r rh oh hj = .ok (b, a)) : a = (accepted u r rh hj).2 :=
  congrArg Prod.snd ((upgrade_eq_ok ..).mp h).2.2

theorem deflate_announced_iff (u : UCfg) (r : Req) (rh : RespHdr) (oh : Option Bytes) (hj : Hijack) (b : Bytes) (a : Accepted)
    (h : upgrade u r rh oh hj = .ok (b, a)) :
    a.compress = (u.enableCompression &&
      (parseExtensions (r.values "Sec-Websocket-Extensions")).any (fun e => e.name == strBytes "permessage-deflate")) := by
  rw [upgrade_ok_snd h]
  rfl

theorem upgrade_lines (u : UCfg) (r : Req) (rh : RespHdr) (oh : Option Bytes) (hj : Hijack) (bytes : Bytes) (a : Accepted)
    (hu : upgrade u r rh oh hj = .ok (bytes, a)) :
    a.lines = (splitCRLF (response101 (Spec.acceptKey Gen.keyGUID (r.get "Sec-Websocket-Key")) a.subprotocol a.compress rh) []).dropLast.dropLast := by
  rw [upgrade_ok_snd hu]
  rfl

theorem subprotocol_offered_and_supported (u : UCfg) (r : Req) (rh : RespHdr) (server : List Bytes) (hs : u.subprotocols = some server)
    (hne : selectSubprotocol u r rh ≠ []) :
    selectSubprotocol u r rh ∈ server ∧ selectSubprotocol u r rh ∈ subprotocols (r.get "Sec-Websocket-Protocol") := by
  unfold selectSubprotocol at hne ⊢
  rw [hs] at hne ⊢
  simp only at hne ⊢
  cases hf : (subprotocols (r.get "Sec-Websocket-Protocol")).find? (fun c => server.contains c) with
  | none => rw [hf] at hne; simp at hne
  | some c =>
    simp only
    have h1 := List.find?_some hf
    have h2 := List.mem_of_find?_eq_some hf
    simp at h1
    exact ⟨h1, h2⟩

/-- no CR / LF survives in a scrubbed header value -/
theorem scrub_no_ctl (v : Bytes) : ∀ b ∈ scrub v, 31 < b.toNat := by
  intro b hb
  unfold scrub at hb
  rw [List.mem_map] at hb
  obtain ⟨a, _, rfl⟩ := hb
  split
  · decide
  · omega

theorem splitCRLF_cons_ne (b : UInt8) (rest cur : Bytes) (hb : b ≠ 13) :
    splitCRLF (b :: rest) cur = splitCRLF rest (b :: cur) := by
  rw [splitCRLF]
  intro r h
  cases h
  exact absurd rfl hb

theorem splitCRLF_single (s cur : Bytes) (h : ∀ b ∈ s, b ≠ 13) : splitCRLF s cur = [cur.reverse ++ s] := by
  induction s generalizing cur with
  | nil => simp [splitCRLF]
  | cons b s ih =>
    rw [splitCRLF_cons_ne b s cur (h b (by simp))]
    rw [ih _ (fun x hx => h x (by simp [hx]))]
    simp

theorem splitCRLF_line_aux (line rest cur : Bytes) (h : ∀ b ∈ line, b ≠ 13) :
    splitCRLF (line ++ crlf ++ rest) cur = (cur.reverse ++ line) :: splitCRLF rest [] := by
  induction line generalizing cur with
  | nil => simp [crlf, splitCRLF]
  | cons b s ih =>
    simp only [List.cons_append]
    rw [splitCRLF_cons_ne b _ cur (h b (by simp))]
    rw [ih _ (fun x hx => h x (by simp [hx]))]
    simp

theorem splitCRLF_line (line rest : Bytes) (h : ∀ b ∈ line, b ≠ 13) :
    splitCRLF (line ++ crlf ++ rest) [] = line :: splitCRLF rest [] := by
  simpa using splitCRLF_line_aux line rest [] h

/-- number of header lines the application's response header map contributes -/
def rhLines (rh : RespHdr) : Nat :=
  match rh with
  | none => 0
  | some l => ((l.filter (fun p => p.1 != strBytes "Sec-Websocket-Protocol")).map (fun p => p.2.length)).sum

theorem scrub_ne_cr (v : Bytes) : ∀ b ∈ scrub v, b ≠ 13 := by
  intro b hb h
  have := scrub_no_ctl v b hb
  subst h
  exact absurd this (by decide)

/-! The 101 response is a list of lines, each followed by CRLF, and an empty line; `lines101` names that list. -/

def joinCRLF (ls : List Bytes) : Bytes := ls.flatMap (· ++ crlf)

theorem joinCRLF_cons (l : Bytes) (ls : List Bytes) : joinCRLF (l :: ls) = l ++ crlf ++ joinCRLF ls := rfl

theorem joinCRLF_append (ls ls' : List Bytes) : joinCRLF (ls ++ ls') = joinCRLF ls ++ joinCRLF ls' :=
  List.flatMap_append

theorem splitCRLF_joinCRLF (ls : List Bytes) (h : ∀ l ∈ ls, ∀ b ∈ l, b ≠ 13) (rest : Bytes) :
    splitCRLF (joinCRLF ls ++ rest) [] = ls ++ splitCRLF rest [] := by
  induction ls with
  | nil => rfl
  | cons l ls ih =>
    rw [joinCRLF_cons, List.append_assoc, splitCRLF_line l _ (h l (by simp)),
      ih (fun l' hl' => h l' (by simp [hl']))]
    rfl

/-- the header lines the application's response header contributes: one per value, the value scrubbed -/
def appLines (rh : RespHdr) : List Bytes :=
  match rh with
  | none => []
  | some l => (l.filter (fun p => p.1 != strBytes "Sec-Websocket-Protocol")).flatMap
      (fun p => p.2.map (fun v => p.1 ++ strBytes ": " ++ scrub v))

theorem appLines_length (rh : RespHdr) : (appLines rh).length = rhLines rh := by
  cases rh <;> simp [appLines, rhLines, List.length_flatMap]

def lines101 (accept sub : Bytes) (compress : Bool) (rh : RespHdr) : List Bytes :=
  [strBytes "HTTP/1.1 101 Switching Protocols", strBytes "Upgrade: websocket", strBytes "Connection: Upgrade",
   strBytes "Sec-WebSocket-Accept: " ++ accept] ++
  (if sub.isEmpty then [] else [strBytes "Sec-WebSocket-Protocol: " ++ scrub sub]) ++
  (if compress then [strBytes "Sec-WebSocket-Extensions: permessage-deflate; server_no_context_takeover; client_no_context_takeover"] else []) ++
  appLines rh

theorem head_lit :
    strBytes "HTTP/1.1 101 Switching Protocols\r\nUpgrade: websocket\r\nConnection: Upgrade\r\nSec-WebSocket-Accept: " =
    strBytes "HTTP/1.1 101 Switching Protocols" ++ (crlf ++ (strBytes "Upgrade: websocket" ++ (crlf ++
      (strBytes "Connection: Upgrade" ++ (crlf ++ strBytes "Sec-WebSocket-Accept: "))))) := by
  rw [strBytes_ofList, strBytes_ofList, strBytes_ofList, strBytes_ofList, strBytes_ofList]
  decide +kernel

theorem ext_lit :
    strBytes "Sec-WebSocket-Extensions: permessage-deflate; server_no_context_takeover; client_no_context_takeover\r\n" =
    strBytes "Sec-WebSocket-Extensions: permessage-deflate; server_no_context_takeover; client_no_context_takeover" ++ crlf := by
  rw [strBytes_ofList, strBytes_ofList]
  decide +kernel

theorem response101_eq (accept sub : Bytes) (compress : Bool) (rh : RespHdr) :
    response101 accept sub compress rh = joinCRLF (lines101 accept sub compress rh) ++ crlf := by
  have happ : joinCRLF (appLines rh) = match rh with
      | none => []
      | some l => (l.filter (fun p => p.1 != strBytes "Sec-Websocket-Protocol")).flatMap
          (fun p => p.2.flatMap (fun v => p.1 ++ strBytes ": " ++ scrub v ++ crlf)) := by
    cases rh <;> simp [appLines, joinCRLF, List.flatMap_assoc, List.flatMap_map]
  simp only [response101, lines101, head_lit, ext_lit, joinCRLF_append, joinCRLF_cons, apply_ite joinCRLF, happ,
    List.append_assoc, List.nil_append, List.cons_append]
  rfl

theorem noCR_append {s t : Bytes} (hs : ∀ b ∈ s, b ≠ 13) (ht : ∀ b ∈ t, b ≠ 13) : ∀ b ∈ s ++ t, b ≠ 13 :=
  fun b hb => (List.mem_append.mp hb).elim (hs b) (ht b)

theorem lines101_noCR (accept sub : Bytes) (compress : Bool) (rh : RespHdr)
    (ha : ∀ b ∈ accept, b ≠ 13) (hk : ∀ l, rh = some l → ∀ p ∈ l, ∀ b ∈ p.1, b ≠ 13) :
    ∀ l ∈ lines101 accept sub compress rh, ∀ b ∈ l, b ≠ 13 := by
  intro l hl
  simp only [lines101, List.mem_append, List.mem_cons, List.not_mem_nil, or_false] at hl
  rcases hl with (((rfl | rfl | rfl | rfl) | hl) | hl) | hl
  · rw [strBytes_ofList]; decide +kernel
  · rw [strBytes_ofList]; decide +kernel
  · rw [strBytes_ofList]; decide +kernel
  · exact noCR_append (by decide +kernel) ha
  · split at hl
    · cases hl
    · rw [List.mem_singleton.mp hl]
      exact noCR_append (by decide +kernel) (scrub_ne_cr sub)
  · split at hl
    · rw [List.mem_singleton.mp hl, strBytes_ofList]
      decide +kernel
    · cases hl
  · cases rh with
    | none => cases hl
    | some hs =>
      simp only [appLines, List.mem_flatMap, List.mem_map] at hl
      obtain ⟨p, hp, v, _, rfl⟩ := hl
      exact noCR_append (noCR_append (hk hs rfl p (List.mem_filter.mp hp).1) (by decide +kernel)) (scrub_ne_cr v)

theorem response101_split (accept sub : Bytes) (compress : Bool) (rh : RespHdr)
    (ha : ∀ b ∈ accept, b ≠ 13) (hk : ∀ l, rh = some l → ∀ p ∈ l, ∀ b ∈ p.1, b ≠ 13) :
    splitCRLF (response101 accept sub compress rh) [] = lines101 accept sub compress rh ++ [[], []] := by
  rw [response101_eq, splitCRLF_joinCRLF _ (lines101_noCR accept sub compress rh ha hk)]
  rfl

/-- C12 `no_injection`: whatever bytes the application puts into header *values* and into the subprotocol,
    the 101 response has one line per application-supplied value besides its own. Header *names* supplied by the
    application and the accept token are assumed free of CR. -/
theorem no_injection (accept sub : Bytes) (compress : Bool) (rh : RespHdr)
    (ha : ∀ b ∈ accept, b ≠ 13)
    (hk : ∀ l, rh = some l → ∀ p ∈ l, ∀ b ∈ p.1, b ≠ 13) :
    (splitCRLF (response101 accept sub compress rh) []).length =
      4 + (if sub.isEmpty then 0 else 1) + (if compress then 1 else 0) + rhLines rh + 2 := by
  rw [response101_split accept sub compress rh ha hk]
  simp only [lines101, List.length_append, List.length_cons, List.length_nil, apply_ite List.length, appLines_length]

theorem b64Char_ok (n : Nat) : Spec.b64Char n ≠ 13 ∧ Spec.b64Char n ≠ 10 := by
  by_cases h : n < 64
  · have : ∀ m : Fin 64, Spec.b64Char m.val ≠ 13 ∧ Spec.b64Char m.val ≠ 10 := by decide
    exact this ⟨n, h⟩
  · -- outside the alphabet every guard of `b64Char` fails and the value is '/'
    have : Spec.b64Char n = 47 := by
      rw [Spec.b64Char, if_neg (by omega), if_neg (by omega), if_neg (by omega), if_neg (by omega)]
    rw [this]
    decide

/-- hence the accept token cannot break a line -/
theorem base64_no_crlf (xs : Bytes) : ∀ b ∈ Spec.base64 xs, b ≠ 13 ∧ b ≠ 10 := by
  fun_induction Spec.base64 xs with
  | case1 a b c rest n ih =>
    intro x hx
    simp only [List.cons_append, List.nil_append, List.mem_cons] at hx
    rcases hx with rfl | rfl | rfl | rfl | hx
    · exact b64Char_ok _
    · exact b64Char_ok _
    · exact b64Char_ok _
    · exact b64Char_ok _
    · exact ih x hx
  | case2 a b n =>
    intro x hx
    simp only [List.mem_cons, List.not_mem_nil, or_false] at hx
    rcases hx with rfl | rfl | rfl | rfl
    · exact b64Char_ok _
    · exact b64Char_ok _
    · exact b64Char_ok _
    · decide
  | case3 a n =>
    intro x hx
    simp only [List.mem_cons, List.not_mem_nil, or_false] at hx
    rcases hx with rfl | rfl | rfl | rfl
    · exact b64Char_ok _
    · exact b64Char_ok _
    · decide
    · decide
  | case4 => simp

/-- the Accept value is base64(SHA-1(key ++ GUID)): the example of RFC 6455 §1.3, with the GUID found in the
    source (the one place where the kernel runs SHA-1) -/
theorem accept_rfc_vector :
    Spec.acceptKey Gen.keyGUID (strBytes "dGhlIHNhbXBsZSBub25jZQ==") = strBytes "s3pPLMBiTxaQ9kYGzzhZRbK+xOo=" := by
  decide +kernel

/-! ### C14 / C15: client decision -/

theorem checkReply_eq_ok (key : Bytes) (r : Reply) (d : Dialed) :
    checkReply key r = .ok d ↔
      (r.status = 101 ∧
       tokenListContainsValue (r.values "Upgrade") (strBytes "websocket") = true ∧
       tokenListContainsValue (r.values "Connection") (strBytes "upgrade") = true ∧
       r.get "Sec-Websocket-Accept" = Spec.acceptKey Gen.keyGUID key) ∧
      (∀ e, (parseExtensions (r.values "Sec-Websocket-Extensions")).find? (fun e => e.name == strBytes "permessage-deflate") = some e →
          e.has (strBytes "server_no_context_takeover") = true ∧ e.has (strBytes "client_no_context_takeover") = true) ∧
      d = { compress := ((parseExtensions (r.values "Sec-Websocket-Extensions")).find?
              (fun e => e.name == strBytes "permessage-deflate")).isSome,
            subprotocol := r.get "Sec-Websocket-Protocol" } := by
  simp only [checkReply, guard_ok]
  cases (parseExtensions (r.values "Sec-Websocket-Extensions")).find? (fun e => e.name == strBytes "permessage-deflate") with
  | none => simp [and_assoc, @eq_comm _ d]
  | some e => simp [guard_ok, and_assoc, @eq_comm _ d]

theorem client_any_reply (key : Bytes) (r : Reply) (d : Dialed) (h : checkReply key r = .ok d) :
    d.compress = ((parseExtensions (r.values "Sec-Websocket-Extensions")).any (fun e => e.name == strBytes "permessage-deflate")) := by
  rw [((checkReply_eq_ok ..).mp h).2.2, Bool.eq_iff_iff, List.find?_isSome, List.any_eq_true]

/-- C15: what the Dialer offers and the Upgrader announces, parsed (the one place where the kernel runs the parser on it) -/
theorem parse_offer :
    parseExtensions [Agree.offerLit] =
      [[([], strBytes "permessage-deflate"), (strBytes "server_no_context_takeover", []),
        (strBytes "client_no_context_takeover", [])]] := by
  rw [Agree.offerLit, strBytes_ofList]
  decide +kernel

theorem offer_literal_negotiates :
    (parseExtensions [strBytes "permessage-deflate; server_no_context_takeover; client_no_context_takeover"]).any
      (fun e => e.name == strBytes "permessage-deflate") = true := by
  have h := parse_offer
  rw [Agree.offerLit] at h
  simp [h, Ext.name]

theorem announce_literal_accepted :
    ((parseExtensions [strBytes "permessage-deflate; server_no_context_takeover; client_no_context_takeover"]).find?
        (fun e => e.name == strBytes "permessage-deflate")).map
      (fun e => e.has (strBytes "server_no_context_takeover") && e.has (strBytes "client_no_context_takeover")) = some true := by
  have h := parse_offer
  rw [Agree.offerLit] at h
  simp [h, Ext.name, Ext.has]

end WS.HttpLogic

namespace WS.RequestLogic
open WS WS.Server

/-- C12: the exact lines of the 101 response when the application supplies no response header -/
theorem response101_lines (accept sub : Bytes) (compress : Bool)
    (ha : ∀ b ∈ accept, b ≠ 13) :
    splitCRLF (response101 accept sub compress none) [] =
      [strBytes "HTTP/1.1 101 Switching Protocols", strBytes "Upgrade: websocket", strBytes "Connection: Upgrade",
       strBytes "Sec-WebSocket-Accept: " ++ accept] ++
      (if sub.isEmpty then [] else [strBytes "Sec-WebSocket-Protocol: " ++ scrub sub]) ++
      (if compress then [strBytes "Sec-WebSocket-Extensions: permessage-deflate; server_no_context_takeover; client_no_context_takeover"] else []) ++
      [[], []] := by
  rw [HttpLogic.response101_split accept sub compress none ha (fun _ h => nomatch h)]
  simp [HttpLogic.lines101, HttpLogic.appLines]

end WS.RequestLogic
