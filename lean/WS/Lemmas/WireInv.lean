import WS.Lemmas.Moves
/-
  Wire invariant of the writer model (C02 / C10 core): for every program over the write API, fault
  script and environment answer, the bytes accepted by the transport are whole encoded frames followed
  by at most one incomplete write, which exists only if the sticky error is set.
  `2 ^ 40` bounds every payload the application hands over and the write buffer, in all writer-side
  statements: a round bound that keeps a frame (at most one buffer and one payload) below the `2 ^ 63`
  of the strict decoder (`Codec.decode_encode`).
-/
namespace WS.WireInv
open WS WS.Codec

def IsFrame (isServer : Bool) (f : Bytes) : Prop :=
  ∃ b0 key payload, b0 < 256 ∧ payload.length < 2 ^ 63 ∧ f = encode isServer b0 key payload

/-- a connection as the constructor leaves it (`newW`), with any fault script / key source / pool. `newW` allocates
    the size it is asked for, so the two bounds are conditions on the requested size; the lower one always holds for
    `reuse = none` (`WriterMore.newW_fits_control`). -/
def Fresh (s : W) : Prop :=
  s.wire = [] ∧ s.writeErr = none ∧ s.mws = [] ∧ s.handles = [] ∧ s.writer = none ∧
  maxFrameHeaderSize < s.wbufLen ∧ s.wbufLen < 2 ^ 40

/-- side conditions on the operations of a program: payloads below 2^40, a prepared image is a sequence
    of frames for this role -/
def OpOK (isServer : Bool) : Op → Prop
  | .write _ p dn _ => p.length < 2 ^ 40 ∧ ∀ c ∈ dn, c.length < 2 ^ 40
  | .readFrom _ r => ∀ c ∈ r.chunks, c.length < 2 ^ 40
  | .close _ dn _ => ∀ c ∈ dn, c.length < 2 ^ 40
  | .writeMessage _ data dnp _ dn _ => data.length < 2 ^ 40 ∧ (∀ c ∈ dnp, c.length < 2 ^ 40) ∧ ∀ c ∈ dn, c.length < 2 ^ 40
  | .writeJSON enc dnp _ dn _ => enc.length < 2 ^ 40 ∧ (∀ c ∈ dnp, c.length < 2 ^ 40) ∧ ∀ c ∈ dn, c.length < 2 ^ 40
  | .nextWriter _ dnp _ => ∀ c ∈ dnp, c.length < 2 ^ 40
  | .writePrepared t img dnp _ => (∃ fs : List Bytes, (∀ f ∈ fs, IsFrame isServer f) ∧ img = fs.flatten) ∧
      (isData t = true → ∀ c ∈ dnp, c.length < 2 ^ 40)
  | _ => True

/-- whole frames, then at most one incomplete write (a strict prefix of a frame sequence) -/
def Decomposes (isServer : Bool) (wire : Bytes) (clean : Bool) : Prop :=
  ∃ (fs : List Bytes) (tail : Bytes), wire = fs.flatten ++ tail ∧ (∀ f ∈ fs, IsFrame isServer f) ∧
    (tail = [] ∨ (clean = false ∧ ∃ (gs : List Bytes) (more : Bytes), (∀ g ∈ gs, IsFrame isServer g) ∧ more ≠ [] ∧ tail ++ more = gs.flatten))

def Whole (sv : Bool) (w : Bytes) : Prop := ∃ fs : List Bytes, w = fs.flatten ∧ ∀ f ∈ fs, IsFrame sv f

theorem Whole.nil (sv : Bool) : Whole sv [] := ⟨[], rfl, by simp⟩

theorem Whole.single {sv : Bool} {f : Bytes} (h : IsFrame sv f) : Whole sv f :=
  ⟨[f], by simp, by simpa using h⟩

theorem Whole.append {sv : Bool} {a b : Bytes} (ha : Whole sv a) (hb : Whole sv b) : Whole sv (a ++ b) := by
  obtain ⟨fs, rfl, hfs⟩ := ha
  obtain ⟨gs, rfl, hgs⟩ := hb
  refine ⟨fs ++ gs, by simp, ?_⟩
  intro f hf
  rcases List.mem_append.mp hf with h | h
  · exact hfs f h
  · exact hgs f h

theorem Decomposes.of_whole {sv : Bool} {w : Bytes} (c : Bool) (h : Whole sv w) : Decomposes sv w c := by
  obtain ⟨fs, rfl, hfs⟩ := h
  exact ⟨fs, [], by simp, hfs, Or.inl rfl⟩

theorem Decomposes.whole {sv : Bool} {w : Bytes} (h : Decomposes sv w true) : Whole sv w := by
  obtain ⟨fs, tail, rfl, hfs, ht⟩ := h
  rcases ht with rfl | ⟨hc, _⟩
  · exact ⟨fs, by simp, hfs⟩
  · cases hc

theorem Decomposes.mono {sv : Bool} {w : Bytes} {c c' : Bool} (hcc : c' = true → c = true)
    (h : Decomposes sv w c) : Decomposes sv w c' := by
  obtain ⟨fs, tail, rfl, hfs, ht⟩ := h
  refine ⟨fs, tail, rfl, hfs, ?_⟩
  rcases ht with h | ⟨hc, h⟩
  · exact Or.inl h
  · refine Or.inr ⟨?_, h⟩
    cases c' with
    | false => rfl
    | true => rw [hcc rfl] at hc; cases hc

theorem Decomposes.of_prefix {sv : Bool} {w p q : Bytes} (hw : Whole sv w) (hb : Whole sv (p ++ q)) :
    Decomposes sv (w ++ p) false := by
  by_cases hq : q = []
  · subst hq
    rw [List.append_nil] at hb
    exact Decomposes.of_whole _ (hw.append hb)
  · obtain ⟨fs, rfl, hfs⟩ := hw
    obtain ⟨gs, hg, hgs⟩ := hb
    exact ⟨fs, p, rfl, hfs, Or.inr ⟨rfl, gs, q, hgs, hq, hg⟩⟩


def GoodMW (L : Nat) (m : MW) : Prop := m.ft < 16 ∧ m.buf.length ≤ L - maxFrameHeaderSize

structure Base (sv : Bool) (L : Nat) (F : List (Nat × Fault)) (s : W) : Prop where
  isv : s.isServer = sv
  len : s.wbufLen = L
  flt : s.faults = F
  mws : ∀ m ∈ s.mws, GoodMW L m

structure Inv (sv : Bool) (L : Nat) (F : List (Nat × Fault)) (s : W) : Prop where
  base : Base sv L F s
  bound : L < 2 ^ 40
  wire : Decomposes sv s.wire (s.writeErr.isNone || F.isEmpty)

theorem Inv.whole_of_none {sv L F} {s : W} (h : Inv sv L F s) (hn : s.writeErr = none) : Whole sv s.wire := by
  have := h.wire
  rw [hn] at this
  exact Decomposes.whole (by simpa using this)

theorem Inv.congr {sv L F} {s s' : W} (h : Inv sv L F s) (h1 : s'.isServer = s.isServer)
    (h2 : s'.wbufLen = s.wbufLen) (h3 : s'.faults = s.faults) (h4 : s'.mws = s.mws)
    (h5 : s'.wire = s.wire) (h6 : s'.writeErr = s.writeErr) : Inv sv L F s' :=
  ⟨⟨h1.trans h.base.isv, h2.trans h.base.len, h3.trans h.base.flt, by rw [h4]; exact h.base.mws⟩, h.bound,
    by rw [h5, h6]; exact h.wire⟩

theorem Inv.same {sv L F} {s s' : W} (h : Inv sv L F s) (hf : s'.fixed = s.fixed) (hc : s'.core = s.core) :
    Inv sv L F s' :=
  h.congr (W.fixed_isServer hf) (W.fixed_wbufLen hf) (W.fixed_faults hf) (W.fixed_mws hf) (core_wire hc)
    (core_writeErr hc)

theorem Inv.emit {sv L F} {s : W} (e : Ev) (h : Inv sv L F s) : Inv sv L F (emit s e) := h.same rfl rfl

theorem Inv.newKey {sv L F} {s : W} (h : Inv sv L F s) : Inv sv L F (newKey s).2 := h.same rfl rfl

theorem Inv.endMessage {sv L F} {s : W} (m : MW) (e : WErr) (h : Inv sv L F s) :
    Inv sv L F (endMessage s m e).1 := h.same (endMessage_fixed s m e) (endMessage_core s m e)

theorem Inv.ensureBuf {sv L F} {s : W} (h : Inv sv L F s) : Inv sv L F (ensureBuf s) :=
  h.same (ensureBuf_fixed s) (ensureBuf_core s)

theorem Inv.writeFatal {sv L F} {s : W} (e : WErr) (h : Inv sv L F s) : Inv sv L F (writeFatal s e) := by
  unfold WS.writeFatal
  split
  · refine ⟨⟨h.base.isv, h.base.len, h.base.flt, h.base.mws⟩, h.bound, ?_⟩
    exact Decomposes.of_whole _ (h.whole_of_none (by assumption))
  · exact h

theorem Inv.wrote {sv L F} {s : W} {f : Bytes} {c : Bool} {r : Option WErr × W} (h : Inv sv L F s)
    (hn : s.writeErr = none) (hfr : Whole sv f) (hw : Wrote s f c r) : Inv sv L F r.2 := by
  have hw0 := h.whole_of_none hn
  obtain ⟨p, q, hpq, hwire, hq⟩ := hw.sent
  refine ⟨⟨(W.fixed_isServer hw.fixed).trans h.base.isv, (W.fixed_wbufLen hw.fixed).trans h.base.len,
    (W.fixed_faults hw.fixed).trans h.base.flt, by rw [W.fixed_mws hw.fixed]; exact h.base.mws⟩, h.bound, ?_⟩
  rw [hwire]
  cases hr : r.1 with
  | none =>
    rw [hq hr, List.append_nil] at hpq
    exact Decomposes.of_whole _ (hw0.append (hpq ▸ hfr))
  | some e =>
    have hF : F.isEmpty = false := by
      have := hw.fault (by rw [hr]; rfl)
      rw [h.base.flt] at this
      simpa using this
    rw [hw.err e hr, hF]
    exact Decomposes.of_prefix hw0 (hpq ▸ hfr)

theorem connWrite_inv {sv L F} (s : W) (ft d : Int) (b0 b1 : Bytes) (h : Inv sv L F s)
    (hfr : Whole sv (b0 ++ b1)) : Inv sv L F (connWrite s ft d b0 b1).2 := by
  cases hn : s.writeErr with
  | some e => rw [connWrite_of_err s ft d b0 b1 e hn]; exact h
  | none => exact h.wrote hn hfr (connWrite_spec s ft d b0 b1 hn).1

theorem GoodMW.endMessage {L} (s : W) {m : MW} (e : WErr) (hm : GoodMW L m) : GoodMW L (endMessage s m e).2 := by
  unfold WS.endMessage
  split
  · exact hm
  · exact hm

theorem header_server_key (b0 len : Nat) (k k' : Key) : header true b0 len k = header true b0 len k' := by
  simp [header]

theorem frameWrite_inv {sv L F} (s : W) (m : MW) (final : Bool) (extra : Bytes) (h : Inv sv L F s)
    (hm : GoodMW L m) (he : extra.length < 2 ^ 40) : Inv sv L F (frameWrite s m final extra).2 := by
  have hL := h.bound
  have hbuf := hm.2
  cases hn : s.writeErr with
  | some e => exact h.same (frameWrite_fixed ..) (frameWrite_of_err s m final extra (by rw [hn]; rfl)).2
  | none =>
    by_cases hx : s.isServer = true ∨ extra = []
    · refine h.wrote hn (Whole.single ⟨_, _, m.buf ++ extra, ?_, ?_, by rw [h.base.isv]⟩)
        (frameWrite_spec s m final extra hn hx).1
      · have := hm.1
        split <;> split <;> omega
      · rw [List.length_append]; omega
    · -- a client asked to send a second buffer: internal error, nothing is written
      have hsv : s.isServer = false := by simpa using fun h => hx (Or.inl h)
      have hex : (!extra.isEmpty) = true := by simpa using fun h => hx (Or.inr h)
      unfold frameWrite
      simp only [hsv, hex, Bool.false_eq_true, if_false, if_true]
      exact h.newKey.writeFatal _

theorem invMW (sv : Bool) (L : Nat) (F : List (Nat × Fault)) :
    MWInv (fun extra => extra.length < 2 ^ 40) (fun s m => Inv sv L F s ∧ GoodMW L m) where
  nil := by simp
  frameWrite := fun final _ h hx => ⟨frameWrite_inv _ _ final _ h.1 h.2 hx, h.2⟩
  endMessage := fun e h => ⟨h.1.endMessage _ e, h.2.endMessage _ e⟩
  uncompress := fun h => ⟨h.1, h.2.1, h.2.2⟩
  reset := fun h => ⟨h.1, by show 0 < 16; decide, by simp⟩
  extend := fun {s m chunk} h hc => by
    refine ⟨h.1, h.2.1, ?_⟩
    have hcap : s.cap = L - maxFrameHeaderSize := by unfold W.cap; rw [h.1.base.len]
    have := h.2.2
    simp only [List.length_append]
    omega

theorem GoodMW.default (L : Nat) : GoodMW L {} := ⟨by show 0 < 16; decide, by simp⟩

theorem getMW_good {sv L F} {s : W} (h : Inv sv L F s) (i : Nat) : GoodMW L (getMW s i) := by
  unfold getMW
  rw [List.getD_eq_getElem?_getD]
  cases hi : s.mws[i]? with
  | none => exact GoodMW.default L
  | some m => exact h.base.mws m (List.mem_of_getElem? hi)

theorem Inv.setMW {sv L F} {s : W} (i : Nat) {m : MW} (h : Inv sv L F s) (hm : GoodMW L m) :
    Inv sv L F (setMW s i m) := by
  refine ⟨⟨h.base.isv, h.base.len, h.base.flt, ?_⟩, h.bound, h.wire⟩
  intro x hx
  rcases List.mem_or_eq_of_mem_set hx with hx | rfl
  · exact h.base.mws x hx
  · exact hm

theorem Inv.setHandle {sv L F} {s : W} (j : Nat) (x : Handle) (h : Inv sv L F s) :
    Inv sv L F (setHandle s j x) := h.congr rfl rfl rfl rfl rfl rfl

theorem Inv.clearWriter {sv L F} {s : W} (h : Inv sv L F s) : Inv sv L F (clearWriter s) :=
  h.same rfl rfl

theorem Inv.hcall {sv L F} {cl : Bool} {s s' : W} {j : Nat} (h : Inv sv L F s)
    (hc : HCall (fun b => b.length < 2 ^ 40) cl s j s') : Inv sv L F s' := by
  cases hc with
  | skip _ => exact h
  | mark _ _ _ _ => exact h.setHandle _ _
  | run _ _ _ st _ =>
    have := (invMW sv L F).step st ⟨h, getMW_good h _⟩
    exact (this.1.setMW _ this.2).setHandle _ _

theorem hClose_inv {sv L F} (s : W) (j : Nat) (dn : List Bytes) (full : Bytes) (h : Inv sv L F s)
    (hdn : ∀ c ∈ dn, c.length < 2 ^ 40) : Inv sv L F (hClose s j dn full).2 := by
  have hclose : ∀ {S : W} (i : Nat), Inv sv L F S →
      Inv sv L F (setMW (mwClose S (getMW S i)).2.1 i (mwClose S (getMW S i)).2.2) := fun {S} i hS =>
    have hc := (invMW sv L F).mwClose ⟨hS, getMW_good hS i⟩
    hc.1.setMW i hc.2
  cases hj : s.handles[j]? with
  | none => rw [hClose_none dn full hj]; exact h
  | some x =>
    cases x with
    | plain i => rw [hClose_plain hj dn full]; exact hclose i h
    | flate i fo de sent =>
      cases fo with
      | false => rw [hClose_closed dn full hj]; exact h
      | true =>
        cases de with
        | some e => rw [hClose_failed dn full hj]; exact h.setHandle _ _
        | none =>
          have hfeed := (invMW sv L F).feed dn ⟨h, getMW_good h i⟩ hdn
          cases hf : feed s (getMW s i) dn with
          | mk e1 r =>
            obtain ⟨s1, m1⟩ := r
            rw [hf] at hfeed
            have hS := (hfeed.1.setMW i hfeed.2).setHandle j (.flate i false e1 (sent ++ dn.flatten))
            rcases hClose_open dn full hj hf _ rfl with ⟨_, h2⟩ | ⟨_, _, _, h2⟩ | ⟨_, h2⟩
            · rw [h2]; exact hS
            · rw [h2]; exact hS
            · rw [h2]; exact hclose i hS

theorem closePrev_inv {sv L F} (s : W) (dnp : List Bytes) (fullp : Bytes) (h : Inv sv L F s)
    (hdn : ∀ c ∈ dnp, c.length < 2 ^ 40) : Inv sv L F (closePrev s dnp fullp) := by
  unfold closePrev
  split
  · exact (hClose_inv s _ dnp fullp h hdn).clearWriter
  · exact h

theorem toNat_lt_of_op (t : Int) (h : ¬ (!isControl t && !isData t) = true) : t.toNat < 16 := by
  simp only [isControl, isData, Gen.CloseMessage, Gen.PingMessage, Gen.PongMessage, Gen.TextMessage,
    Gen.BinaryMessage] at h
  simp at h
  omega

theorem Inv.push {sv L F} {s s' : W} {m : MW} (h : Inv sv L F s) (hm : GoodMW L m)
    (h1 : s'.isServer = s.isServer) (h2 : s'.wbufLen = s.wbufLen) (h3 : s'.faults = s.faults)
    (h4 : s'.mws = s.mws ++ [m]) (h5 : s'.wire = s.wire) (h6 : s'.writeErr = s.writeErr) : Inv sv L F s' := by
  refine ⟨⟨h1.trans h.base.isv, h2.trans h.base.len, h3.trans h.base.flt, ?_⟩, h.bound,
    by rw [h5, h6]; exact h.wire⟩
  intro x hx
  rw [h4] at hx
  rcases List.mem_append.mp hx with hx | hx
  · exact h.base.mws x hx
  · rw [List.mem_singleton] at hx; subst hx; exact hm

theorem Inv.move {sv L F} {s s' : W} (h : Inv sv L F s)
    (mv : Move (fun b => b.length < 2 ^ 40) (Whole sv) (Whole sv) (fun _ _ _ _ => True) s s') : Inv sv L F s' := by
  induction mv with
  | refl s => exact h
  | trans _ _ ih1 ih2 => exact ih2 (ih1 h)
  | silent hs => exact h.congr hs.fr.isv hs.fr.len hs.fr.flt hs.fr.mws hs.wire hs.err
  | write s j p dn a hp hdn => exact h.hcall (hWrite_hcall s j p dn a hp hdn)
  | readFrom s j r => exact h.hcall (hReadFrom_hcall s j r)
  | close s j dn full hdn _ => exact hClose_inv s j dn full h hdn
  | closePrev s dnp fullp hdn _ => exact closePrev_inv s dnp fullp h hdn
  | register s t m x hw he ht hx =>
    have hm : GoodMW L m := by
      rcases hx with ⟨rfl, _⟩ | ⟨rfl, _⟩ <;> exact ⟨toNat_lt_of_op t ht, by simp⟩
    exact h.ensureBuf.push hm rfl rfl rfl rfl rfl rfl
  | fast s t data hw he ht hd =>
    have hcap : (WS.ensureBuf s).cap = L - maxFrameHeaderSize := by unfold W.cap; rw [h.ensureBuf.base.len]
    have hL := h.bound
    refine ((invMW sv L F).flushFrame true ⟨h.ensureBuf, toNat_lt_of_op t ht, ?_⟩ ?_).1
    · simp only [List.length_take]; omega
    · simp only [List.length_drop]; omega
  | ctl s ft d b hb => exact connWrite_inv s ft d b [] h (by rwa [List.append_nil])
  | data s ft d b hb _ => exact connWrite_inv s ft d b [] h (by rwa [List.append_nil])

theorem sizes_of_opOK {sv : Bool} {op : Op} (h : OpOK sv op) : op.sizes (fun b => b.length < 2 ^ 40) := by
  cases op with
  | write j p dn a => exact h
  | close j dn full => exact h
  | writeMessage t data dnp fullp dn full => exact h
  | writeJSON enc dnp fullp dn full => exact h
  | nextWriter t dnp fullp => exact h
  | writePrepared t img dnp fullp => exact h.2
  | _ => trivial

theorem applyOp_inv {sv L F} (s : W) (op : Op) (h : Inv sv L F s) (hop : OpOK sv op) :
    Inv sv L F (applyOp s op).2 := by
  refine h.move (applyOp_moves s op (sizes_of_opOK hop) ?_ ?_)
  · cases op <;> simp [Op.closes]
  · cases op with
    | writePrepared t img dnp fullp =>
      obtain ⟨⟨fs, hfs, himg⟩, _⟩ := hop
      exact Or.inl ⟨fs, himg, hfs⟩
    | writeControl t data d =>
      intro hlen ht key
      have hlen' : data.length ≤ 125 := by
        have : maxControlPayload = 125 := by decide
        omega
      have ht' : t.toNat < 16 := by
        simp only [isControl, Gen.CloseMessage, Gen.PingMessage, Gen.PongMessage] at ht
        simp at ht
        omega
      rw [controlFrame_encode _ _ _ _ hlen', h.base.isv]
      exact Whole.single ⟨_, _, _, by omega, by omega, rfl⟩
    | _ => trivial

theorem run_inv {sv L F} (s : W) (ops : List Op) (h : Inv sv L F s) (hops : ∀ op ∈ ops, OpOK sv op) :
    Inv sv L F (run s ops) := by
  induction ops generalizing s with
  | nil => exact h
  | cons op ops ih =>
    unfold run
    exact ih _ (applyOp_inv s op h (hops op (by simp))) (fun o ho => hops o (by simp [ho]))

theorem Fresh.inv {s : W} (h : Fresh s) : Inv s.isServer s.wbufLen s.faults s := by
  obtain ⟨hw, he, hm, _, _, _, hL⟩ := h
  refine ⟨⟨rfl, rfl, rfl, ?_⟩, hL, ?_⟩
  · rw [hm]; intro m hm; cases hm
  · rw [hw]; exact Decomposes.of_whole _ (Whole.nil _)

/-- C02/C10 core: while no error is recorded the wire consists of whole frames only -/
theorem wire_decomposes (s0 : W) (h0 : Fresh s0) (ops : List Op) (hops : ∀ op ∈ ops, OpOK s0.isServer op) :
    Decomposes s0.isServer (run s0 ops).wire ((run s0 ops).writeErr.isNone) := by
  have h := run_inv s0 ops h0.inv hops
  exact h.wire.mono (fun hc => by simp [hc])

theorem no_fault_whole_frames (s0 : W) (h0 : Fresh s0) (hf : s0.faults = []) (ops : List Op)
    (hops : ∀ op ∈ ops, OpOK s0.isServer op) :
    ∃ fs : List Bytes, (run s0 ops).wire = fs.flatten ∧ ∀ f ∈ fs, IsFrame s0.isServer f := by
  have h := run_inv s0 ops h0.inv hops
  have hw := h.wire
  rw [hf] at hw
  exact Decomposes.whole (by simpa using hw)

end WS.WireInv
