import WS.Lemmas.RobustReader
import WS.Lemmas.RobustHttp
/-
  Two halves that share only the namespace (Props/C07 cites both under these names): the one panic of the read
  path (`nextReader_panic_iff`, from the loop equations `WS.RobustAux`), and the header scanners of util.go on
  untrusted bytes (C07 bounds, and C12: the `1#token` scanner `lineContains` is sound and, on well-formed lists,
  complete with respect to `elements`), from the list facts `WS.Scan`.
-/
namespace WS.Robust
open WS WS.Http WS.RobustAux WS.Scan

/-- the only panic of the read path is the documented one: NextReader called on a failed connection for the
    1000th time -/
theorem nextReader_panic_iff (c : Conn) :
    (∃ c', nextReader c = (.panic, c')) ↔ (c.r.readErr.isSome ∧ 1000 ≤ c.r.errCount + 1) ∨
      (c.r.readErr = none ∧ 1000 ≤ c.r.errCount + 1 ∧ ∃ e c', nextReaderLoop c.fuel { c with r := { c.r with msgReader := none, length := 0 } } = (.err e, c')) := by
  rw [nextReader_eq]
  show _ ↔ _ ∨ (_ ∧ _ ∧ ∃ e c', nextReaderLoop c.fuel (c0 c) = (.err e, c'))
  cases hre : c.r.readErr with
  | some e0 =>
    rw [nrRes_some c e0 hre, nrFinish_panic]
    have h0 : (c0 c).r.errCount = c.r.errCount := rfl
    rw [h0]
    constructor
    · rintro ⟨_, h⟩; exact Or.inl ⟨rfl, h⟩
    · rintro (⟨_, h⟩ | ⟨h, _⟩)
      · exact ⟨⟨.any, Or.inl rfl⟩, h⟩
      · cases h
  | none =>
    rw [nrRes_none c hre]
    have hs := nextReaderLoop_ec_no_panic c.fuel (c0 c)
    have h0 : (c0 c).r.errCount = c.r.errCount := rfl
    rw [h0] at hs
    generalize nextReaderLoop c.fuel (c0 c) = x at hs ⊢
    obtain ⟨res, c1⟩ := x
    rw [nrFinish_panic]
    simp only [] at hs
    rw [hs.1]
    constructor
    · rintro ⟨⟨e, h | h⟩, hn⟩
      · exact Or.inr ⟨rfl, hn, e, c1, by rw [h]⟩
      · exact absurd (by rw [h]) (hs.2 c1)
    · rintro (⟨h, _⟩ | ⟨_, hn, e, c', h⟩)
      · cases h
      · exact ⟨⟨e, Or.inl (congrArg Prod.fst h)⟩, hn⟩

theorem nextReader_no_panic (c : Conn) (h : c.r.errCount + 1 < 1000) : ∀ c', nextReader c ≠ (.panic, c') := by
  intro c' hp
  rcases (nextReader_panic_iff c).mp ⟨c', hp⟩ with ⟨_, h1⟩ | ⟨_, h1, _⟩ <;> omega

theorem nextTokenOrQuoted_length (s : Bytes) :
    (nextTokenOrQuoted s).1.length ≤ s.length ∧ (nextTokenOrQuoted s).2.length ≤ s.length :=
  Scan.nextTokenOrQuoted_length s

theorem nextToken_split (s : Bytes) :
    (nextToken s).1 ++ (nextToken s).2 = s ∧ ∀ b ∈ (nextToken s).1, isTokenOctet b = true :=
  ⟨List.takeWhile_append_dropWhile, mem_takeWhile _ _⟩

theorem skipSpace_suffix (s : Bytes) : ∃ pre, pre ++ skipSpace s = s ∧ ∀ b ∈ pre, b = 32 ∨ b = 9 := by
  obtain ⟨pre, h1, h2⟩ := skipSpace_split s
  exact ⟨pre, h1, fun b hb => (sp_iff b).mp (h2 b hb)⟩

/-! ### C12 `contains_sound`: the list scanner never reports a token that is not an element -/

/-- `Http.trimSpace` for SP / HT only (the optional white space of RFC 7230 lists) -/
def trimOWS (s : Bytes) : Bytes :=
  ((s.dropWhile (fun b => b == 32 || b == 9)).reverse.dropWhile (fun b => b == 32 || b == 9)).reverse

/-- the elements of a comma separated list, optional white space trimmed -/
def elements (s : Bytes) : List Bytes := (splitComma s).map trimOWS

theorem trimOWS_eq (s : Bytes) : trimOWS s = ((s.dropWhile sp).reverse.dropWhile sp).reverse := rfl

theorem trimOWS_sandwich (a t w : Bytes) (ha : ∀ b ∈ a, sp b = true) (hw : ∀ b ∈ w, sp b = true)
    (ht : t ≠ []) (htok : ∀ b ∈ t, isTokenOctet b = true) : trimOWS (a ++ (t ++ w)) = t := by
  rw [trimOWS_eq, List.dropWhile_append_of_pos ha, dropWhile_sp_tok t w ht htok, List.reverse_append,
    List.dropWhile_append_of_pos (fun b hb => hw b (List.mem_reverse.mp hb))]
  have hr : t.reverse ≠ [] := by simpa using ht
  have := dropWhile_sp_tok t.reverse [] hr (fun b hb => htok b (List.mem_reverse.mp hb))
  rw [List.append_nil] at this
  rw [this, List.reverse_reverse]

theorem trimOWS_decomp (p : Bytes) :
    ∃ a w, p = a ++ (trimOWS p ++ w) ∧ (∀ b ∈ a, sp b = true) ∧ (∀ b ∈ w, sp b = true) := by
  refine ⟨p.takeWhile sp, (((p.dropWhile sp).reverse).takeWhile sp).reverse, ?_, mem_takeWhile _ _, ?_⟩
  · rw [trimOWS_eq, ← List.reverse_append, List.takeWhile_append_dropWhile, List.reverse_reverse,
      List.takeWhile_append_dropWhile]
  · intro b hb
    exact mem_takeWhile _ _ b (List.mem_reverse.mp hb)

theorem elements_last (a t w : Bytes) (ha : ∀ b ∈ a, sp b = true) (hw : ∀ b ∈ w, sp b = true)
    (ht : t ≠ []) (htok : ∀ b ∈ t, isTokenOctet b = true) : elements (a ++ (t ++ w)) = [t] := by
  unfold elements
  rw [splitComma_nocomma _ (no_comma a t w ha hw htok), List.map_cons, List.map_nil,
    trimOWS_sandwich a t w ha hw ht htok]

theorem elements_more (a t w rest : Bytes) (ha : ∀ b ∈ a, sp b = true) (hw : ∀ b ∈ w, sp b = true)
    (ht : t ≠ []) (htok : ∀ b ∈ t, isTokenOctet b = true) :
    elements (a ++ (t ++ (w ++ 44 :: rest))) = t :: elements rest := by
  unfold elements
  have : a ++ (t ++ (w ++ 44 :: rest)) = (a ++ (t ++ w)) ++ 44 :: rest := by
    simp only [List.append_assoc]
  rw [this, splitComma_append _ _ (no_comma a t w ha hw htok), List.map_cons,
    trimOWS_sandwich a t w ha hw ht htok]

theorem sound_aux (v : Bytes) : ∀ (fuel : Nat) (s : Bytes), lineContainsAux fuel s v = true →
    ∃ e ∈ elements s, e ≠ [] ∧ (∀ b ∈ e, isTokenOctet b = true) ∧ equalASCIIFold e v = true := by
  intro fuel
  induction fuel with
  | zero => intro s h; unfold lineContainsAux at h; cases h
  | succ n ih =>
    intro s h
    rw [lca_succ] at h
    obtain ⟨a, ha1, ha2⟩ := skipSpace_split s
    obtain ⟨hn1, hn2⟩ := nextToken_split (skipSpace s)
    generalize (nextToken (skipSpace s)).1 = t at h hn1 hn2
    generalize (nextToken (skipSpace s)).2 = s1 at h hn1
    obtain ⟨w, hw1, hw2⟩ := skipSpace_split s1
    generalize skipSpace s1 = s2 at h hw1
    generalize skipSpace s = s' at ha1 hn1
    subst hw1; subst hn1; subst ha1
    split at h
    · cases h
    · rename_i hte
      have ht : t ≠ [] := by
        intro h0; rw [h0] at hte; exact hte rfl
      split at h
      · rw [List.append_nil, elements_last a t w ha2 hw2 ht hn2]
        exact ⟨t, List.mem_singleton.mpr rfl, ht, hn2, h⟩
      · rename_i c rest
        split at h
        · cases h
        · rename_i hc
          have hc' : c = 44 := by simpa using hc
          subst hc'
          rw [elements_more a t w rest ha2 hw2 ht hn2]
          split at h
          · rename_i hf
            exact ⟨t, List.mem_cons_self .., ht, hn2, hf⟩
          · obtain ⟨e, he, h1, h2, h3⟩ := ih rest h
            exact ⟨e, List.mem_cons_of_mem _ he, h1, h2, h3⟩

theorem complete_aux (v : Bytes) : ∀ (fuel : Nat) (s : Bytes), s.length < fuel →
    (∀ e ∈ elements s, e ≠ [] ∧ ∀ b ∈ e, isTokenOctet b = true) →
    (∃ e ∈ elements s, equalASCIIFold e v = true) → lineContainsAux fuel s v = true := by
  intro fuel
  induction fuel with
  | zero => intro s h; omega
  | succ n ih =>
    intro s hlen hwf h
    obtain ⟨p, hp, hs⟩ := comma_split s
    obtain ⟨a, w, hdec, ha, hw⟩ := trimOWS_decomp p
    generalize ht : trimOWS p = t at hdec
    rcases hs with hs | ⟨rest, hs⟩
    · have hel : elements s = [t] := by
        unfold elements; rw [hs, splitComma_nocomma p hp, List.map_cons, List.map_nil, ht]
      rw [hel] at hwf h
      obtain ⟨htne, htok⟩ := hwf t (List.mem_singleton.mpr rfl)
      obtain ⟨e, he, hf⟩ := h
      rw [List.mem_singleton.mp he] at hf
      obtain ⟨q1, q2⟩ := scan_eq a t w [] ha hw htne htok (Or.inl rfl)
      rw [List.append_nil] at q1 q2
      rw [lca_succ, hs, hdec, q1]
      simp only [q2]
      rw [if_neg (by simpa using htne)]
      exact hf
    · have hel : elements s = t :: elements rest := by
        unfold elements; rw [hs, splitComma_append p rest hp, List.map_cons, ht]
      rw [hel] at hwf h
      obtain ⟨htne, htok⟩ := hwf t (List.mem_cons_self ..)
      obtain ⟨q1, q2⟩ := scan_eq a t w (44 :: rest) ha hw htne htok (Or.inr ⟨rest, rfl⟩)
      have hs' : s = a ++ (t ++ (w ++ 44 :: rest)) := by
        rw [hs, hdec]; simp only [List.append_assoc]
      rw [lca_succ, hs', q1]
      simp only [q2]
      rw [if_neg (by simpa using htne), if_neg (by decide)]
      by_cases hf : equalASCIIFold t v = true
      · rw [if_pos hf]
      · rw [if_neg hf]
        apply ih rest
        · have := congrArg List.length hs
          simp only [List.length_append, List.length_cons] at this
          omega
        · intro e he; exact hwf e (List.mem_cons_of_mem _ he)
        · obtain ⟨e, he, hfe⟩ := h
          rcases List.mem_cons.mp he with rfl | he
          · exact absurd hfe hf
          · exact ⟨e, he, hfe⟩

/-- C12, for arbitrary byte strings: "websockets" or "xupgrade" can never pass for "websocket" / "upgrade" -/
theorem contains_sound (s v : Bytes) (h : lineContains s v = true) :
    ∃ e ∈ elements s, e ≠ [] ∧ (∀ b ∈ e, isTokenOctet b = true) ∧ equalASCIIFold e v = true :=
  sound_aux v _ s h

theorem contains_complete (s v : Bytes)
    (hwf : ∀ e ∈ elements s, e ≠ [] ∧ ∀ b ∈ e, isTokenOctet b = true)
    (h : ∃ e ∈ elements s, equalASCIIFold e v = true) :
    lineContains s v = true :=
  complete_aux v _ s (Nat.lt_succ_self _) hwf h

end WS.Robust
