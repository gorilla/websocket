import WS.Lemmas.SrcLaw
/-
  C17 (client side): http.ReadResponse reads the 101 header block line by line (ReadSlice('\n')) from the
  connection's own bufio.Reader; whatever the transport chunking and the buffer size, it consumes exactly the
  header lines, so bytes glued to the handshake are neither lost nor duplicated.
-/
namespace WS.LineLaw
open WS WS.SrcLaw

theorem split_none (rest : Bytes) : ∀ (buf line tp : Bytes), (10 : UInt8) ∉ buf → (10 : UInt8) ∉ line →
    buf ++ tp = line ++ 10 :: rest → ∃ line', line = buf ++ line' ∧ tp = line' ++ 10 :: rest := by
  intro buf
  induction buf with
  | nil => intro line tp _ _ h; exact ⟨line, rfl, by simpa using h⟩
  | cons x buf ih =>
    intro line tp hb hl h
    cases line with
    | nil =>
      simp at h
      exact absurd h.1 (by intro hx; apply hb; simp [hx])
    | cons y line =>
      simp at h
      obtain ⟨hxy, h⟩ := h
      obtain ⟨l', e1, e2⟩ := ih line tp (by intro hc; apply hb; simp [hc]) (by intro hc; apply hl; simp [hc]) h
      exact ⟨l', by rw [hxy, e1]; rfl, e2⟩

theorem split_some (rest : Bytes) : ∀ (buf line tp : Bytes) (i : Nat), buf.idxOf? (10 : UInt8) = some i →
    (10 : UInt8) ∉ line → buf ++ tp = line ++ 10 :: rest → buf.drop (i + 1) ++ tp = rest := by
  intro buf
  induction buf with
  | nil => intro line tp i h; simp at h
  | cons x buf ih =>
    intro line tp i hi hl h
    rw [List.idxOf?_cons] at hi
    cases line with
    | nil =>
      simp at h
      simp [h.1] at hi
      subst hi
      simpa using h.2
    | cons y line =>
      simp at h
      obtain ⟨hxy, h⟩ := h
      have hx : x ≠ 10 := by intro hc; apply hl; simp [← hxy, hc]
      simp [hx] at hi
      obtain ⟨j, hj, rfl⟩ := hi
      have := ih line tp j hj (by intro hc; apply hl; simp [hc]) h
      simpa using this

theorem readLine_total (fuel : Nat) : ∀ b : Buf, (b.readLine fuel).total = b.total := by
  induction fuel with
  | zero => intro b; rfl
  | succ f ih =>
    intro b
    unfold Buf.readLine
    split
    · rfl
    · split
      · rfl
      · split
        · rw [ih]
        · rw [ih, fill_eq]

theorem readLine_aux (rest : Bytes) (fuel : Nat) : ∀ (b : Buf) (line : Bytes), WF b → (10 : UInt8) ∉ line →
    b.pending = line ++ 10 :: rest → 2 * b.pending.length + 1 ≤ fuel + b.buf.length →
    WF (b.readLine fuel) ∧ (b.readLine fuel).pending = rest ∧ Same b (b.readLine fuel) := by
  induction fuel with
  | zero =>
    intro b line h hl hp hf
    have : b.buf.length ≤ b.pending.length := by simp [Buf.pending]
    have : 0 < b.pending.length := by rw [hp]; simp; omega
    omega
  | succ f ih =>
    intro b line h hl hp hf
    have hble : b.buf.length ≤ b.pending.length := by simp [Buf.pending]
    unfold Buf.readLine
    split
    next i hi =>
      refine ⟨⟨h.size_pos, ?_, h.chunks, h.latched⟩, ?_, Same.refl b⟩
      · have := h.len_le
        simp only [List.length_drop]; omega
      · exact split_some rest b.buf line b.t.pending i hi hl hp
    next hnone =>
      have hnb : (10 : UInt8) ∉ b.buf := List.idxOf?_eq_none_iff.mp hnone
      obtain ⟨line', e1, e2⟩ := split_none rest b.buf line b.t.pending hnb hl hp
      have hl' : (10 : UInt8) ∉ line' := by intro hc; apply hl; rw [e1]; simp [hc]
      have hch : b.t.chunks ≠ [] := by
        intro hc
        have : b.t.pending = [] := by simp [TSrc.pending, hc]
        rw [this] at e2
        simp at e2
      split
      next he =>
        cases hb : b.err with
        | none => simp [hb] at he
        | some e => exact absurd (h.latched e hb).1 hch
      next he =>
        split
        next hfull =>
          have hpos := h.size_pos
          obtain ⟨i1, i2, i3⟩ := ih { b with buf := [] } line' ⟨h.size_pos, by simp, h.chunks, h.latched⟩ hl'
            (by simpa [Buf.pending] using e2)
            (by
              have : b.pending.length = b.buf.length + b.t.pending.length := by simp [Buf.pending]
              simp only [Buf.pending, List.nil_append, List.length_nil]
              omega)
          exact ⟨i1, i2, i3⟩
        next hfull =>
          obtain ⟨f1, f2, f3, f4⟩ := fill_spec b h (by omega)
          have f4' : b.buf.length < b.fill.buf.length := by
            rcases f4 with f4 | f4
            · exact f4
            · have q := (pending_of_err _ f2 f4).1
              have hne : b.t.pending ≠ [] := fun hc => hch ((tpending_nil_iff b.t h.chunks).mp hc)
              have hpos : 0 < b.t.pending.length := List.length_pos_iff.mpr hne
              have hlen : b.pending.length = b.buf.length + b.t.pending.length := by simp [Buf.pending]
              rw [← q, f1]; omega
          obtain ⟨i1, i2, i3⟩ := ih b.fill line f2 hl (by rw [f1, hp]) (by rw [f1]; omega)
          exact ⟨i1, i2, f3.trans i3⟩

/-- `hs` is not used: 16 is bufio's `minReadBufferSize`, the smallest size a bufio.Reader can have. The fuel bound is the
    driver's; `readLine_aux` needs one less (a round either fills, or drops a full buffer: `2 * pending + 1 - buf` rounds). -/
theorem readLine_spec (b : Buf) (h : WF b) (hs : 16 ≤ b.size) (line rest : Bytes) (hl : (10 : UInt8) ∉ line)
    (hp : b.pending = line ++ 10 :: rest) (fuel : Nat) (hf : 2 * b.pending.length + 2 ≤ fuel) :
    WF (b.readLine fuel) ∧ (b.readLine fuel).pending = rest ∧ Same b (b.readLine fuel) := by
  have _ := hs
  exact readLine_aux rest fuel b line h hl hp (by omega)

/-- the header block as a list of lines (each without its newline) followed by `rest` -/
def block (lines : List Bytes) (rest : Bytes) : Bytes :=
  (lines.map (fun l => l ++ [10])).flatten ++ rest

/-- C17; the fuel is the driver's: twice the ghost size of the transport script, plus two -/
theorem client_header_block_consumed_exactly (lines : List Bytes) (hl : ∀ l ∈ lines, (10 : UInt8) ∉ l) (b : Buf) (h : WF b) (hs : 16 ≤ b.size)
    (htot : b.pending.length ≤ b.total)
    (rest : Bytes) (hp : b.pending = block lines rest) :
    let b' := lines.foldl (fun b _ => b.readLine (2 * b.total + 2)) b
    WF b' ∧ b'.pending = rest ∧ Same b b' ∧ b'.total = b.total := by
  induction lines generalizing b with
  | nil =>
    refine ⟨h, ?_, Same.refl b, rfl⟩
    simpa [block] using hp
  | cons l ls ih =>
    have hp' : b.pending = l ++ 10 :: block ls rest := by
      rw [hp]; simp [block]
    obtain ⟨r1, r2, r3⟩ := readLine_spec b h hs l (block ls rest) (hl l (by simp)) hp'
      (2 * b.total + 2) (by omega)
    have ht := readLine_total (2 * b.total + 2) b
    have hlen : (b.readLine (2 * b.total + 2)).pending.length ≤ (b.readLine (2 * b.total + 2)).total := by
      rw [r2, ht]
      have : b.pending.length = l.length + ((block ls rest).length + 1) := by rw [hp']; simp
      omega
    obtain ⟨i1, i2, i3, i4⟩ := ih (fun l' h' => hl l' (by simp [h'])) (b.readLine (2 * b.total + 2)) r1
      (by rw [r3.1]; exact hs) hlen r2
    exact ⟨i1, i2, r3.trans i3, i4.trans ht⟩

end WS.LineLaw
