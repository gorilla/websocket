import WS.Lemmas.WireInv
import WS.Lemmas.ZFlow
/-
  C01 / C02: the unmasked payloads on the wire reproduce what the application wrote, one wire message
  per API-level message, in call order, for every buffer size, role and split of the writes, with
  control messages in between. Three namespaces: `WS.CompressedWrite.IdleG`, what `Content.Idle`
  (nothing negotiated) and `CompressedWrite.IdleZ` (permessage-deflate negotiated and switched on)
  share, for which, with `MidP`, the helper lemmas are stated; `WS.Content` (NextWriter … Close,
  WriteMessage, WriteControl); `WS.ContentRF`, the same with ReadFrom among the pieces (`Piece2`), and at the end the io.ReaderFrom
  contract of ReadFrom itself.
-/
namespace WS.CompressedWrite
open WS

/-- `Idle` without any assumption about negotiation -/
structure IdleG (s : W) : Prop where
  healthy : s.writeErr = none
  noFaults : s.faults = []
  noWriter : s.writer = none
  dead : ∀ m ∈ s.mws, m.err.isSome
  size : maxFrameHeaderSize < s.wbufLen ∧ s.wbufLen < 2 ^ 40
  whole : ∃ fs, Spec.decodeStream s.wire = some fs ∧ Spec.endsInMsg false fs = false

end WS.CompressedWrite

namespace WS.Content
open WS WS.Codec WS.WireInv WS.CompressedWrite

/-- the data messages / control frames the wire encodes, as judged by the strict RFC decoder -/
def wireMessages (s : W) : List Spec.Msg := Spec.messages (Spec.decodePrefixAux s.wire.length s.wire)
def wireControls (s : W) : List (Nat × Bytes) := Spec.controls (Spec.decodePrefixAux s.wire.length s.wire)

/-- a connection between messages, nothing negotiated -/
structure Idle (s : W) : Prop where
  healthy : s.writeErr = none
  noFaults : s.faults = []
  noWriter : s.writer = none
  dead : ∀ m ∈ s.mws, m.err.isSome
  size : maxFrameHeaderSize < s.wbufLen ∧ s.wbufLen < 2 ^ 40
  whole : ∃ fs, Spec.decodeStream s.wire = some fs ∧ Spec.endsInMsg false fs = false
  plain : s.nego = false

/-- the pieces of one data message written through NextWriter: Write / WriteString calls, with
    WriteControl calls (ping / pong, ≤ 125 bytes, deadline not in the past) in between -/
inductive Piece
  | write (p : Bytes) (asString : Bool)
  | control (t : Nat) (data : Bytes) (d : Nat)

def Piece.ok : Piece → Prop
  | .write p _ => p.length < 2 ^ 40
  | .control t data _ => (t = 9 ∨ t = 10) ∧ data.length ≤ 125

def Piece.op (h : Nat) : Piece → Op
  | .write p a => .write h p [] a
  | .control t data d => .writeControl t data d

def Piece.bytes : Piece → Bytes
  | .write p _ => p
  | .control _ _ _ => []

def Piece.ctl : Piece → List (Nat × Bytes)
  | .write _ _ => []
  | .control t data _ => [(t, data)]

/-- the handle NextWriter will return in state `s` -/
def nextHandle (s : W) : Nat := s.handles.length

def messageOps (s : W) (t : Nat) (ps : List Piece) : List Op :=
  [.nextWriter t [] []] ++ ps.map (Piece.op (nextHandle s)) ++ [.close (nextHandle s) [] []]

section Helpers
open WS.Stream WS.Flow WS.ZFlow

theorem Idle.toG {s : W} (hi : Idle s) : IdleG s :=
  ⟨hi.healthy, hi.noFaults, hi.noWriter, hi.dead, hi.size, hi.whole⟩

theorem _root_.WS.CompressedWrite.IdleG.toIdle {s : W} (hi : IdleG s) (hn : s.nego = false) : Idle s :=
  ⟨hi.healthy, hi.noFaults, hi.noWriter, hi.dead, hi.size, hi.whole, hn⟩

theorem _root_.WS.CompressedWrite.IdleG.wireSt {s : W} (hi : IdleG s) :
    WireSt s.wire (wireMessages s) (wireControls s) none := by
  obtain ⟨fs, hd, he⟩ := hi.whole
  exact WireSt.of_stream hd he

theorem Idle.wireSt {s : W} (hi : Idle s) : WireSt s.wire (wireMessages s) (wireControls s) none :=
  hi.toG.wireSt

theorem wire_of_wireSt {s : W} {M C cur} (h : WireSt s.wire M C cur) : wireMessages s = M ∧ wireControls s = C :=
  h.prefix

theorem idleG_of_wireSt {s : W} {M C} (he : s.writeErr = none) (hf : s.faults = []) (hw : s.writer = none)
    (hd : ∀ m ∈ s.mws, m.err.isSome) (hs : maxFrameHeaderSize < s.wbufLen ∧ s.wbufLen < 2 ^ 40)
    (hws : WireSt s.wire M C none) : IdleG s ∧ wireMessages s = M ∧ wireControls s = C :=
  ⟨⟨he, hf, hw, hd, hs, WireSt.ends hws⟩, wire_of_wireSt hws⟩

theorem _root_.WS.CompressedWrite.IdleG.of_keep {s s' : W} {M C} (hi : IdleG s) (hk : Keep s s')
    (hw : s'.writer = none) (hws : WireSt s'.wire M C none) :
    IdleG s' ∧ wireMessages s' = M ∧ wireControls s' = C :=
  idleG_of_wireSt (hk.writeErr.trans hi.healthy) (hk.faults.trans hi.noFaults) hw (by rw [hk.mws]; exact hi.dead)
    (by rw [hk.wbufLen]; exact hi.size) hws

theorem _root_.WS.WireInv.Fresh.idleG {s : W} (h : Fresh s) (hf : s.faults = []) : IdleG s := by
  obtain ⟨hw, he, hm, _, hwr, hsz⟩ := h
  exact ⟨he, hf, hwr, by rw [hm]; nofun, hsz, [], by rw [hw]; rfl, rfl⟩

theorem _root_.WS.WireInv.Fresh.idle {s : W} (h : Fresh s) (hf : s.faults = []) (hn : s.nego = false) : Idle s :=
  (h.idleG hf).toIdle hn

/-- the fast path of `writeMessage` is taken by servers only, and by every server that has not
    negotiated compression -/
theorem server_of_fast {s : W} (hc : (s.isServer && (!s.nego || !s.enableWC)) = true) : s.isServer = true := by
  simp only [Bool.and_eq_true] at hc; exact hc.1

theorem client_of_not_fast {s : W} (hn : s.nego = false) (hc : ¬ (s.isServer && (!s.nego || !s.enableWC)) = true) :
    s.isServer = false := by
  cases hs : s.isServer with
  | false => rfl
  | true => rw [hs, hn] at hc; simp at hc

/-- while the data message of plain handle `h` (opcode `t`) is being written: its message writer is the
    last one, all earlier ones are dead; `n` = compression negotiated -/
structure MidP (n : Bool) (s : W) (h : Nat) (t : Nat) (M : List Spec.Msg) (C : List (Nat × Bytes)) (acc : Bytes) : Prop where
  nego : s.nego = n
  mw : ∃ pre m, s.mws = pre ++ [m] ∧ (∀ x ∈ pre, x.err.isSome) ∧ s.handles[h]? = some (.plain pre.length) ∧
    MidZ s m t false M C acc

theorem run_append (s : W) (a b : List Op) : run s (a ++ b) = run (run s a) b := by
  induction a generalizing s with
  | nil => rfl
  | cons op a ih => simp only [List.cons_append, run]; exact ih _

theorem set_last (pre : List MW) (m m' : MW) : (pre ++ [m]).set pre.length m' = pre ++ [m'] := by
  simp

theorem getMW_last (s : W) (pre : List MW) (m : MW) (h : s.mws = pre ++ [m]) : getMW s pre.length = m := by
  simp [getMW, h]

theorem beginMessage_ok {s : W} (hw : s.writer = none) (he : s.writeErr = none) (t : Nat)
    (ht : t = 1 ∨ t = 2 ∨ t = 9 ∨ t = 10) :
    beginMessage s (t : Int) [] [] = (.ok { ft := t }, ensureBuf s) := by
  have hd : (!isControl (t : Int) && !isData (t : Int)) = false := by
    rcases ht with rfl | rfl | rfl | rfl <;> decide
  unfold beginMessage closePrev beginMessage'
  rw [hw]
  simp only [hd, Bool.false_eq_true, if_false, he, Int.toNat_natCast]

/-- `buf`: the fast path of WriteMessage starts with a first buffer -/
theorem midZ_start {s : W} (hi : IdleG s) (t : Nat) (z : Bool) (s1 : W) (he : s1.writeErr = s.writeErr)
    (hf : s1.faults = s.faults) (hl : s1.wbufLen = s.wbufLen) (hw : s1.wire = s.wire) (buf : Bytes)
    (hb : buf.length ≤ s1.cap) :
    MidZ s1 { ft := t, compress := z, buf := buf } t z (wireMessages s) (wireControls s) buf := by
  refine ⟨he.trans hi.healthy, hf.trans hi.noFaults, by rw [hl]; exact hi.size, rfl, hb, [], rfl,
    Or.inl ⟨rfl, rfl, rfl, ?_⟩⟩
  rw [hw]; exact hi.wireSt

theorem nextWriter_plain {s : W} (hw : s.writer = none) (he : s.writeErr = none) (t : Nat)
    (ht : t = 1 ∨ t = 2 ∨ t = 9 ∨ t = 10) (hz : (s.nego && s.enableWC && isData (t : Int)) = false) :
    nextWriter s (t : Int) [] [] = (.ok (nextHandle s),
      { ensureBuf s with mws := (ensureBuf s).mws ++ [{ ft := t }],
                         handles := (ensureBuf s).handles ++ [.plain (ensureBuf s).mws.length],
                         writer := some (ensureBuf s).handles.length }) := by
  have hf := ensureBuf_fixed s
  have hz' : ((ensureBuf s).nego && (ensureBuf s).enableWC && isData (t : Int)) = false := by
    rw [W.fixed_nego hf, W.fixed_enableWC hf]; exact hz
  unfold nextWriter
  rw [beginMessage_ok hw he t ht]
  simp only [hz', Bool.false_eq_true, if_false]
  rw [nextHandle, ← W.fixed_handles hf]

theorem nextWriter_idleP {s : W} (hi : IdleG s) (hz : (s.nego && s.enableWC) = false) (t : Nat) (ht : t = 1 ∨ t = 2) :
    (nextWriter s (t : Int) [] []).1 = .ok (nextHandle s) ∧
    MidP s.nego (nextWriter s (t : Int) [] []).2 (nextHandle s) t (wireMessages s) (wireControls s) [] := by
  have hk := Keep.ensureBuf s
  rw [nextWriter_plain hi.noWriter hi.healthy t (by omega) (by rw [hz]; rfl)]
  refine ⟨rfl, hk.nego, (ensureBuf s).mws, { ft := t }, rfl, ?_, ?_, ?_⟩
  · rw [hk.mws]; exact hi.dead
  · simp [nextHandle, hk.handles]
  · exact (midZ_start hi t false _ hk.writeErr hk.faults hk.wbufLen (ensureBuf_wire s).1 [] (Nat.zero_le _)).congr
      rfl rfl rfl rfl

theorem MidP.step {n : Bool} {s s' : W} {h t : Nat} {M C acc} {pre : List MW} {m m' : MW} (hn : s.nego = n)
    (hmws : s.mws = pre ++ [m]) (hdead : ∀ x ∈ pre, x.err.isSome) (hh : s.handles[h]? = some (.plain pre.length))
    (hf : s'.fixed = s.fixed) (hmid : MidZ s' m' t false M C acc) :
    MidP n (setMW s' pre.length m') h t M C acc := by
  refine ⟨(W.fixed_nego hf).trans hn, pre, m', ?_, hdead, ?_, hmid.of_core rfl rfl⟩
  · show s'.mws.set pre.length m' = _
    rw [W.fixed_mws hf, hmws, set_last]
  · show s'.handles[h]? = _
    rw [W.fixed_handles hf]; exact hh

theorem hWrite_midP {n : Bool} {s : W} {h t : Nat} {M C acc} (hM : MidP n s h t M C acc) (ht : t = 1 ∨ t = 2)
    (p : Bytes) (hp : p.length < 2 ^ 40) (dn : List Bytes) (a : Bool) :
    (hWrite s h p dn a).1.2 = none ∧ MidP n (hWrite s h p dn a).2 h t M C (acc ++ p) := by
  obtain ⟨pre, m, hmws, hdead, hh, hmid⟩ := hM.mw
  rw [hWrite_plain hh p dn a _ rfl, getMW_last s pre m hmws]
  cases a with
  | false =>
    have hw := mwWrite_midZ p hmid ht hp
    exact ⟨hw.1, .step hM.nego hmws hdead hh (mwWrite_fixed s m p) hw.2⟩
  | true =>
    have hw := mwWriteString_midZ p hmid ht
    exact ⟨hw.1, .step hM.nego hmws hdead hh (mwWriteString_fixed s m p) hw.2⟩

theorem hReadFrom_midP {n : Bool} {s : W} {h t : Nat} {M C acc} (hM : MidP n s h t M C acc) (ht : t = 1 ∨ t = 2)
    (r : Src) (hr : r.term = none) :
    (hReadFrom s h r).1 = none ∧ MidP n (hReadFrom s h r).2 h t M C (acc ++ r.chunks.flatten) := by
  obtain ⟨pre, m, hmws, hdead, hh, hmid⟩ := hM.mw
  rw [hReadFrom_plain hh, getMW_last s pre m hmws]
  have hw := mwReadFrom_midZ r hmid ht hr
  exact ⟨congrArg Prod.snd hw.1, .step hM.nego hmws hdead hh (mwReadFrom_fixed s m r) hw.2⟩

theorem writeControl_midP {n : Bool} {s : W} {h t : Nat} {M C acc} (hM : MidP n s h t M C acc) (ct : Nat)
    (hct : ct = 9 ∨ ct = 10) (data : Bytes) (hd : data.length ≤ 125) (d : Nat) :
    (writeControl s ct data d).1 = none ∧ MidP n (writeControl s ct data d).2 h t M (C ++ [(ct, data)]) acc := by
  obtain ⟨pre, m, hmws, hdead, hh, hmid⟩ := hM.mw
  have hc := midZ_control hmid ct hct data hd d
  have hf := writeControl_fixed s ct data d
  exact ⟨hc.1, (W.fixed_nego hf).trans hM.nego, pre, m, by rw [W.fixed_mws hf]; exact hmws, hdead,
    by rw [W.fixed_handles hf]; exact hh, hc.2⟩

theorem close_result {s : W} {pre : List MW} {m : MW} {t : Nat} {z : Bool} {M C acc}
    (hmws : s.mws = pre ++ [m]) (hdead : ∀ x ∈ pre, x.err.isSome) (hmid : MidZ s m t z M C acc) (ht : t = 1 ∨ t = 2) :
    (mwClose s m).1 = none ∧ IdleG (setMW (mwClose s m).2.1 pre.length (mwClose s m).2.2) ∧
    wireMessages (setMW (mwClose s m).2.1 pre.length (mwClose s m).2.2) = M ++ [⟨t, z, acc⟩] ∧
    wireControls (setMW (mwClose s m).2.1 pre.length (mwClose s m).2.2) = C := by
  obtain ⟨he, hk, hwr, herr, hws⟩ := mwClose_finZ hmid ht
  have hsz : maxFrameHeaderSize < (mwClose s m).2.1.wbufLen ∧ (mwClose s m).2.1.wbufLen < 2 ^ 40 := by
    rw [hk.wbufLen]; exact hmid.size
  refine ⟨he, idleG_of_wireSt (hk.writeErr.trans hmid.healthy) (hk.faults.trans hmid.noFaults) hwr ?_ hsz hws⟩
  intro x hx
  have hx' : x ∈ pre ++ [(mwClose s m).2.2] := by
    have : (setMW (mwClose s m).2.1 pre.length (mwClose s m).2.2).mws = pre ++ [(mwClose s m).2.2] := by
      show (mwClose s m).2.1.mws.set pre.length _ = _
      rw [hk.mws, hmws, set_last]
    rw [← this]; exact hx
  rcases List.mem_append.mp hx' with hx' | hx'
  · exact hdead x hx'
  · rw [List.mem_singleton] at hx'; subst hx'; exact herr

theorem hClose_midP {n : Bool} {s : W} {h t : Nat} {M C acc} (hM : MidP n s h t M C acc) (ht : t = 1 ∨ t = 2)
    (dn : List Bytes) (full : Bytes) :
    (hClose s h dn full).1 = none ∧ IdleG (hClose s h dn full).2 ∧ (hClose s h dn full).2.nego = n ∧
    wireMessages (hClose s h dn full).2 = M ++ [⟨t, false, acc⟩] ∧ wireControls (hClose s h dn full).2 = C := by
  obtain ⟨pre, m, hmws, hdead, hh, hmid⟩ := hM.mw
  rw [hClose_plain hh, getMW_last s pre m hmws]
  have hc := close_result hmws hdead hmid ht
  exact ⟨hc.1, hc.2.1, (W.fixed_nego (mwClose_fixed s m)).trans hM.nego, hc.2.2⟩

theorem writeMessage_plainG (s : W) (hi : IdleG s) (hz : (s.nego && s.enableWC) = false) (t : Nat)
    (ht : t = 1 ∨ t = 2) (data : Bytes) (hd : data.length < 2 ^ 40) :
    (writeMessage s t data).1 = none ∧ IdleG (writeMessage s t data).2 ∧
    (writeMessage s t data).2.nego = s.nego ∧
    wireMessages (writeMessage s t data).2 = wireMessages s ++ [⟨t, false, data⟩] ∧
    wireControls (writeMessage s t data).2 = wireControls s := by
  unfold writeMessage
  split
  · rename_i hc
    have hsv := server_of_fast hc
    rw [beginMessage_ok hi.noWriter hi.healthy t (by omega)]
    dsimp only
    have hk := Keep.ensureBuf s
    have hcap : (ensureBuf s).cap < 2 ^ 40 := by
      have := hi.size
      rw [hk.cap]; unfold W.cap; omega
    have hmid := midZ_start hi t false (ensureBuf s) hk.writeErr hk.faults hk.wbufLen (ensureBuf_wire s).1
      (data.take (min (ensureBuf s).cap data.length)) (by simp only [List.length_take]; omega)
    have hf := flush_finalZ hmid ht (data.drop (min (ensureBuf s).cap data.length))
      (by simp only [List.length_drop]; omega) (Or.inl (hk.isServer.trans hsv))
    rw [List.take_append_drop] at hf
    obtain ⟨he, hk2, hwr, _, hws⟩ := hf
    have h := hi.of_keep (hk.trans hk2) hwr hws
    exact ⟨he, h.1, (hk.trans hk2).nego, h.2⟩
  · have hnw := nextWriter_idleP hi hz t ht
    split
    · rename_i heq
      rw [heq] at hnw
      exact absurd hnw.1 (by simp)
    · rename_i h s1 heq
      rw [heq] at hnw
      obtain ⟨hh, hmid⟩ := hnw
      simp only [Except.ok.injEq] at hh
      subst hh
      have hw := hWrite_midP hmid ht data hd [] false
      split
      · rename_i heq2
        rw [heq2] at hw
        exact absurd hw.1 (by simp)
      · rename_i heq2
        rw [heq2] at hw
        have hc := hClose_midP hw.2 ht [] []
        simp only [List.nil_append] at hc
        exact hc

/-- WriteMessage of a data message that will not be compressed, for any loop invariant `P` that reads
    the connection only through `core`, buffer size and key source (`hresp`): either way (fast path, or
    NextWriter + Write + Close) the call ends in one final flush from a state satisfying `P` with all
    but `extra` of the payload accepted. -/
theorem writeMessage_walk {P : W → MW → Bytes → Prop} (hP : ReadFromLoop.LoopInv P)
    (hresp : ∀ {s s' : W} {m acc}, s'.core = s.core → s'.wbufLen = s.wbufLen → s'.keys = s.keys →
      s'.keyIdx = s.keyIdx → P s m acc → P s' m acc)
    (s : W) (hw : s.writer = none) (he : s.writeErr = none) (hz : (s.nego && s.enableWC) = false)
    (t : Nat) (ht : t = 1 ∨ t = 2) (data : Bytes) (hd : data.length < 2 ^ 40)
    (h0 : ∀ buf : Bytes, buf.length ≤ (ensureBuf s).cap → P (ensureBuf s) { ft := t, buf := buf } buf) :
    ∃ s' m' acc extra, P s' m' acc ∧ acc ++ extra = data ∧ (s'.isServer = true ∨ extra = []) ∧
      extra.length < 2 ^ 40 ∧
      (writeMessage s t data).2.core = (flushFrame s' m' true extra).2.1.core ∧
      (writeMessage s t data).2.keys = (flushFrame s' m' true extra).2.1.keys ∧
      (writeMessage s t data).2.keyIdx = (flushFrame s' m' true extra).2.1.keyIdx := by
  have hk := Keep.ensureBuf s
  unfold writeMessage
  split
  · rename_i hc
    rw [beginMessage_ok hw he t (by omega)]
    exact ⟨_, _, _, data.drop (min (ensureBuf s).cap data.length),
      h0 (data.take (min (ensureBuf s).cap data.length)) (by simp only [List.length_take]; omega),
      List.take_append_drop _ _, Or.inl (hk.isServer.trans (server_of_fast hc)),
      by simp only [List.length_drop]; omega, rfl, rfl, rfl⟩
  · -- NextWriter: `S1`, known through the new handle, the new message writer, and `P`
    have hnw := nextWriter_plain hw he t (by omega) (by rw [hz]; rfl)
    obtain ⟨S1, hS⟩ : ∃ S1, S1 = (nextWriter s (t : Int) [] []).2 := ⟨_, rfl⟩
    have h1 : nextWriter s (t : Int) [] [] = (.ok (nextHandle s), S1) := by rw [hS, hnw]
    have hP1 : P S1 { ft := t } [] := by
      rw [hS, hnw]; exact hresp (s := ensureBuf s) rfl rfl rfl rfl (h0 [] (Nat.zero_le _))
    have hh : S1.handles[nextHandle s]? = some (.plain (ensureBuf s).mws.length) := by
      rw [hS, hnw]; simp [nextHandle, hk.handles]
    have hm : S1.mws = (ensureBuf s).mws ++ [{ ft := t }] := by rw [hS, hnw]
    clear hS hnw
    rw [h1]
    dsimp only
    -- Write: the copy loop on the fresh message writer; Close: the final flush
    obtain ⟨hw1, hp2⟩ := hP.mwWrite data hP1 hd
    have hf := mwWrite_fixed S1 { ft := t } data
    rw [hWrite_plain hh data [] false _ rfl, getMW_last _ _ _ hm]
    simp only [Bool.false_eq_true, if_false]
    -- from here on only `w.1 = none`, `P w.2.1 w.2.2 data` and `w.2.1.fixed = S1.fixed` are used of the Write
    generalize mwWrite S1 { ft := t } data = w at hw1 hp2 hf ⊢
    simp only [hw1]
    rw [hClose_plain (i := (ensureBuf s).mws.length) (by
        show w.2.1.handles[_]? = _
        rw [W.fixed_handles hf]; exact hh),
      getMW_last _ (ensureBuf s).mws _ (by
        show w.2.1.mws.set _ _ = _
        rw [W.fixed_mws hf, hm]; exact set_last _ _ _),
      mwClose_live (hP.live hp2)]
    refine ⟨setMW w.2.1 (ensureBuf s).mws.length w.2.2, w.2.2, _, [],
      hresp (s := w.2.1) (s' := setMW w.2.1 (ensureBuf s).mws.length w.2.2) rfl rfl rfl rfl hp2,
      List.append_nil _, Or.inr rfl, by simp, ?_⟩
    generalize flushFrame (setMW w.2.1 (ensureBuf s).mws.length w.2.2) w.2.2 true [] = r
    exact ⟨rfl, rfl, rfl⟩

end Helpers

end WS.Content

namespace WS.ContentRF
open WS WS.Content WS.CompressedWrite

inductive Piece2
  | write (p : Bytes) (asString : Bool)
  | control (t : Nat) (data : Bytes) (d : Nat)
  | readFrom (r : Src)

def Piece2.ok : Piece2 → Prop
  | .write p _ => p.length < 2 ^ 40
  | .control t data _ => (t = 9 ∨ t = 10) ∧ data.length ≤ 125
  | .readFrom r => r.term = none ∧ r.chunks.flatten.length < 2 ^ 40   -- the source ends with io.EOF

def Piece2.op (h : Nat) : Piece2 → Op
  | .write p a => .write h p [] a
  | .control t data d => .writeControl t data d
  | .readFrom r => .readFrom h r

def Piece2.bytes : Piece2 → Bytes
  | .write p _ => p
  | .control _ _ _ => []
  | .readFrom r => r.chunks.flatten

def Piece2.ctl : Piece2 → List (Nat × Bytes)
  | .control t data _ => [(t, data)]
  | _ => []

def messageOps2 (s : W) (t : Nat) (ps : List Piece2) : List Op :=
  [.nextWriter t [] []] ++ ps.map (Piece2.op (nextHandle s)) ++ [.close (nextHandle s) [] []]

theorem applyOp_piece2 {n : Bool} {s : W} {h t : Nat} {M C acc} (hM : MidP n s h t M C acc) (ht : t = 1 ∨ t = 2)
    (p : Piece2) (hp : p.ok) :
    (applyOp s (p.op h)).1 = none ∧ MidP n (applyOp s (p.op h)).2 h t M (C ++ p.ctl) (acc ++ p.bytes) := by
  cases p with
  | write q a =>
    have := hWrite_midP hM ht q hp [] a
    simp only [Piece2.ctl, Piece2.bytes, List.append_nil]
    exact this
  | control ct data d =>
    have := writeControl_midP hM ct hp.1 data hp.2 d
    simp only [Piece2.ctl, Piece2.bytes, List.append_nil]
    exact this
  | readFrom r =>
    have := hReadFrom_midP hM ht r hp.1
    simp only [Piece2.ctl, Piece2.bytes, List.append_nil]
    exact this

theorem run_pieces2 {n : Bool} {s : W} {h t : Nat} {M C acc} (hM : MidP n s h t M C acc) (ht : t = 1 ∨ t = 2)
    (ps : List Piece2) (hps : ∀ p ∈ ps, p.ok) :
    MidP n (run s (ps.map (Piece2.op h))) h t M (C ++ (ps.map Piece2.ctl).flatten)
      (acc ++ (ps.map Piece2.bytes).flatten) := by
  induction ps generalizing s C acc with
  | nil => simpa [run] using hM
  | cons p ps ih =>
    have h1 := (applyOp_piece2 hM ht p (hps p (by simp))).2
    have h2 := ih h1 (fun q hq => hps q (by simp [hq]))
    simp only [List.map_cons, run, List.flatten_cons]
    rw [← List.append_assoc, ← List.append_assoc]
    exact h2

theorem message_roundtrip_readFrom (s : W) (hi : Idle s) (t : Nat) (ht : t = 1 ∨ t = 2) (ps : List Piece2)
    (hps : ∀ p ∈ ps, p.ok) :
    let s' := run s (messageOps2 s t ps)
    Idle s' ∧
    wireMessages s' = wireMessages s ++ [⟨t, false, (ps.map Piece2.bytes).flatten⟩] ∧
    wireControls s' = wireControls s ++ (ps.map Piece2.ctl).flatten := by
  intro s'
  have hnw := nextWriter_idleP hi.toG (by rw [hi.plain]; rfl) t ht
  have hs' : s' = (hClose (run (nextWriter s (t : Int) [] []).2 (ps.map (Piece2.op (nextHandle s)))) (nextHandle s) [] []).2 := by
    show run s (messageOps2 s t ps) = _
    unfold messageOps2
    rw [run_append, run_append]
    simp only [run, applyOp_nextWriter_snd]
    rfl
  have hc := hClose_midP (run_pieces2 hnw.2 ht ps hps) ht [] []
  rw [← hs'] at hc
  simp only [List.nil_append] at hc
  exact ⟨hc.2.1.toIdle (hc.2.2.1.trans hi.plain), hc.2.2.2⟩

end WS.ContentRF

namespace WS.Content
open WS WS.Codec WS.WireInv WS.CompressedWrite

def Piece.to2 : Piece → ContentRF.Piece2
  | .write p a => .write p a
  | .control t data d => .control t data d

/-- C01 `accepted` + C02 content, NextWriter path: a data message written in any pieces is accepted, the
    connection is idle again, and the wire has gained exactly one message with the concatenated payload
    (and the interleaved control frames, in order). -/
theorem message_roundtrip (s : W) (hi : Idle s) (t : Nat) (ht : t = 1 ∨ t = 2) (ps : List Piece) (hps : ∀ p ∈ ps, p.ok) :
    let s' := run s (messageOps s t ps)
    Idle s' ∧
    wireMessages s' = wireMessages s ++ [⟨t, false, (ps.map Piece.bytes).flatten⟩] ∧
    wireControls s' = wireControls s ++ (ps.map Piece.ctl).flatten := by
  have hop : ∀ h, Piece.op h = ContentRF.Piece2.op h ∘ Piece.to2 := fun h => funext fun p => by cases p <;> rfl
  have hb : Piece.bytes = ContentRF.Piece2.bytes ∘ Piece.to2 := funext fun p => by cases p <;> rfl
  have hc : Piece.ctl = ContentRF.Piece2.ctl ∘ Piece.to2 := funext fun p => by cases p <;> rfl
  have := ContentRF.message_roundtrip_readFrom s hi t ht (ps.map Piece.to2) (fun q hq => by
    obtain ⟨p, hp, rfl⟩ := List.mem_map.mp hq
    have := hps p hp
    cases p <;> exact this)
  simp only [ContentRF.messageOps2, List.map_map, ← hop, ← hb, ← hc] at this
  exact this

theorem writeMessage_roundtrip (s : W) (hi : Idle s) (t : Nat) (ht : t = 1 ∨ t = 2) (data : Bytes) (hd : data.length < 2 ^ 40) :
    (writeMessage s t data).1 = none ∧ Idle (writeMessage s t data).2 ∧
    wireMessages (writeMessage s t data).2 = wireMessages s ++ [⟨t, false, data⟩] ∧
    wireControls (writeMessage s t data).2 = wireControls s :=
  have h := writeMessage_plainG s hi.toG (by rw [hi.plain]; rfl) t ht data hd
  ⟨h.1, h.2.1.toIdle (h.2.2.1.trans hi.plain), h.2.2.2⟩

theorem writeControl_roundtrip (s : W) (hi : Idle s) (t : Nat) (ht : t = 9 ∨ t = 10) (data : Bytes) (hd : data.length ≤ 125) (d : Nat) :
    (writeControl s t data d).1 = none ∧ Idle (writeControl s t data d).2 ∧
    wireMessages (writeControl s t data d).2 = wireMessages s ∧
    wireControls (writeControl s t data d).2 = wireControls s ++ [(t, data)] := by
  open WS.Stream WS.Flow in
  obtain ⟨he, hk, hwr, hws⟩ := writeControl_ok s t ht data hd d hi.healthy hi.noFaults hi.wireSt
  have h := hi.toG.of_keep hk (hwr.trans hi.noWriter) hws
  exact ⟨he, h.1.toIdle (hk.nego.trans hi.plain), h.2⟩

end WS.Content

/-
  C01: `messageWriter.ReadFrom` (io.Copy into a message writer) keeps the io.ReaderFrom contract.
-/
namespace WS.ContentRF
open WS WS.Content

/- `readFrom_reports_all_data` is false without `isControl m.ft = false`: for the writer of a control
   message (NextWriter(PingMessage)) whose buffer is full, ReadFrom starts with flushFrame(false, nil),
   which fails with errInvalidControlFrame (control frames cannot be fragmented);
   `readFrom_full_control_writer_fails` is that instance. The other hypotheses are needed as well:
   cap = 0 or an overfull buffer makes the loop spin, a sticky write error or a transport fault makes
   the flush fail. -/

theorem readFrom_full_control_writer_fails :
    let s : W := { isServer := true, wbufLen := maxFrameHeaderSize + 1, pool := false, nego := false }
    let m : MW := { buf := [0], ft := 9 }
    let r : Src := { chunks := [[1]], term := none }
    m.err = none ∧ r.term = none ∧ 0 < s.cap ∧ m.buf.length ≤ s.cap ∧ s.writeErr = none ∧ s.faults = [] ∧
    (mwReadFrom s m r).1 = (0, some .invalidControl) ∧ r.chunks.flatten.length = 1 := by
  decide

/-- the io.ReaderFrom contract. `isControl m.ft = false`: a data message, or a message whose first frame
    has been flushed -/
theorem readFrom_reports_all_data (s : W) (m : MW) (r : Src) (hm : m.err = none) (hr : r.term = none)
    (hcap : 0 < s.cap) (hb : m.buf.length ≤ s.cap) (hw : s.writeErr = none) (hf : s.faults = [])
    (hft : isControl m.ft = false) :
    (mwReadFrom s m r).1 = (r.chunks.flatten.length, none) :=
  (ReadFromLoop.plain_loopInv.mwReadFrom (acc := []) r ⟨hw, hf, hm, hcap, hb, hft⟩ hr).1

end WS.ContentRF
