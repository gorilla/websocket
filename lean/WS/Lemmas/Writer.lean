import WS.Model.Writer
/-
  The writer model, first layer (namespace `WS`, beside the model's own names): `W.core`, the
  transport-visible part of the state, and what each function does to it once the sticky error is set
  (`*_of_err`: fail-stop); `MWStep`, the relation between the states before and after anything a
  message writer does, and `MWInv`, what an invariant has to satisfy to be kept along it; what a call
  on a handle (plain, flate in its several states) unfolds to.
-/
namespace WS

def W.core (s : W) : Bytes × Nat × Option WErr × List (Nat × Fault) × Bool :=
  (s.wire, s.tcalls, s.writeErr, s.faults, s.isServer)

@[simp] theorem emit_core (s : W) (e : Ev) : (emit s e).core = s.core := rfl
@[simp] theorem emit_writeErr (s : W) (e : Ev) : (emit s e).writeErr = s.writeErr := rfl

@[simp] theorem newKey_core (s : W) : (newKey s).2.core = s.core := rfl
@[simp] theorem newKey_writeErr (s : W) : (newKey s).2.writeErr = s.writeErr := rfl

@[simp] theorem poolPut_core (s : W) : (poolPut s).core = s.core := by
  unfold poolPut; split <;> rfl

@[simp] theorem poolGet_core (s : W) : (poolGet s).core = s.core := by
  unfold poolGet; split <;> rfl

@[simp] theorem ensureBuf_core (s : W) : (ensureBuf s).core = s.core := by
  unfold ensureBuf; split
  · exact poolGet_core s
  · rfl

theorem core_writeErr {s s' : W} (h : s'.core = s.core) : s'.writeErr = s.writeErr := by
  simp only [W.core, Prod.mk.injEq] at h; exact h.2.2.1

theorem core_wire {s s' : W} (h : s'.core = s.core) : s'.wire = s.wire := by
  simp only [W.core, Prod.mk.injEq] at h; exact h.1

theorem core_faults {s s' : W} (h : s'.core = s.core) : s'.faults = s.faults := by
  simp only [W.core, Prod.mk.injEq] at h; exact h.2.2.2.1

theorem core_isServer {s s' : W} (h : s'.core = s.core) : s'.isServer = s.isServer := by
  simp only [W.core, Prod.mk.injEq] at h; exact h.2.2.2.2

theorem core_tcalls {s s' : W} (h : s'.core = s.core) : s'.tcalls = s.tcalls := by
  simp only [W.core, Prod.mk.injEq] at h; exact h.2.1

theorem writeFatal_core_of_some (s : W) (e : WErr) (h : s.writeErr.isSome) : (writeFatal s e).core = s.core := by
  unfold writeFatal
  cases hw : s.writeErr with
  | none => simp [hw] at h
  | some _ => rfl

theorem writeFatal_isSome (s : W) (e : WErr) : (writeFatal s e).writeErr.isSome := by
  unfold writeFatal
  cases hw : s.writeErr with
  | none => simp
  | some _ => simp [hw]

theorem connWrite_of_err (s : W) (ft d : Int) (b0 b1 : Bytes) (e : WErr) (h : s.writeErr = some e) :
    connWrite s ft d b0 b1 = (some e, s) := by
  unfold connWrite; simp [h]

@[simp] theorem endMessage_core (s : W) (m : MW) (e : WErr) : (endMessage s m e).1.core = s.core := by
  unfold endMessage
  split
  · rfl
  · dsimp only
    split
    · rw [poolPut_core]; rfl
    · rfl

theorem endMessage_err (s : W) (m : MW) (e : WErr) : (endMessage s m e).2.err.isSome := by
  unfold endMessage
  split
  · assumption
  · simp

/-- `frameWrite` with the frame bytes hidden: what it does to the connection is one `Conn.write`, after a key
    draw on a client -/
theorem frameWrite_eq (m : MW) (final : Bool) (extra : Bytes) : ∃ (b : Bytes) (f : Key → Bytes), ∀ s : W,
    frameWrite s m final extra =
      if s.isServer then connWrite s m.ft s.deadline b extra
      else if !extra.isEmpty then (some .internalExtra, writeFatal (newKey s).2 .internalExtra)
      else connWrite (newKey s).2 m.ft s.deadline (f (newKey s).1) [] :=
  ⟨_, fun k => header false _ _ k ++ maskFrom k 0 m.buf, fun _ => rfl⟩

theorem frameWrite_of_err (s : W) (m : MW) (final : Bool) (extra : Bytes) (h : s.writeErr.isSome) :
    (frameWrite s m final extra).1.isSome ∧ (frameWrite s m final extra).2.core = s.core := by
  obtain ⟨e, he⟩ := Option.isSome_iff_exists.mp h
  obtain ⟨b, f, hf⟩ := frameWrite_eq m final extra
  rw [hf]
  split
  · rw [connWrite_of_err _ _ _ _ _ e he]; exact ⟨rfl, rfl⟩
  · split
    · exact ⟨rfl, writeFatal_core_of_some _ _ h⟩
    · rw [connWrite_of_err (newKey s).2 _ _ _ _ e he]; exact ⟨rfl, rfl⟩

theorem flushFrame_of_err (s : W) (m : MW) (final : Bool) (extra : Bytes) (h : s.writeErr.isSome) :
    (flushFrame s m final extra).1.isSome ∧ (flushFrame s m final extra).2.1.core = s.core ∧
    (flushFrame s m final extra).2.2.err.isSome := by
  have hf := frameWrite_of_err s m final extra h
  unfold flushFrame
  split
  · exact ⟨rfl, endMessage_core _ _ _, endMessage_err _ _ _⟩
  · split
    · rename_i e s' heq
      rw [heq] at hf
      refine ⟨rfl, ?_, endMessage_err _ _ _⟩
      rw [endMessage_core]; exact hf.2
    · rename_i s' heq
      rw [heq] at hf
      simp at hf


theorem isSome_of_core {s s' : W} (hc : s'.core = s.core) (h : s.writeErr.isSome) : s'.writeErr.isSome := by
  rw [core_writeErr hc]; exact h

theorem Src.read_length (r : Src) (room : Nat) : (r.read room).1.length ≤ room := by
  unfold Src.read
  split
  · simp
  · dsimp only
    split
    · split <;> (simp only [List.length_take]; omega)
    · simp only [List.length_take]; omega

/-! ### what a message writer does

  The functions that work on a messageWriter copy (ncopy, Write, WriteString, ReadFrom, Close, the feed of a
  flate wrapper) do two things to the pair (connection, copy): append a chunk that fits to the buffer of a
  live messageWriter, and call `flushFrame` on a live one. `MWStep` is the relation these generate. -/

theorem endMessage_dead (s : W) (m : MW) (e : WErr) : (endMessage s m e).2.err ≠ none :=
  Option.isSome_iff_ne_none.mp (endMessage_err s m e)

theorem flushFrame_mw (s : W) (m : MW) (final : Bool) (extra : Bytes) :
    ((flushFrame s m final extra).1 = none ∧ final = false ∧
      (flushFrame s m final extra).2.2 = { m with compress := false, buf := [], ft := 0 }) ∨
    (((flushFrame s m final extra).1 ≠ none ∨ final = true) ∧ (flushFrame s m final extra).2.2.err ≠ none) := by
  unfold flushFrame
  split
  · exact Or.inr ⟨Or.inl (Option.some_ne_none _), endMessage_dead _ _ _⟩
  · split
    · exact Or.inr ⟨Or.inl (Option.some_ne_none _), endMessage_dead _ _ _⟩
    · split
      · rename_i hf
        exact Or.inr ⟨Or.inr hf, endMessage_dead _ _ _⟩
      · rename_i hf
        exact Or.inl ⟨rfl, by simpa using hf, rfl⟩

theorem flushFrame_err_dead (s : W) (m : MW) (final : Bool) (extra : Bytes)
    (he : (flushFrame s m final extra).1 ≠ none) : (flushFrame s m final extra).2.2.err ≠ none :=
  (flushFrame_mw s m final extra).elim (fun h => absurd h.1 he) (fun h => h.2)

theorem flushFrame_final_dead (s : W) (m : MW) (extra : Bytes) : (flushFrame s m true extra).2.2.err ≠ none :=
  (flushFrame_mw s m true extra).elim (fun h => by cases h.2.1) (fun h => h.2)

theorem flushFrame_reset (s : W) (m : MW) (extra : Bytes) (he : (flushFrame s m false extra).1 = none) :
    (flushFrame s m false extra).2.2.err = m.err ∧ (flushFrame s m false extra).2.2.buf = [] := by
  rcases flushFrame_mw s m false extra with h | ⟨h | h, _⟩
  · rw [h.2.2]; exact ⟨rfl, rfl⟩
  · exact absurd he h
  · cases h

variable {ok : Bytes → Prop}

/-- `ok` bounds the bytes a flush may take from outside the buffer (the large-write path of
    `messageWriter.Write`) -/
inductive MWStep (ok : Bytes → Prop) : W → MW → W → MW → Prop
  | refl (s : W) (m : MW) : MWStep ok s m s m
  | buf (s : W) (m : MW) (chunk : Bytes) (hl : m.err = none) (hc : chunk.length ≤ s.cap - m.buf.length) :
      MWStep ok s m s { m with buf := m.buf ++ chunk }
  | flush (s : W) (m : MW) (final : Bool) (extra : Bytes) (hl : m.err = none) (he : extra = [] ∨ ok extra) :
      MWStep ok s m (flushFrame s m final extra).2.1 (flushFrame s m final extra).2.2
  | trans {s s1 s2 : W} {m m1 m2 : MW} : MWStep ok s m s1 m1 → MWStep ok s1 m1 s2 m2 → MWStep ok s m s2 m2

theorem MWStep.was_live {s s' : W} {m m' : MW} (st : MWStep ok s m s' m') (h : m'.err = none) : m.err = none := by
  induction st with
  | refl s m => exact h
  | buf s m b hl _ => exact hl
  | flush s m final extra hl _ => exact hl
  | trans _ _ ih1 ih2 => exact ih1 (ih2 h)

theorem MWStep.dead {s s' : W} {m m' : MW} (st : MWStep ok s m s' m') (h : m.err ≠ none) : s' = s ∧ m' = m := by
  induction st with
  | refl s m => exact ⟨rfl, rfl⟩
  | buf s m b hl _ => exact absurd hl h
  | flush s m final extra hl _ => exact absurd hl h
  | trans _ _ ih1 ih2 =>
    obtain ⟨rfl, rfl⟩ := ih1 h
    exact ih2 h

/-- what a messageWriter-level function that returned `r` did. `0 < cap` in `err`: on a buffer without
    room for payload `copyLoop` reports `.hang` and leaves the messageWriter live. -/
structure MWRun (ok : Bytes → Prop) (s : W) (m : MW) (r : Option WErr × W × MW) : Prop where
  step : MWStep ok s m r.2.1 r.2.2
  err : 0 < r.2.1.cap → r.1 ≠ none → r.2.2.err ≠ none

theorem MWRun.ended {s : W} {m : MW} (e : WErr) (h : m.err = some e) : MWRun ok s m (some e, s, m) :=
  ⟨.refl s m, fun _ _ => by rw [h]; exact Option.some_ne_none e⟩

theorem flushFrame_run (s : W) (m : MW) (final : Bool) (extra : Bytes) (hl : m.err = none)
    (he : extra = [] ∨ ok extra) : MWRun ok s m (flushFrame s m final extra) :=
  ⟨.flush s m final extra hl he, fun _ => flushFrame_err_dead s m final extra⟩

theorem ncopyPrep_run (s : W) (m : MW) (hl : m.err = none) : MWRun ok s m (ncopyPrep s m) := by
  unfold ncopyPrep
  split
  · exact flushFrame_run s m false [] hl (Or.inl rfl)
  · exact ⟨.refl s m, fun _ h => absurd rfl h⟩

theorem ncopyPrep_ok (s : W) (m : MW) (he : (ncopyPrep s m).1 = none) :
    (ncopyPrep s m).2.2.err = m.err ∧
    (0 < (ncopyPrep s m).2.1.cap → (ncopyPrep s m).2.2.buf.length < (ncopyPrep s m).2.1.cap) := by
  revert he
  unfold ncopyPrep
  split
  · intro he
    have := flushFrame_reset s m [] he
    exact ⟨this.1, fun hc => by rw [this.2]; exact hc⟩
  · rename_i h
    exact fun _ => ⟨rfl, fun _ => Nat.lt_of_not_le h⟩

theorem readFromPrep_run (s : W) (m : MW) (hl : m.err = none) : MWRun ok s m (readFromPrep s m) := by
  unfold readFromPrep
  split
  · exact flushFrame_run s m false [] hl (Or.inl rfl)
  · exact ⟨.refl s m, fun _ h => absurd rfl h⟩

theorem readFromPrep_ok (s : W) (m : MW) (he : (readFromPrep s m).1 = none) :
    (readFromPrep s m).2.2.err = m.err := by
  revert he
  unfold readFromPrep
  split
  · exact fun he => (flushFrame_reset s m [] he).1
  · exact fun _ => rfl

theorem copyLoop_run (s : W) (m : MW) (p : Bytes) (hl : m.err = none) : MWRun ok s m (copyLoop s m p) := by
  induction hn : p.length using Nat.strongRecOn generalizing s m p with
  | _ n ih =>
    unfold copyLoop
    split
    · exact ⟨.refl s m, fun _ h => absurd rfl h⟩
    · rename_i hp
      have hpl : p.length ≠ 0 := by simpa using hp
      have hpre : MWRun ok s m (ncopyPrep s m) := ncopyPrep_run s m hl
      have hok := ncopyPrep_ok s m
      split
      · rename_i e s' m' heq
        rw [heq] at hpre; exact hpre
      · rename_i s' m' heq
        rw [heq] at hpre hok
        obtain ⟨hl', hroom⟩ := hok rfl
        split
        · -- `.hang`: no room although `ncopyPrep` left some, so `cap = 0`
          rename_i hz
          refine ⟨hpre.step, fun hc _ => ?_⟩
          rcases Nat.min_eq_zero_iff.mp hz with h0 | h0
          · exact absurd (hroom hc) (Nat.not_lt.mpr (Nat.sub_eq_zero_iff_le.mp h0))
          · exact absurd h0 hpl
        · rename_i hnz
          have hlt : (p.drop (min (s'.cap - m'.buf.length) p.length)).length < n := by
            rw [List.length_drop, ← hn]
            exact Nat.sub_lt (Nat.pos_of_ne_zero hpl) (Nat.pos_of_ne_zero hnz)
          have hb : MWStep ok s' m' s' { m' with buf := m'.buf ++ p.take (min (s'.cap - m'.buf.length) p.length) } := by
            refine .buf s' m' _ (hl'.trans hl) ?_
            rw [List.length_take]
            exact Nat.le_trans (Nat.min_le_left _ _) (Nat.min_le_left _ _)
          have hrec := ih _ hlt s' { m' with buf := m'.buf ++ p.take (min (s'.cap - m'.buf.length) p.length) }
            (p.drop (min (s'.cap - m'.buf.length) p.length)) (hl'.trans hl) rfl
          exact ⟨hpre.step.trans (hb.trans hrec.step), hrec.err⟩

theorem mwWrite_run (s : W) (m : MW) (p : Bytes) (hp : ok p) : MWRun ok s m (mwWrite s m p) := by
  unfold mwWrite
  split
  · rename_i e he; exact MWRun.ended e he
  · rename_i hl
    split
    · exact flushFrame_run s m false p hl (Or.inr hp)
    · exact copyLoop_run s m p hl

theorem mwWriteString_run (s : W) (m : MW) (p : Bytes) : MWRun ok s m (mwWriteString s m p) := by
  unfold mwWriteString
  split
  · rename_i e he; exact MWRun.ended e he
  · rename_i hl; exact copyLoop_run s m p hl

theorem mwClose_run (s : W) (m : MW) : MWRun ok s m (mwClose s m) := by
  unfold mwClose
  split
  · rename_i e he; exact MWRun.ended e he
  · rename_i hl; exact flushFrame_run s m true [] hl (Or.inl rfl)

theorem mwClose_dead (s : W) (m : MW) : (mwClose s m).2.2.err ≠ none := by
  unfold mwClose
  split
  · rename_i e he; dsimp only; rw [he]; exact Option.some_ne_none e
  · exact flushFrame_final_dead _ _ _

theorem feed_run (s : W) (m : MW) (cs : List Bytes) (hcs : ∀ c ∈ cs, ok c) : MWRun ok s m (feed s m cs) := by
  induction cs generalizing s m with
  | nil => exact ⟨.refl s m, fun _ h => absurd rfl h⟩
  | cons c cs ih =>
    unfold feed
    have h1 := mwWrite_run s m c (hcs c (List.mem_cons_self ..))
    split
    · rename_i e s' m' heq; rw [heq] at h1; exact h1
    · rename_i s' m' heq; rw [heq] at h1
      have hrec := ih s' m' (fun x hx => hcs x (List.mem_cons_of_mem _ hx))
      exact ⟨h1.step.trans hrec.step, hrec.err⟩

theorem readFromLoop_step (fuel : Nat) (s : W) (m : MW) (r : Src) (nn : Nat) (hl : m.err = none) :
    MWStep ok s m (readFromLoop fuel s m r nn).2.1 (readFromLoop fuel s m r nn).2.2 := by
  induction fuel generalizing s m r nn with
  | zero => exact .refl s m
  | succ fuel ih =>
    unfold readFromLoop
    have hpre : MWRun ok s m (readFromPrep s m) := readFromPrep_run s m hl
    have hok := readFromPrep_ok s m
    split
    · rename_i e s' m' heq
      rw [heq] at hpre; exact hpre.step
    · rename_i s' m' heq
      rw [heq] at hpre hok
      have hl' : m'.err = none := (hok rfl).trans hl
      have hrd := r.read_length (s'.cap - m'.buf.length)
      have hb : ∀ bs : Bytes, bs.length ≤ s'.cap - m'.buf.length → MWStep ok s m s' { m' with buf := m'.buf ++ bs } :=
        fun bs hbs => hpre.step.trans (.buf s' m' _ hl' hbs)
      split
      · rename_i bs _ heq2
        rw [heq2] at hrd; exact hb bs hrd
      · rename_i bs id _ heq2
        rw [heq2] at hrd; exact hb bs hrd
      · rename_i bs r' heq2
        rw [heq2] at hrd
        exact (hb bs hrd).trans (ih s' _ r' _ hl')

theorem mwReadFrom_step (s : W) (m : MW) (r : Src) :
    MWStep ok s m (mwReadFrom s m r).2.1 (mwReadFrom s m r).2.2 := by
  unfold mwReadFrom
  split
  · exact .refl s m
  · rename_i hl; exact readFromLoop_step _ s m r 0 hl


/-! ### invariants of a message writer -/

/-- `Q s m` is kept along every `MWStep`: buffering is `extend`; `flushFrame` is `frameWrite` followed
    either by `endMessage` (after `uncompress`) or by `reset`. `ok` restricts the `extra` of `flushFrame`. -/
structure MWInv (ok : Bytes → Prop) (Q : W → MW → Prop) : Prop where
  nil : ok []
  frameWrite : ∀ {s m} final {extra}, Q s m → ok extra → Q (frameWrite s m final extra).2 m
  endMessage : ∀ {s m} e, Q s m → Q (endMessage s m e).1 (endMessage s m e).2
  uncompress : ∀ {s m}, Q s m → Q s { m with compress := false }
  reset : ∀ {s m}, Q s m → Q s { m with compress := false, buf := [], ft := 0 }
  extend : ∀ {s m} {chunk : Bytes}, Q s m → chunk.length ≤ s.cap - m.buf.length →
    Q s { m with buf := m.buf ++ chunk }

theorem MWInv.ofState {I : W → Prop} (fw : ∀ s m final extra, I s → I (WS.frameWrite s m final extra).2)
    (em : ∀ s m e, I s → I (WS.endMessage s m e).1) : MWInv (fun _ => True) (fun s _ => I s) :=
  ⟨trivial, fun _ _ h _ => fw _ _ _ _ h, fun _ h => em _ _ _ h, id, id, fun h _ => h⟩

namespace MWInv
variable {ok : Bytes → Prop} {Q : W → MW → Prop} (hQ : MWInv ok Q)
include hQ

theorem flushFrame {s m} (final : Bool) {extra : Bytes} (h : Q s m) (hx : ok extra) :
    Q (flushFrame s m final extra).2.1 (flushFrame s m final extra).2.2 := by
  have hf := hQ.frameWrite final h hx
  unfold WS.flushFrame
  split
  · exact hQ.endMessage _ h
  · split
    · rename_i heq
      rw [heq] at hf
      exact hQ.endMessage _ (hQ.uncompress hf)
    · rename_i heq
      rw [heq] at hf
      split
      · exact hQ.endMessage _ (hQ.uncompress hf)
      · exact hQ.reset hf

theorem step {s s' : W} {m m' : MW} (st : MWStep ok s m s' m') (h : Q s m) : Q s' m' := by
  induction st with
  | refl s m => exact h
  | buf s m chunk _ hc => exact hQ.extend h hc
  | flush s m final extra _ he => exact hQ.flushFrame final h (he.elim (fun hx => hx ▸ hQ.nil) id)
  | trans _ _ ih1 ih2 => exact ih2 (ih1 h)

theorem mwWrite {s m} (p : Bytes) (h : Q s m) (hp : ok p) : Q (mwWrite s m p).2.1 (mwWrite s m p).2.2 :=
  hQ.step (mwWrite_run s m p hp).step h

theorem mwWriteString {s m} (p : Bytes) (h : Q s m) :
    Q (mwWriteString s m p).2.1 (mwWriteString s m p).2.2 := hQ.step (mwWriteString_run s m p).step h

theorem mwClose {s m} (h : Q s m) : Q (mwClose s m).2.1 (mwClose s m).2.2 := hQ.step (mwClose_run s m).step h

theorem mwReadFrom {s m} (r : Src) (h : Q s m) : Q (mwReadFrom s m r).2.1 (mwReadFrom s m r).2.2 :=
  hQ.step (mwReadFrom_step s m r) h

theorem feed {s m} (cs : List Bytes) (h : Q s m) (hcs : ∀ c ∈ cs, ok c) :
    Q (feed s m cs).2.1 (feed s m cs).2.2 := hQ.step (feed_run s m cs hcs).step h

end MWInv

theorem errInv (c : Bytes × Nat × Option WErr × List (Nat × Fault) × Bool) :
    MWInv (fun _ => True) (fun s _ => s.writeErr.isSome ∧ s.core = c) :=
  .ofState
    (fun s m final extra h =>
      have hf := (frameWrite_of_err s m final extra h.1).2
      ⟨isSome_of_core hf h.1, hf.trans h.2⟩)
    (fun s m e h => ⟨isSome_of_core (endMessage_core s m e) h.1, (endMessage_core s m e).trans h.2⟩)

theorem mwWrite_of_err (s : W) (m : MW) (p : Bytes) (h : s.writeErr.isSome) :
    (mwWrite s m p).2.1.core = s.core := ((errInv s.core).mwWrite p ⟨h, rfl⟩ trivial).2

theorem mwWriteString_of_err (s : W) (m : MW) (p : Bytes) (h : s.writeErr.isSome) :
    (mwWriteString s m p).2.1.core = s.core := ((errInv s.core).mwWriteString p ⟨h, rfl⟩).2

theorem mwClose_of_err (s : W) (m : MW) (h : s.writeErr.isSome) :
    (mwClose s m).1.isSome ∧ (mwClose s m).2.1.core = s.core := by
  refine ⟨?_, ((errInv s.core).mwClose ⟨h, rfl⟩).2⟩
  unfold mwClose
  split
  · rfl
  · exact (flushFrame_of_err s m true [] h).1

theorem mwReadFrom_of_err (s : W) (m : MW) (r : Src) (h : s.writeErr.isSome) :
    (mwReadFrom s m r).2.1.core = s.core := ((errInv s.core).mwReadFrom r ⟨h, rfl⟩).2

theorem feed_of_err (s : W) (m : MW) (cs : List Bytes) (h : s.writeErr.isSome) :
    (feed s m cs).2.1.core = s.core := ((errInv s.core).feed cs ⟨h, rfl⟩ (fun _ _ => trivial)).2

@[simp] theorem setMW_core (s : W) (i : Nat) (m : MW) : (setMW s i m).core = s.core := rfl
@[simp] theorem setHandle_core (s : W) (h : Nat) (x : Handle) : (setHandle s h x).core = s.core := rfl

theorem mwClose_live {m : MW} (h : m.err = none) (s : W) : mwClose s m = flushFrame s m true [] := by
  unfold mwClose; rw [h]

/-! ### what a call on a handle unfolds to -/

theorem hWrite_plain {s : W} {h i : Nat} (hh : s.handles[h]? = some (.plain i)) (p : Bytes) (dn : List Bytes)
    (a : Bool) (r : Option WErr × W × MW)
    (hr : r = if a then mwWriteString s (getMW s i) p else mwWrite s (getMW s i) p) :
    hWrite s h p dn a = ((if r.1.isSome then 0 else p.length, r.1), setMW r.2.1 i r.2.2) := by
  subst hr
  unfold hWrite
  rw [hh]

theorem hClose_plain {s : W} {h i : Nat} (hh : s.handles[h]? = some (.plain i)) (dn : List Bytes) (full : Bytes) :
    hClose s h dn full =
      ((mwClose s (getMW s i)).1, setMW (mwClose s (getMW s i)).2.1 i (mwClose s (getMW s i)).2.2) := by
  unfold hClose
  rw [hh]

theorem hReadFrom_plain {s : W} {h i : Nat} (hh : s.handles[h]? = some (.plain i)) (r : Src) :
    hReadFrom s h r =
      ((mwReadFrom s (getMW s i) r).1.2,
        setMW (mwReadFrom s (getMW s i) r).2.1 i (mwReadFrom s (getMW s i) r).2.2) := by
  unfold hReadFrom
  rw [hh]

theorem hWrite_flate {s : W} {h i : Nat} {sent : Bytes} (hh : s.handles[h]? = some (.flate i true none sent))
    (p : Bytes) (dn : List Bytes) (a : Bool) :
    hWrite s h p dn a =
      ((if (feed s (getMW s i) dn).1.isSome then 0 else p.length, (feed s (getMW s i) dn).1),
        setHandle (setMW (feed s (getMW s i) dn).2.1 i (feed s (getMW s i) dn).2.2) h
          (.flate i true (feed s (getMW s i) dn).1 (sent ++ dn.flatten))) := by
  unfold hWrite
  rw [hh]
  rfl

theorem hWrite_none {s : W} {h : Nat} (p : Bytes) (dn : List Bytes) (a : Bool) (hh : s.handles[h]? = none) :
    (hWrite s h p dn a).2 = s := by
  unfold hWrite; rw [hh]

theorem hWrite_flate_snd {s : W} {h i : Nat} {fo : Bool} {de : Option WErr} {sent : Bytes} (p : Bytes) (dn : List Bytes)
    (a : Bool) (hh : s.handles[h]? = some (.flate i fo de sent)) :
    (hWrite s h p dn a).2 =
      if fo = true ∧ de = none then
        setHandle (setMW (feed s (getMW s i) dn).2.1 i (feed s (getMW s i) dn).2.2) h
          (.flate i true (feed s (getMW s i) dn).1 (sent ++ dn.flatten))
      else s := by
  unfold hWrite; rw [hh]
  cases fo <;> cases de <;> rfl

theorem hReadFrom_other {s : W} {h : Nat} (r : Src) (hh : ∀ i, s.handles[h]? ≠ some (.plain i)) :
    (hReadFrom s h r).2 = s := by
  unfold hReadFrom
  split
  · rename_i i hi; exact absurd hi (hh i)
  · rfl

theorem hClose_none {s : W} {h : Nat} (dn : List Bytes) (full : Bytes) (hh : s.handles[h]? = none) :
    (hClose s h dn full).2 = s := by
  unfold hClose; rw [hh]

theorem hClose_closed {s : W} {h i : Nat} {de : Option WErr} {sent : Bytes} (dn : List Bytes) (full : Bytes)
    (hh : s.handles[h]? = some (.flate i false de sent)) : (hClose s h dn full).2 = s := by
  unfold hClose; rw [hh]; rfl

theorem hClose_failed {s : W} {h i : Nat} {e : WErr} {sent : Bytes} (dn : List Bytes) (full : Bytes)
    (hh : s.handles[h]? = some (.flate i true (some e) sent)) :
    (hClose s h dn full).2 = setHandle s h (.flate i false (some e) sent) := by
  unfold hClose; rw [hh]; rfl

/-- Close on an open flate wrapper feeds what flate flushed and marks the wrapper closed (`S1`). That is all
    if the feed failed or the deflate stream fails one of the two checks of `flateWriteWrapper.Close`;
    otherwise the messageWriter is closed. -/
theorem hClose_open {s : W} {h i : Nat} {sent : Bytes} (dn : List Bytes) (full : Bytes)
    (hh : s.handles[h]? = some (.flate i true none sent)) {e1 : Option WErr} {s1 : W} {m1 : MW}
    (hf : feed s (getMW s i) dn = (e1, s1, m1)) (S1 : W)
    (hS : S1 = setHandle (setMW s1 i m1) h (.flate i false e1 (sent ++ dn.flatten))) :
    (e1.isSome ∧ hClose s h dn full = (some .any, S1)) ∨
    (e1 = none ∧ ((full.length < 4 || full.drop (full.length - 4) != sync4) = true ∨
        (sent ++ dn.flatten != full.take (full.length - 4)) = true) ∧
      (hClose s h dn full).1.isSome ∧ (hClose s h dn full).2 = S1) ∨
    (e1 = none ∧ hClose s h dn full =
      ((mwClose S1 (getMW S1 i)).1, setMW (mwClose S1 (getMW S1 i)).2.1 i (mwClose S1 (getMW S1 i)).2.2)) := by
  subst hS
  unfold hClose
  rw [hh]
  dsimp only
  rw [hf]
  cases e1 with
  | some e => exact Or.inl ⟨rfl, rfl⟩
  | none =>
    dsimp only
    by_cases h1 : (full.length < 4 || full.drop (full.length - 4) != sync4) = true
    · rw [if_pos h1]; exact Or.inr (Or.inl ⟨rfl, Or.inl h1, rfl, rfl⟩)
    · rw [if_neg h1]
      by_cases h2 : (sent ++ dn.flatten != full.take (full.length - 4)) = true
      · rw [if_pos h2]; exact Or.inr (Or.inl ⟨rfl, Or.inr h2, rfl, rfl⟩)
      · rw [if_neg h2]
        exact Or.inr (Or.inr ⟨rfl, rfl⟩)

theorem hClose_flate {s : W} {h i : Nat} {sent : Bytes} (hh : s.handles[h]? = some (.flate i true none sent))
    (dn : List Bytes) (full : Bytes) (hfeed : (feed s (getMW s i) dn).1 = none)
    (htail : (full.length < 4 || full.drop (full.length - 4) != sync4) = false)
    (hcons : (sent ++ dn.flatten != full.take (full.length - 4)) = false) (S : W)
    (hS : S = setHandle (setMW (feed s (getMW s i) dn).2.1 i (feed s (getMW s i) dn).2.2) h
      (.flate i false none (sent ++ dn.flatten))) :
    hClose s h dn full = ((mwClose S (getMW S i)).1, setMW (mwClose S (getMW S i)).2.1 i (mwClose S (getMW S i)).2.2) := by
  rcases hClose_open dn full hh (e1 := (feed s (getMW s i) dn).1) rfl S (by rw [hfeed]; exact hS) with
    ⟨h1, _⟩ | ⟨_, h1 | h1, _⟩ | ⟨_, h1⟩
  · rw [hfeed] at h1; cases h1
  · rw [htail] at h1; cases h1
  · rw [hcons] at h1; cases h1
  · exact h1

theorem hWrite_of_err (s : W) (h : Nat) (p : Bytes) (dn : List Bytes) (a : Bool) (he : s.writeErr.isSome) :
    (hWrite s h p dn a).2.core = s.core := by
  cases hh : s.handles[h]? with
  | none => rw [hWrite_none p dn a hh]
  | some x =>
    cases x with
    | plain i =>
      rw [hWrite_plain hh p dn a _ rfl]
      dsimp only
      rw [setMW_core]
      cases a with
      | true => exact mwWriteString_of_err s _ p he
      | false => exact mwWrite_of_err s _ p he
    | flate i fo de sent =>
      rw [hWrite_flate_snd p dn a hh]
      split
      · rw [setHandle_core, setMW_core]; exact feed_of_err s _ dn he
      · rfl

theorem hClose_of_err (s : W) (h : Nat) (dn : List Bytes) (full : Bytes) (he : s.writeErr.isSome) :
    (hClose s h dn full).1.isSome ∧ (hClose s h dn full).2.core = s.core := by
  cases hh : s.handles[h]? with
  | none => unfold hClose; rw [hh]; exact ⟨rfl, rfl⟩
  | some x =>
    cases x with
    | plain i =>
      rw [hClose_plain hh dn full]
      dsimp only
      rw [setMW_core]
      exact mwClose_of_err s (getMW s i) he
    | flate i fo de sent =>
      cases fo with
      | false => unfold hClose; rw [hh]; exact ⟨rfl, rfl⟩
      | true =>
        cases de with
        | some e => unfold hClose; rw [hh]; exact ⟨rfl, rfl⟩
        | none =>
          have hfeed := feed_of_err s (getMW s i) dn he
          cases hf : feed s (getMW s i) dn with
          | mk e1 r =>
            obtain ⟨s1, m1⟩ := r
            rw [hf] at hfeed
            have hS : (setHandle (setMW s1 i m1) h (.flate i false e1 (sent ++ dn.flatten))).core = s.core := by
              rw [setHandle_core, setMW_core]; exact hfeed
            rcases hClose_open dn full hh hf _ rfl with ⟨h1, h2⟩ | ⟨_, _, h1, h2⟩ | ⟨_, h2⟩
            · rw [h2]; exact ⟨rfl, hS⟩
            · rw [h2]; exact ⟨h1, hS⟩
            · rw [h2]
              have := mwClose_of_err _ (getMW (setHandle (setMW s1 i m1) h (.flate i false e1 (sent ++ dn.flatten))) i)
                (isSome_of_core hS he)
              dsimp only
              rw [setMW_core]
              exact ⟨this.1, this.2.trans hS⟩

@[simp] theorem clearWriter_core (s : W) : (clearWriter s).core = s.core := rfl

theorem closePrev_of_err (s : W) (dnp : List Bytes) (fullp : Bytes) (he : s.writeErr.isSome) :
    (closePrev s dnp fullp).core = s.core := by
  unfold closePrev
  split
  · rename_i h _
    simpa using (hClose_of_err s h dnp fullp he).2
  · rfl

theorem beginMessage'_of_err (s : W) (t : Int) (he : s.writeErr.isSome) :
    ∃ e, beginMessage' s t = (.error e, s) := by
  unfold beginMessage'
  split
  · exact ⟨_, rfl⟩
  · split
    · exact ⟨_, rfl⟩
    · rename_i hn
      rw [hn] at he; cases he

theorem beginMessage_of_err (s : W) (t : Int) (dnp : List Bytes) (fullp : Bytes) (he : s.writeErr.isSome) :
    ∃ e, beginMessage s t dnp fullp = (.error e, closePrev s dnp fullp) :=
  beginMessage'_of_err (closePrev s dnp fullp) t (isSome_of_core (closePrev_of_err s dnp fullp he) he)

theorem nextWriter_err (s : W) (t : Int) (dnp : List Bytes) (fullp : Bytes) (he : s.writeErr.isSome) :
    ∃ e, nextWriter s t dnp fullp = (.error e, closePrev s dnp fullp) := by
  obtain ⟨e, hb⟩ := beginMessage_of_err s t dnp fullp he
  exact ⟨e, by unfold nextWriter; rw [hb]⟩

theorem nextWriter_of_err (s : W) (t : Int) (dnp : List Bytes) (fullp : Bytes) (he : s.writeErr.isSome) :
    (∃ e, (nextWriter s t dnp fullp).1 = .error e) ∧ (nextWriter s t dnp fullp).2.core = s.core := by
  obtain ⟨e, h⟩ := nextWriter_err s t dnp fullp he
  rw [h]
  exact ⟨⟨e, rfl⟩, closePrev_of_err s dnp fullp he⟩

@[simp] theorem ctlKey_core (s : W) : (ctlKey s).2.core = s.core := by
  unfold ctlKey; split <;> rfl

theorem writeControl_of_err (s : W) (t : Int) (data : Bytes) (d : Int) (he : s.writeErr.isSome) :
    (writeControl s t data d).1.isSome ∧ (writeControl s t data d).2.core = s.core := by
  unfold writeControl
  split
  · exact ⟨rfl, rfl⟩
  · split
    · exact ⟨rfl, rfl⟩
    · dsimp only
      split
      · exact ⟨rfl, ctlKey_core s⟩
      · have hk : (ctlKey s).2.writeErr.isSome := isSome_of_core (ctlKey_core s) he
        obtain ⟨e, hee⟩ := Option.isSome_iff_exists.mp hk
        rw [connWrite_of_err _ _ _ _ _ e hee]
        exact ⟨rfl, ctlKey_core s⟩

theorem writeMessage_of_err (s : W) (t : Int) (data : Bytes) (dnp : List Bytes) (fullp : Bytes) (dn : List Bytes)
    (full : Bytes) (he : s.writeErr.isSome) :
    (writeMessage s t data dnp fullp dn full).1.isSome ∧ (writeMessage s t data dnp fullp dn full).2.core = s.core := by
  have hc := closePrev_of_err s dnp fullp he
  obtain ⟨e, hb⟩ := beginMessage_of_err s t dnp fullp he
  obtain ⟨e', hn⟩ := nextWriter_err s t dnp fullp he
  unfold writeMessage
  split
  · rw [hb]; exact ⟨rfl, hc⟩
  · rw [hn]; exact ⟨rfl, hc⟩

theorem writeJSON_of_err (s : W) (enc : Bytes) (dnp : List Bytes) (fullp : Bytes) (dn : List Bytes)
    (full : Bytes) (he : s.writeErr.isSome) :
    (writeJSON s enc dnp fullp dn full).1.isSome ∧ (writeJSON s enc dnp fullp dn full).2.core = s.core := by
  obtain ⟨e, hn⟩ := nextWriter_err s 1 dnp fullp he
  unfold writeJSON
  rw [hn]
  exact ⟨rfl, closePrev_of_err s dnp fullp he⟩

theorem writePreparedImage_of_err (s : W) (t : Int) (img : Bytes) (dnp : List Bytes) (fullp : Bytes)
    (he : s.writeErr.isSome) :
    (writePreparedImage s t img dnp fullp).1.isSome ∧ (writePreparedImage s t img dnp fullp).2.core = s.core := by
  unfold writePreparedImage
  dsimp only
  have hc : (if isData t then closePrev s dnp fullp else s).core = s.core := by
    split
    · exact closePrev_of_err s dnp fullp he
    · rfl
  obtain ⟨e, hee⟩ := Option.isSome_iff_exists.mp (isSome_of_core hc he)
  rw [connWrite_of_err _ _ _ _ _ e hee]
  exact ⟨rfl, hc⟩

theorem hReadFrom_of_err (s : W) (h : Nat) (r : Src) (he : s.writeErr.isSome) :
    (hReadFrom s h r).2.core = s.core := by
  by_cases hh : ∃ i, s.handles[h]? = some (.plain i)
  · obtain ⟨i, hh⟩ := hh
    rw [hReadFrom_plain hh r]
    exact mwReadFrom_of_err s _ r he
  · rw [hReadFrom_other r (fun i hi => hh ⟨i, hi⟩)]

theorem applyOp_nextWriter_snd (s : W) (t : Int) (a : List Bytes) (b : Bytes) :
    (applyOp s (.nextWriter t a b)).2 = (nextWriter s t a b).2 := by
  simp only [applyOp]
  split <;> (rename_i heq; rw [heq])

theorem applyOp_of_err (s : W) (op : Op) (he : s.writeErr.isSome) : (applyOp s op).2.core = s.core := by
  cases op with
  | nextWriter t dnp fullp =>
    rw [applyOp_nextWriter_snd]
    exact (nextWriter_of_err s t dnp fullp he).2
  | write h p dn a => exact hWrite_of_err s h p dn a he
  | readFrom h r => exact hReadFrom_of_err s h r he
  | close h dn full => exact (hClose_of_err s h dn full he).2
  | writeMessage t data dnp fullp dn full => exact (writeMessage_of_err s t data dnp fullp dn full he).2
  | writeJSON enc dnp fullp dn full => exact (writeJSON_of_err s enc dnp fullp dn full he).2
  | writeControl t data d => exact (writeControl_of_err s t data d he).2
  | writePrepared t img dnp fullp => exact (writePreparedImage_of_err s t img dnp fullp he).2
  | setWriteDeadline d => rfl
  | enableWriteCompression b => rfl
  | setCompressionLevel l =>
    simp only [applyOp, setCompressionLevel]; split <;> rfl

theorem requests_fail_of_err (s : W) (h : s.writeErr.isSome) :
    (∀ t dnp fullp, ∃ e, (nextWriter s t dnp fullp).1 = .error e) ∧
    (∀ t data dnp fullp dn full, (writeMessage s t data dnp fullp dn full).1.isSome) ∧
    (∀ enc dnp fullp dn full, (writeJSON s enc dnp fullp dn full).1.isSome) ∧
    (∀ t data d, (writeControl s t data d).1.isSome) ∧
    (∀ t img dnp fullp, (writePreparedImage s t img dnp fullp).1.isSome) ∧
    (∀ hd dn full, (hClose s hd dn full).1.isSome) :=
  ⟨fun t dnp fullp => (nextWriter_of_err s t dnp fullp h).1,
   fun t data dnp fullp dn full => (writeMessage_of_err s t data dnp fullp dn full h).1,
   fun enc dnp fullp dn full => (writeJSON_of_err s enc dnp fullp dn full h).1,
   fun t data d => (writeControl_of_err s t data d h).1,
   fun t img dnp fullp => (writePreparedImage_of_err s t img dnp fullp h).1,
   fun hd dn full => (hClose_of_err s hd dn full h).1⟩

theorem run_of_err (s : W) (ops : List Op) (he : s.writeErr.isSome) : (run s ops).core = s.core := by
  induction ops generalizing s with
  | nil => rfl
  | cons op ops ih =>
    unfold run
    have h1 := applyOp_of_err s op he
    rw [ih _ (isSome_of_core h1 he), h1]

theorem run_failstop (s : W) (ops : List Op) (h : s.writeErr.isSome) :
    (run s ops).wire = s.wire ∧ (run s ops).tcalls = s.tcalls ∧ (run s ops).writeErr = s.writeErr :=
  have hc := run_of_err s ops h
  ⟨core_wire hc, core_tcalls hc, core_writeErr hc⟩

end WS
