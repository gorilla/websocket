import WS.Model.Reader
import WS.Lemmas.Mask
import WS.Lemmas.Codec
import WS.Lemmas.SrcLaw
import WS.Lemmas.HdrLogic
/-
  advanceFrame cut into its stages (`afSkip` … `afHead`, copies of the parts of WS.advanceFrame; `advanceFrame_eq`
  composes them back); what every stage keeps on any input (`Fr0` / `Fr` / `FrB`); the wire layout of one frame as
  the reader meets it (`l7`, `ext`, `keyBytes`, `body`, `mbit`, `encode_eq`); and what each stage does on the bytes
  it expects, on a stream that may end anywhere among them (`*_cut`; whole-stream forms `*_ok` / `*_raw`).
  `WS.LimitClaimed.claimed` / `extLen` stand here because `afLen_cut` is stated through them; the theorems of that
  namespace are in LimitClaimed.lean.
-/
namespace WS.LimitClaimed

/-- the length a header claims: the 7-bit field, or the big-endian value of the extension bytes -/
def claimed (h : Hdr) (ext : Bytes) : Nat := if h.len7 = 126 ∨ h.len7 = 127 then beVal ext else h.len7

def extLen (h : Hdr) : Nat := if h.len7 = 126 then 2 else if h.len7 = 127 then 8 else 0

end WS.LimitClaimed

namespace WS.AdvFrame
open WS WS.SrcLaw WS.LimitClaimed

/-- step 1 -/
def afSkip (c : Conn) : Option RErr × Conn :=
  if c.r.remaining > 0 then
    let (e, b) := c.r.buf.skip c.r.remaining.toNat
    (e, { c with r := { c.r with buf := b } })
  else (none, c)

/-- step 3 -/
def afLen (h : Hdr) (c : Conn) : Option RErr × Conn :=
  if h.len7 = 126 then
    let (p, e, b) := c.r.buf.take 2
    let c := { c with r := { c.r with buf := b } }
    match e with
    | some e => (some e, c)
    | none => (none, { c with r := { c.r with remaining := beVal p } })
  else if h.len7 = 127 then
    let (p, e, b) := c.r.buf.take 8
    let c := { c with r := { c.r with buf := b } }
    match e with
    | some e => (some e, c)
    | none =>
      let v := wrap64 (beVal p)
      if v < 0 then (some .readLimit, sendTooBig c) else (none, { c with r := { c.r with remaining := v } })
  else (none, c)

/-- step 4 -/
def afKey (h : Hdr) (c : Conn) : Option RErr × Conn :=
  if h.mask then
    let (p, e, b) := c.r.buf.take 4
    let c := { c with r := { c.r with buf := b, maskPos := 0 } }
    match e, Key.ofBytes p with
    | some e, _ => (some e, c)
    | none, some k => (none, { c with r := { c.r with maskKey := k } })
    | none, none => (some .any, c)
  else (none, c)

/-- step 5 -/
def afData (h : Hdr) (c : Conn) : Except RErr Nat × Conn :=
  let base : Int := if h.opcode == 0 then c.r.length else 0
  let len := wrap64 (base + c.r.remaining)
  let c := { c with r := { c.r with length := len } }
  if len < 0 || (c.r.limit > 0 && len > c.r.limit) then (.error .readLimit, sendTooBig c)
  else (.ok h.opcode, c)

/-- step 6 -/
def afPayload (c : Conn) : Option RErr × Bytes × Conn :=
  if c.r.remaining > 0 then
    let (p, e, b) := c.r.buf.take c.r.remaining.toNat
    let c := { c with r := { c.r with buf := b, remaining := 0 } }
    match e with
    | some e => (some e, [], c)
    | none => (none, if c.r.isServer then maskFrom c.r.maskKey 0 p else p, c)
  else (none, [], c)

/-- step 7 -/
def afDispatch (h : Hdr) (payload : Bytes) (c : Conn) : Except RErr Nat × Conn :=
  if h.opcode == 10 then
    let (e, c) := runHandler c.r.hPong c (.pong payload)
    match e with
    | some e => (.error e, c)
    | none => (.ok 10, c)
  else if h.opcode == 9 then
    let (e, c) := runHandler c.r.hPing c (.ping payload)
    match e with
    | some e => (.error e, c)
    | none =>
      let c := if c.r.hPing = .dflt then { c with w := (writeControl c.w 10 payload writeWaitDeadline).2 } else c
      (.ok 9, c)
  else
    -- close
    let code := if payload.length ≥ 2 then beVal (payload.take 2) else Gen.CloseNoStatusReceived.toNat
    let text := if payload.length ≥ 2 then payload.drop 2 else []
    if payload.length ≥ 2 && !isValidReceivedCloseCode code then
      let (e, c) := handleProtocolError c ("bad close code " ++ toString code)
      (.error e, c)
    else if payload.length ≥ 2 && !Spec.validUtf8 text then
      let (e, c) := handleProtocolError c "invalid utf8 payload in close frame"
      (.error e, c)
    else
      let (e, c) := runHandler c.r.hClose c (.close code text)
      match e with
      | some e => (.error e, c)
      | none =>
        let c := if c.r.hClose = .dflt then { c with w := (writeControl c.w 8 (closePayload code []) writeWaitDeadline).2 } else c
        (.error (.close code text), c)

/-- steps 5–7 -/
def afRest (h : Hdr) (c : Conn) : Except RErr Nat × Conn :=
  if h.opcode == 0 || h.opcode == 1 || h.opcode == 2 then afData h c
  else
  match afPayload c with
  | (some e, _, c) => (.error e, c)
  | (none, payload, c) => afDispatch h payload c

/-- readFinal after the header of a frame with opcode `op` -/
def finalAfter (op : Nat) (fin : Bool) (c : Conn) : Bool :=
  if op == 1 || op == 2 || op == 0 then fin else c.r.final

/-- steps 3–7 -/
def afTail (h : Hdr) (c : Conn) : Except RErr Nat × Conn :=
  match afLen h c with
  | (some e, c) => (.error e, c)
  | (none, c) =>
  match afKey h c with
  | (some e, c) => (.error e, c)
  | (none, c) => afRest h c

/-- steps 2b–7 on the two header bytes -/
def afHdr (c : Conn) (b0 b1 : UInt8) : Except RErr Nat × Conn :=
  let h := parseHdr b0 b1
  let errs := headerErrors c.r.isServer c.r.nego c.r.final h
  let final' := if h.opcode == 1 || h.opcode == 2 || h.opcode == 0 then h.fin else c.r.final
  let c := { c with r := { c.r with remaining := h.len7, decompress := h.rsv1 && c.r.nego, final := final' } }
  if !errs.isEmpty then
    let (e, c) := handleProtocolError c (", ".intercalate errs)
    (.error e, c)
  else
  match afLen h c with
  | (some e, c) => (.error e, c)
  | (none, c) =>
  match afKey h c with
  | (some e, c) => (.error e, c)
  | (none, c) =>
  if h.opcode == 0 || h.opcode == 1 || h.opcode == 2 then afData h c
  else
  match afPayload c with
  | (some e, _, c) => (.error e, c)
  | (none, payload, c) => afDispatch h payload c

/-- step 2a and the rest -/
def afHead (c : Conn) : Except RErr Nat × Conn :=
  let (p, e, b) := c.r.buf.take 2
  let c := { c with r := { c.r with buf := b } }
  match e, p with
  | some e, _ => (.error e, c)
  | none, [b0, b1] => afHdr c b0 b1
  | none, _ => (.error .any, c)

theorem advanceFrame_eq (c : Conn) :
    advanceFrame c = match afSkip c with
      | (some e, c) => (.error e, c)
      | (none, c) => afHead c := by
  rfl


/-! ### what the stages keep -/

/-- what neither advanceFrame nor the Read / NextReader loops around it change; `prog`: a well-formed byte source
    stays so and only moves forward -/
structure Fr0 (c c' : Conn) : Prop where
  isServer : c'.r.isServer = c.r.isServer
  nego : c'.r.nego = c.r.nego
  limit : c'.r.limit = c.r.limit
  errCount : c'.r.errCount = c.r.errCount
  hPing : c'.r.hPing = c.r.hPing
  hPong : c'.r.hPong = c.r.hPong
  hClose : c'.r.hClose = c.r.hClose
  same : Same2 c.r.buf c'.r.buf
  prog : WF c.r.buf → Prog c.r.buf c'.r.buf

/-- what advanceFrame keeps: in addition the latched error and the message-reader bookkeeping, which only
    the loops around it write -/
structure Fr (c c' : Conn) : Prop extends Fr0 c c' where
  readErr : c'.r.readErr = c.r.readErr
  msgReader : c'.r.msgReader = c.r.msgReader
  nextId : c'.r.nextId = c.r.nextId

theorem Fr0.refl (c : Conn) : Fr0 c c := ⟨rfl, rfl, rfl, rfl, rfl, rfl, rfl, Same2.refl _, Prog.refl _⟩

theorem Fr0.trans {a b c : Conn} (h1 : Fr0 a b) (h2 : Fr0 b c) : Fr0 a c :=
  ⟨h2.isServer.trans h1.isServer, h2.nego.trans h1.nego, h2.limit.trans h1.limit, h2.errCount.trans h1.errCount,
    h2.hPing.trans h1.hPing, h2.hPong.trans h1.hPong, h2.hClose.trans h1.hClose, h1.same.trans h2.same,
    fun hw => (h1.prog hw).trans (h2.prog (h1.prog hw).wf)⟩

theorem Fr.refl (c : Conn) : Fr c c := ⟨Fr0.refl c, rfl, rfl, rfl⟩

theorem Fr.trans {a b c : Conn} (h1 : Fr a b) (h2 : Fr b c) : Fr a c :=
  ⟨h1.toFr0.trans h2.toFr0, h2.readErr.trans h1.readErr, h2.msgReader.trans h1.msgReader, h2.nextId.trans h1.nextId⟩

/-- any update of the fields a read loop may write. The field values are variables, so applying the lemma is
    first-order matching: `rfl` between an updated record and the original would evaluate `wrap64 (beVal p)` on an
    open term (unary arithmetic on 2^63). -/
theorem Fr0.upd {c : Conn} {w : W} {re : Option RErr} {rem : Int} {fin : Bool} {len : Int} {mp : Nat} {mk : Key}
    {dc : Bool} {mr : Option Nat} {ni : Nat} {b : Buf} {hl : List REv} (hs : Same2 c.r.buf b)
    (hb : WF c.r.buf → Prog c.r.buf b) :
    Fr0 c { w := w, r := { c.r with readErr := re, remaining := rem, final := fin, length := len, maskPos := mp,
                                     maskKey := mk, decompress := dc, msgReader := mr, nextId := ni, buf := b, hlog := hl } } :=
  ⟨rfl, rfl, rfl, rfl, rfl, rfl, rfl, hs, hb⟩

theorem Fr.upd {c : Conn} {w : W} {rem : Int} {fin : Bool} {len : Int} {mp : Nat} {mk : Key} {dc : Bool} {b : Buf}
    {hl : List REv} (hs : Same2 c.r.buf b) (hb : WF c.r.buf → Prog c.r.buf b) :
    Fr c { w := w, r := { c.r with remaining := rem, final := fin, length := len, maskPos := mp, maskKey := mk,
                                    decompress := dc, buf := b, hlog := hl } } :=
  ⟨Fr0.upd hs hb, rfl, rfl, rfl⟩

/-- `Fr` for a step that does not read (steps 5 and 7, handlers, close frames sent in reply) -/
structure FrB (c c' : Conn) : Prop where
  fr : Fr c c'
  buf : c'.r.buf = c.r.buf

theorem FrB.refl (c : Conn) : FrB c c := ⟨Fr.refl c, rfl⟩

theorem FrB.trans {a b c : Conn} (h1 : FrB a b) (h2 : FrB b c) : FrB a c :=
  ⟨h1.fr.trans h2.fr, h2.buf.trans h1.buf⟩

theorem FrB.upd {c : Conn} {w : W} {rem : Int} {fin : Bool} {len : Int} {mp : Nat} {mk : Key} {dc : Bool}
    {hl : List REv} :
    FrB c { w := w, r := { c.r with remaining := rem, final := fin, length := len, maskPos := mp, maskKey := mk,
                                     decompress := dc, hlog := hl } } :=
  ⟨Fr.upd (Same2.refl _) (Prog.refl _), rfl⟩

theorem FrB.setW (c : Conn) (w : W) : FrB c { c with w := w } := FrB.upd

theorem FrB.sendTooBig {c c' : Conn} (h : FrB c c') : FrB c (sendTooBig c') := h.trans (FrB.setW _ _)

theorem Fr.sendTooBig {c c' : Conn} (h : Fr c c') : Fr c (sendTooBig c') := h.trans (FrB.setW _ _).fr

theorem hpe_fr (c : Conn) (msg : String) : FrB c (handleProtocolError c msg).2 := FrB.setW _ _

theorem runHandler_fr (m : HMode) (c : Conn) (ev : REv) : FrB c (runHandler m c ev).2 := by
  unfold runHandler
  split <;> exact FrB.upd

theorem afSkip_fr (c : Conn) : Fr c (afSkip c).2 := by
  unfold afSkip
  split
  · have h := skip_prog c.r.buf (n := c.r.remaining.toNat)
    have hs := skip_same2 c.r.buf c.r.remaining.toNat
    generalize c.r.buf.skip c.r.remaining.toNat = x at h hs ⊢
    exact Fr.upd hs (fun hw => h hw)
  · exact Fr.refl c

theorem afLen_fr (h : Hdr) (c : Conn) : Fr c (afLen h c).2 := by
  unfold afLen
  split
  · have ht := fun hw => (take_prog c.r.buf hw 2).1
    have hs := take_same2 c.r.buf 2
    generalize c.r.buf.take 2 = x at ht hs ⊢
    obtain ⟨p, e, b⟩ := x
    cases e <;> exact Fr.upd hs ht
  · split
    · have ht := fun hw => (take_prog c.r.buf hw 8).1
      have hs := take_same2 c.r.buf 8
      generalize c.r.buf.take 8 = x at ht hs ⊢
      obtain ⟨p, e, b⟩ := x
      cases e
      · simp only []
        split
        · exact (Fr.upd hs ht).sendTooBig
        · exact Fr.upd hs ht
      · exact Fr.upd hs ht
    · exact Fr.refl c

theorem afKey_fr (h : Hdr) (c : Conn) : Fr c (afKey h c).2 := by
  unfold afKey
  split
  · have ht := fun hw => (take_prog c.r.buf hw 4).1
    have hs := take_same2 c.r.buf 4
    generalize c.r.buf.take 4 = x at ht hs ⊢
    obtain ⟨p, e, b⟩ := x
    cases e
    · simp only []
      cases Key.ofBytes p <;> exact Fr.upd hs ht
    · exact Fr.upd hs ht
  · exact Fr.refl c

theorem afData_fr (h : Hdr) (c : Conn) : FrB c (afData h c).2 := by
  unfold afData
  simp only []
  generalize (if (h.opcode == 0) = true then c.r.length else 0) = base
  split
  · exact FrB.upd.sendTooBig
  · exact FrB.upd

theorem afPayload_fr (c : Conn) : Fr c (afPayload c).2.2 := by
  unfold afPayload
  split
  · have ht := fun hw => (take_prog c.r.buf hw c.r.remaining.toNat).1
    have hs := take_same2 c.r.buf c.r.remaining.toNat
    generalize c.r.buf.take c.r.remaining.toNat = x at ht hs ⊢
    obtain ⟨p, e, b⟩ := x
    cases e <;> exact Fr.upd hs ht
  · exact Fr.refl c

theorem handler_fr (m : HMode) (c : Conn) (ev : REv) (k : Conn → Except RErr Nat × Conn)
    (hk : ∀ c', FrB c' (k c').2) :
    FrB c (match runHandler m c ev with
      | (e, c) => match e with
        | some e => ((.error e : Except RErr Nat), c)
        | none => k c).2 := by
  have h := runHandler_fr m c ev
  generalize runHandler m c ev = x at h ⊢
  obtain ⟨e, c'⟩ := x
  cases e
  · exact h.trans (hk c')
  · exact h

theorem reply_fr {α : Type} (a : α) (c : Conn) (p : Prop) [Decidable p] (w : W) :
    FrB c (a, if p then { c with w := w } else c).2 := by
  split
  · exact FrB.setW _ _
  · exact FrB.refl _

theorem FrB.ite {α : Type} {c : Conn} {p : Prop} [Decidable p] {x y : α × Conn} (hx : FrB c x.2) (hy : FrB c y.2) :
    FrB c (if p then x else y).2 := by
  split
  · exact hx
  · exact hy

theorem afDispatch_fr (h : Hdr) (p : Bytes) (c : Conn) : FrB c (afDispatch h p c).2 := by
  unfold afDispatch
  refine FrB.ite (handler_fr _ _ _ _ (fun c' => FrB.refl c'))
    (FrB.ite (handler_fr _ _ _ _ (fun c' => reply_fr _ c' _ _)) ?_)
  exact FrB.ite (hpe_fr _ _) (FrB.ite (hpe_fr _ _) (handler_fr _ _ _ _ (fun c' => reply_fr _ c' _ _)))

theorem afRest_fr (h : Hdr) (c : Conn) : Fr c (afRest h c).2 := by
  unfold afRest
  split
  · exact (afData_fr h c).fr
  · have h3 := afPayload_fr c
    generalize afPayload c = x at h3 ⊢
    obtain ⟨e, p, c4⟩ := x
    cases e
    · exact h3.trans (afDispatch_fr h p c4).fr
    · exact h3

theorem afHdr_fr (c : Conn) (b0 b1 : UInt8) : Fr c (afHdr c b0 b1).2 := by
  unfold afHdr
  extract_lets h errs final' src c1
  have h0 : Fr c c1 := Fr.upd (Same2.refl _) (Prog.refl _)
  split
  · exact h0.trans (hpe_fr _ _).fr
  · have h1 := h0.trans (afLen_fr h c1)
    generalize afLen h c1 = x at h1 ⊢
    obtain ⟨e, c2⟩ := x
    cases e
    · simp only [] at h1 ⊢
      have h2 := h1.trans (afKey_fr h c2)
      generalize afKey h c2 = x at h2 ⊢
      obtain ⟨e, c3⟩ := x
      cases e
      · exact h2.trans (afRest_fr h c3)
      · exact h2
    · exact h1

theorem afHead_fr (c : Conn) :
    Fr c (afHead c).2 ∧
      (WF c.r.buf → ∀ t, (afHead c).1 = .ok t → (afHead c).2.r.buf.pending.length + 2 ≤ c.r.buf.pending.length) := by
  unfold afHead
  have ht := fun hw => take_prog c.r.buf hw 2
  have hs := take_same2 c.r.buf 2
  generalize c.r.buf.take 2 = x at ht hs ⊢
  obtain ⟨p, e, b⟩ := x
  have h0 : Fr c { c with r := { c.r with buf := b } } := Fr.upd hs (fun hw => (ht hw).1)
  cases e with
  | some e => exact ⟨h0, fun _ t h => by cases h⟩
  | none =>
    rcases p with _ | ⟨b0, _ | ⟨b1, _ | ⟨b2, p⟩⟩⟩
    · exact ⟨h0, fun _ t h => by cases h⟩
    · exact ⟨h0, fun _ t h => by cases h⟩
    · have hh := afHdr_fr { c with r := { c.r with buf := b } } b0 b1
      refine ⟨h0.trans hh, fun hw t _ => ?_⟩
      have h2 := (ht hw).2 rfl
      have := (hh.prog (ht hw).1.wf).len
      simp only [] at h2 this ⊢
      omega
    · exact ⟨h0, fun _ t h => by cases h⟩

theorem advanceFrame_fr (c : Conn) :
    Fr c (advanceFrame c).2 ∧
      (WF c.r.buf → ∀ t, (advanceFrame c).1 = .ok t →
        (advanceFrame c).2.r.buf.pending.length + 2 ≤ c.r.buf.pending.length) := by
  rw [advanceFrame_eq]
  have h1 := afSkip_fr c
  generalize afSkip c = x at h1 ⊢
  obtain ⟨e, c1⟩ := x
  cases e
  · simp only [] at h1 ⊢
    obtain ⟨h2, h3⟩ := afHead_fr c1
    refine ⟨h1.trans h2, fun hw t ht => ?_⟩
    have := h3 (h1.prog hw).wf t ht
    have := (h1.prog hw).len
    omega
  · exact ⟨h1, fun _ t h => by cases h⟩

/-! ### wire layout of one frame -/

def l7 (len : Nat) : Nat := if len ≥ 65536 then 127 else if len > 125 then 126 else len
def ext (len : Nat) : Bytes := if len ≥ 65536 then beBytes 8 len else if len > 125 then beBytes 2 len else []
def keyBytes (S : Bool) (key : Key) : Bytes := if S then key.bytes else []
def body (S : Bool) (key : Key) (payload : Bytes) : Bytes := if S then maskFrom key 0 payload else payload
def mbit (S : Bool) : Nat := if S then 128 else 0

theorem l7_lt (len : Nat) : l7 len < 128 := by
  unfold l7; split
  · omega
  · split <;> omega

theorem l7_small (len : Nat) (h : len ≤ 125) : l7 len = len := by
  unfold l7; rw [if_neg (by omega), if_neg (by omega)]

theorem body_length (S : Bool) (key : Key) (payload : Bytes) : (body S key payload).length = payload.length := by
  unfold body; split
  · simp
  · rfl

theorem body_unmask (S : Bool) (key k : Key) (payload : Bytes) (hk : S = true → k = key) :
    (if S then maskFrom k 0 (body S key payload) else body S key payload) = payload := by
  unfold body
  cases S
  · rfl
  · simp only [if_true]; rw [hk rfl]; exact maskFrom_involutive _ _ _

theorem encode_eq (S : Bool) (b0 : Nat) (key : Key) (payload : Bytes) :
    Codec.encode (!S) b0 key payload =
      UInt8.ofNat b0 :: UInt8.ofNat (mbit S + l7 payload.length) ::
        (ext payload.length ++ (keyBytes S key ++ body S key payload)) := by
  unfold Codec.encode header l7 ext keyBytes body mbit
  -- `header` (writer) and `l7` / `ext` (reader) split the length into the same three classes; the writer
  -- masks (and sends the key) exactly when the reader is the server
  by_cases h1 : payload.length ≥ 65536
  · cases S <;> simp [h1]
  · by_cases h2 : payload.length > 125
    · cases S <;> simp [h1, h2]
    · cases S <;> simp [h1, h2]

/-- bit layout of the first header byte (opcode, FIN, RSV1; RSV2 and RSV3 clear): a table over its 64 values -/
theorem parseHdr_b0 : ∀ (op : Fin 16) (fin z : Bool),
    (op.val + (if fin then 128 else 0) + (if z then 64 else 0)) % 16 = op.val ∧
    decide ((op.val + (if fin then 128 else 0) + (if z then 64 else 0)) / 128 % 2 = 1) = fin ∧
    decide ((op.val + (if fin then 128 else 0) + (if z then 64 else 0)) / 64 % 2 = 1) = z ∧
    decide ((op.val + (if fin then 128 else 0) + (if z then 64 else 0)) / 32 % 2 = 1) = false ∧
    decide ((op.val + (if fin then 128 else 0) + (if z then 64 else 0)) / 16 % 2 = 1) = false := by decide

theorem parseHdr_b1 (S : Bool) (n7 : Nat) (hn : n7 < 128) :
    decide ((mbit S + n7) / 128 % 2 = 1) = S ∧ (mbit S + n7) % 128 = n7 := by
  unfold mbit
  cases S <;> simp <;> omega

theorem parseHdr_enc (op : Nat) (fin z S : Bool) (n7 : Nat) (hop : op < 16) (hn : n7 < 128) :
    parseHdr (UInt8.ofNat (op + (if fin then 128 else 0) + (if z then 64 else 0))) (UInt8.ofNat (mbit S + n7)) =
      ⟨op, fin, z, false, false, S, n7⟩ := by
  obtain ⟨a1, a2, a3, a4, a5⟩ := parseHdr_b0 ⟨op, hop⟩ fin z
  obtain ⟨c1, c2⟩ := parseHdr_b1 S n7 hn
  unfold parseHdr
  rw [Codec.toNat_ofNat_lt _ (by split <;> split <;> omega), Codec.toNat_ofNat_lt _ (by unfold mbit; split <;> omega)]
  simp only [] at a1 a2 a3 a4 a5
  rw [a1, a2, a3, a4, a5, c1, c2]

theorem hdrErrs_data (S nego final fin z : Bool) (op n7 : Nat) (hz : z = true → nego = true)
    (h : (op = 0 ∧ final = false) ∨ ((op = 1 ∨ op = 2) ∧ final = true)) :
    headerErrors S nego final ⟨op, fin, z, false, false, S, n7⟩ = [] := by
  rw [HdrLogic.headerErrors_nil_iff]
  unfold HdrLogic.Violates
  cases z
  · rcases h with ⟨rfl, rfl⟩ | ⟨rfl | rfl, rfl⟩ <;> simp
  · rw [hz rfl]
    rcases h with ⟨rfl, rfl⟩ | ⟨rfl | rfl, rfl⟩ <;> simp

theorem hdrErrs_ctl3 (S nego final : Bool) (op n7 : Nat) (h : op = 8 ∨ op = 9 ∨ op = 10) (hn : n7 ≤ 125) :
    headerErrors S nego final ⟨op, true, false, false, false, S, n7⟩ = [] := by
  rw [HdrLogic.headerErrors_nil_iff]
  unfold HdrLogic.Violates
  rcases h with rfl | rfl | rfl <;> simp <;> omega

theorem wrap64_id (x : Int) (h0 : 0 ≤ x) (h1 : x < 9223372036854775808) : wrap64 x = x := by
  unfold wrap64 two63 two64
  omega

/-! ### the stages on well-formed input -/

theorem afSkip_ok (c : Conn) (wire tail : Bytes) (hrem : c.r.remaining = (wire.length : Int))
    (hwf : WF c.r.buf) (hp : c.r.buf.pending = wire ++ tail) :
    ∃ b', afSkip c = (none, { c with r := { c.r with buf := b' } }) ∧ b'.pending = tail ∧ WF b' ∧
      Same2 c.r.buf b' := by
  unfold afSkip
  split
  · have hn : c.r.remaining.toNat = wire.length := by omega
    obtain ⟨b', h1, h2, h3, h4⟩ := skip_exact c.r.buf hwf c.r.remaining.toNat wire tail hp hn.symm
    rw [h1]
    exact ⟨b', rfl, h2, h3, h4⟩
  · have hn : wire.length = 0 := by omega
    have : wire = [] := List.eq_nil_of_length_eq_zero hn
    subst this
    exact ⟨c.r.buf, rfl, by simpa using hp, hwf, Same2.refl _⟩

theorem afSkip_zero (c : Conn) (hrem : c.r.remaining = 0) : afSkip c = (none, c) := by
  unfold afSkip
  rw [if_neg (by rw [hrem]; decide)]

/-! One law per reading stage, on a stream that would go on with the bytes the stage expects (`xs ++ T`) but ends
after `m` bytes: the stage either has all of `xs` and yields its exact result, the cut moving on to `T`, or fails
with an error that is not io.EOF. The whole stream is the case `m = xs.length + T.length` (`SrcLaw.whole_cut`). -/

theorem afHead_cut (c : Conn) (x0 x1 : UInt8) (T : Bytes) (m : Nat) (hwf : WF c.r.buf) (hsz : 2 ≤ c.r.buf.size)
    (hp : c.r.buf.pending = (x0 :: x1 :: T).take m) :
    (2 ≤ m ∧ ∃ b', afHead c = afHdr { c with r := { c.r with buf := b' } } x0 x1 ∧ b'.pending = T.take (m - 2) ∧
      WF b' ∧ Same2 c.r.buf b') ∨
    (m < 2 ∧ ∃ e c', afHead c = (.error e, c') ∧ e ≠ .eof) := by
  unfold afHead
  rcases take_cut c.r.buf hwf [x0, x1] T m 2 rfl hsz hp with ⟨hm, b', e, r⟩ | ⟨hm, p, e, b', t, ne⟩
  · rw [e]; exact Or.inl ⟨hm, b', rfl, r⟩
  · rw [t]; exact Or.inr ⟨hm, e, _, rfl, ne⟩

theorem afHead_ok (c : Conn) (x0 x1 : UInt8) (tail : Bytes) (hwf : WF c.r.buf) (hsz : 2 ≤ c.r.buf.size)
    (hp : c.r.buf.pending = x0 :: x1 :: tail) :
    ∃ b', afHead c = afHdr { c with r := { c.r with buf := b' } } x0 x1 ∧ b'.pending = tail ∧ WF b' ∧
      Same2 c.r.buf b' := by
  obtain ⟨e1, e2⟩ := whole_cut [x0, x1] tail
  rcases afHead_cut c x0 x1 tail _ hwf hsz (hp.trans e1) with ⟨_, b', r, p, w⟩ | ⟨hm, _⟩
  · exact ⟨b', r, p.trans e2, w⟩
  · exact absurd hm (Nat.not_lt.mpr (Nat.le_add_right _ _))

/-- step 3 for any encoding of a length below 2^63 -/
theorem afLen_cut (h : Hdr) (c : Conn) (ext T : Bytes) (m : Nat)
    (hrem : c.r.remaining = (h.len7 : Int)) (hext : ext.length = extLen h) (hL : claimed h ext < 2 ^ 63)
    (hwf : WF c.r.buf) (hsz : 8 ≤ c.r.buf.size) (hp : c.r.buf.pending = (ext ++ T).take m) :
    (ext.length ≤ m ∧
      ∃ b', afLen h c = (none, { c with r := { c.r with buf := b', remaining := (claimed h ext : Int) } }) ∧
        b'.pending = T.take (m - ext.length) ∧ WF b' ∧ Same2 c.r.buf b') ∨
    (m < ext.length ∧ ∃ e c', afLen h c = (some e, c') ∧ e ≠ .eof) := by
  unfold afLen
  by_cases h126 : h.len7 = 126
  · have hcl : claimed h ext = beVal ext := by unfold claimed; rw [if_pos (Or.inl h126)]
    have he : ext.length = 2 := by rw [hext]; unfold extLen; rw [if_pos h126]
    rw [if_pos h126, hcl]
    rcases take_cut c.r.buf hwf ext T m 2 he (by omega) hp with ⟨hm, b', e, r⟩ | ⟨hm, p, e, b', t, ne⟩
    · rw [e]; exact Or.inl ⟨hm, b', rfl, r⟩
    · rw [t]; exact Or.inr ⟨hm, e, _, rfl, ne⟩
  · by_cases h127 : h.len7 = 127
    · have hcl : claimed h ext = beVal ext := by unfold claimed; rw [if_pos (Or.inr h127)]
      have he : ext.length = 8 := by rw [hext]; unfold extLen; rw [if_neg h126, if_pos h127]
      rw [if_neg h126, if_pos h127, hcl]
      rw [hcl] at hL
      rcases take_cut c.r.buf hwf ext T m 8 he hsz hp with ⟨hm, b', e, r⟩ | ⟨hm, p, e, b', t, ne⟩
      · have hw : wrap64 ((beVal ext : Nat) : Int) = (beVal ext : Int) := wrap64_id _ (by omega) (by omega)
        rw [e]
        simp only [hw]
        rw [if_neg (by omega)]
        exact Or.inl ⟨hm, b', rfl, r⟩
      · rw [t]; exact Or.inr ⟨hm, e, _, rfl, ne⟩
    · have hcl : claimed h ext = h.len7 := by unfold claimed; rw [if_neg (by omega)]
      have he : ext = [] := by
        apply List.eq_nil_of_length_eq_zero
        rw [hext]; unfold extLen; rw [if_neg h126, if_neg h127]
      subst he
      rw [if_neg h126, if_neg h127, hcl, ← hrem]
      exact Or.inl ⟨Nat.zero_le _, c.r.buf, rfl, hp, hwf, Same2.refl _⟩

theorem afLen_claimed (h : Hdr) (c : Conn) (ext tail : Bytes)
    (hrem : c.r.remaining = (h.len7 : Int)) (hext : ext.length = extLen h) (hL : claimed h ext < 2 ^ 63)
    (hwf : WF c.r.buf) (hsz : 8 ≤ c.r.buf.size) (hp : c.r.buf.pending = ext ++ tail) :
    ∃ b', afLen h c = (none, { c with r := { c.r with buf := b', remaining := (claimed h ext : Int) } }) ∧
      b'.pending = tail ∧ WF b' ∧ Same2 c.r.buf b' := by
  obtain ⟨e1, e2⟩ := whole_cut ext tail
  rcases afLen_cut h c ext tail _ hrem hext hL hwf hsz (hp.trans e1) with ⟨_, b', r, p, w⟩ | ⟨hm, _⟩
  · exact ⟨b', r, p.trans e2, w⟩
  · exact absurd hm (Nat.not_lt.mpr (Nat.le_add_right _ _))

theorem claimed_ext (h : Hdr) (len : Nat) (hl7 : h.len7 = l7 len) (hlen : len < 2 ^ 64) :
    claimed h (ext len) = len ∧ (ext len).length = extLen h := by
  unfold claimed extLen
  rw [hl7]
  unfold l7 ext
  by_cases h1 : len ≥ 65536
  · simp [h1, beVal_beBytes 8 len hlen]
  · by_cases h2 : len > 125
    · simp [h1, h2, beVal_beBytes 2 len (by omega)]
    · simp only [h1, h2, if_false, List.length_nil]
      rw [if_neg (by omega), if_neg (by omega), if_neg (by omega)]
      exact ⟨rfl, rfl⟩

theorem afKey_cut (h : Hdr) (c : Conn) (S : Bool) (key : Key) (T : Bytes) (m : Nat) (hm : h.mask = S)
    (hwf : WF c.r.buf) (hsz : 4 ≤ c.r.buf.size) (hp : c.r.buf.pending = (keyBytes S key ++ T).take m) :
    ((keyBytes S key).length ≤ m ∧ ∃ b', afKey h c = (none, { c with r := { c.r with buf := b', maskPos := (if S then 0 else c.r.maskPos), maskKey := (if S then key else c.r.maskKey) } }) ∧
      b'.pending = T.take (m - (keyBytes S key).length) ∧ WF b' ∧ Same2 c.r.buf b') ∨
    (m < (keyBytes S key).length ∧ ∃ e c', afKey h c = (some e, c') ∧ e ≠ .eof) := by
  unfold afKey
  cases S with
  | false =>
    rw [hm, if_neg (by decide)]
    exact Or.inl ⟨Nat.zero_le _, c.r.buf, rfl, hp, hwf, Same2.refl _⟩
  | true =>
    rw [hm, if_pos rfl]
    rcases take_cut c.r.buf hwf key.bytes T m 4 rfl hsz hp with ⟨hk, b', e, r⟩ | ⟨hk, p, e, b', t, ne⟩
    · rw [e]; exact Or.inl ⟨hk, b', rfl, r⟩
    · rw [t]; exact Or.inr ⟨hk, e, _, rfl, ne⟩

theorem afKey_ok (h : Hdr) (c : Conn) (S : Bool) (key : Key) (tail : Bytes) (hm : h.mask = S)
    (hwf : WF c.r.buf) (hsz : 4 ≤ c.r.buf.size) (hp : c.r.buf.pending = keyBytes S key ++ tail) :
    ∃ b', afKey h c = (none, { c with r := { c.r with buf := b', maskPos := (if S then 0 else c.r.maskPos), maskKey := (if S then key else c.r.maskKey) } }) ∧
      b'.pending = tail ∧ WF b' ∧ Same2 c.r.buf b' := by
  obtain ⟨e1, e2⟩ := whole_cut (keyBytes S key) tail
  rcases afKey_cut h c S key tail _ hm hwf hsz (hp.trans e1) with ⟨_, b', r, p, w⟩ | ⟨hk, _⟩
  · exact ⟨b', r, p.trans e2, w⟩
  · exact absurd hk (Nat.not_lt.mpr (Nat.le_add_right _ _))

theorem afKey_claimed (h : Hdr) (c : Conn) (keyb tail : Bytes)
    (hkey : keyb.length = if h.mask then 4 else 0)
    (hwf : WF c.r.buf) (hsz : 4 ≤ c.r.buf.size) (hp : c.r.buf.pending = keyb ++ tail) :
    ∃ b' mp mk, afKey h c = (none, { c with r := { c.r with buf := b', maskPos := mp, maskKey := mk } }) ∧
      b'.pending = tail ∧ WF b' ∧ Same2 c.r.buf b' := by
  cases hm : h.mask with
  | true =>
    rw [hm, if_pos rfl] at hkey
    obtain ⟨key, rfl⟩ : ∃ key : Key, keyb = key.bytes := by
      match keyb, hkey with
      | [a, b, c, d], _ => exact ⟨⟨a, b, c, d⟩, rfl⟩
    obtain ⟨b', t1, t2, t3, t4⟩ := afKey_ok h c true key tail hm hwf hsz (by simpa [keyBytes] using hp)
    exact ⟨b', _, _, t1, t2, t3, t4⟩
  | false =>
    rw [hm, if_neg (by decide)] at hkey
    have he : keyb = [] := List.eq_nil_of_length_eq_zero hkey
    subst he
    obtain ⟨b', t1, t2, t3, t4⟩ := afKey_ok h c false default tail hm hwf hsz (by simpa [keyBytes] using hp)
    exact ⟨b', _, _, t1, t2, t3, t4⟩

/-- the running sum a data frame starts from: a text / binary frame restarts it -/
def lenBase (op : Nat) (c : Conn) : Int := if op == 0 then c.r.length else 0

theorem lenBase_nonneg (op : Nat) (c : Conn) (h0 : 0 ≤ c.r.length) : 0 ≤ lenBase op c := by
  unfold lenBase; split
  · exact h0
  · exact Int.le_refl 0

theorem lenBase_le (op : Nat) (c : Conn) (h0 : 0 ≤ c.r.length) : lenBase op c ≤ c.r.length := by
  unfold lenBase; split
  · exact Int.le_refl _
  · exact h0

theorem afData_sum (h : Hdr) (c : Conn) (len : Nat) (hrem : c.r.remaining = (len : Int)) (h0 : 0 ≤ lenBase h.opcode c)
    (h1 : lenBase h.opcode c + len < 9223372036854775808) :
    wrap64 ((if h.opcode == 0 then c.r.length else 0) + c.r.remaining) = lenBase h.opcode c + len := by
  rw [hrem]; exact wrap64_id _ (by unfold lenBase at h0; omega) h1

theorem afData_ok (h : Hdr) (c : Conn) (len : Nat) (hrem : c.r.remaining = (len : Int)) (h0 : 0 ≤ lenBase h.opcode c)
    (h1 : lenBase h.opcode c + len < 9223372036854775808)
    (hlim : c.r.limit ≤ 0 ∨ lenBase h.opcode c + len ≤ c.r.limit) :
    afData h c = (.ok h.opcode, { c with r := { c.r with length := lenBase h.opcode c + len } }) := by
  unfold afData
  simp only [afData_sum h c len hrem h0 h1]
  rw [if_neg]
  simp only [Bool.or_eq_true, Bool.and_eq_true, decide_eq_true_eq]
  omega

theorem afPayload_cut (c : Conn) (wire T : Bytes) (m : Nat) (hrem : c.r.remaining = (wire.length : Int))
    (hwf : WF c.r.buf) (hsz : wire.length ≤ c.r.buf.size) (hp : c.r.buf.pending = (wire ++ T).take m) :
    (wire.length ≤ m ∧ ∃ b', afPayload c = (none, (if c.r.isServer then maskFrom c.r.maskKey 0 wire else wire),
        { c with r := { c.r with buf := b', remaining := 0 } }) ∧
      b'.pending = T.take (m - wire.length) ∧ WF b' ∧ Same2 c.r.buf b') ∨
    (m < wire.length ∧ ∃ e p c', afPayload c = (some e, p, c') ∧ e ≠ .eof) := by
  unfold afPayload
  split
  · rcases take_cut c.r.buf hwf wire T m c.r.remaining.toNat (by omega) (by omega) hp with
      ⟨hm, b', e, r⟩ | ⟨hm, p, e, b', t, ne⟩
    · rw [e]; exact Or.inl ⟨hm, b', rfl, r⟩
    · rw [t]; exact Or.inr ⟨hm, e, _, _, rfl, ne⟩
  · have : wire = [] := List.eq_nil_of_length_eq_zero (by omega)
    subst this
    have h0 : c.r.remaining = 0 := by simpa using hrem
    refine Or.inl ⟨Nat.zero_le _, c.r.buf, ?_, hp, hwf, Same2.refl _⟩
    rw [← h0]
    cases c.r.isServer <;> rfl

def ctlEv (op : Nat) (payload : Bytes) : REv := if op == 9 then .ping payload else .pong payload

theorem runHandler_ok (m : HMode) (c : Conn) (ev : REv) (hm : ∀ id, m ≠ .fail id) :
    runHandler m c ev = (none, { c with r := { c.r with hlog := c.r.hlog ++ [ev] }, w := emit c.w ev.toEv }) := by
  unfold runHandler
  cases m with
  | fail id => exact absurd rfl (hm id)
  | _ => rfl

theorem afDispatch_ok (h : Hdr) (payload : Bytes) (c : Conn) (hop : h.opcode = 9 ∨ h.opcode = 10)
    (hp : ∀ id, c.r.hPing ≠ .fail id) (hq : ∀ id, c.r.hPong ≠ .fail id) :
    ∃ w', afDispatch h payload c =
      (.ok h.opcode, { w := w', r := { c.r with hlog := c.r.hlog ++ [ctlEv h.opcode payload] } }) := by
  unfold afDispatch
  rcases hop with hop | hop
  · rw [hop]
    simp only [show ((9 : Nat) == 10) = false from rfl, show ((9 : Nat) == 9) = true from rfl, ctlEv,
      Bool.false_eq_true, if_false, if_true, runHandler_ok _ _ _ hp]
    split <;> exact ⟨_, rfl⟩
  · rw [hop]
    simp only [show ((10 : Nat) == 10) = true from rfl, show ((10 : Nat) == 9) = false from rfl, ctlEv,
      Bool.false_eq_true, if_false, if_true, runHandler_ok _ _ _ hq]
    exact ⟨_, rfl⟩

theorem afHdr_eq_tail (c : Conn) (b0 b1 : UInt8)
    (herrs : headerErrors c.r.isServer c.r.nego c.r.final (parseHdr b0 b1) = []) :
    afHdr c b0 b1 = afTail (parseHdr b0 b1)
      { c with r := { c.r with remaining := ((parseHdr b0 b1).len7 : Int),
                               decompress := (parseHdr b0 b1).rsv1 && c.r.nego,
                               final := finalAfter (parseHdr b0 b1).opcode (parseHdr b0 b1).fin c } } := by
  unfold afHdr afTail afRest finalAfter
  simp only [herrs, List.isEmpty_nil, Bool.not_true, Bool.false_eq_true, if_false]

/-- steps 2b–4 on the header of an encoded frame -/
theorem afHdr_prefix_cut (c : Conn) (b0 b1 : UInt8) (T : Bytes) (m : Nat) (op : Nat) (fin z : Bool) (key : Key) (len : Nat)
    (hwf : WF c.r.buf) (hsz : 125 ≤ c.r.buf.size)
    (hp : c.r.buf.pending = (ext len ++ (keyBytes c.r.isServer key ++ T)).take m)
    (hph : parseHdr b0 b1 = ⟨op, fin, z, false, false, c.r.isServer, l7 len⟩)
    (herrs : headerErrors c.r.isServer c.r.nego c.r.final ⟨op, fin, z, false, false, c.r.isServer, l7 len⟩ = [])
    (hlen : len < 2 ^ 62) :
    ((ext len).length + (keyBytes c.r.isServer key).length ≤ m ∧
      ∃ b', afHdr c b0 b1 =
          afRest ⟨op, fin, z, false, false, c.r.isServer, l7 len⟩
            { c with r := { c.r with buf := b', remaining := (len : Int), decompress := z && c.r.nego, final := finalAfter op fin c, maskPos := (if c.r.isServer then 0 else c.r.maskPos), maskKey := (if c.r.isServer then key else c.r.maskKey) } } ∧
        b'.pending = T.take (m - (ext len).length - (keyBytes c.r.isServer key).length) ∧ WF b' ∧ Same2 c.r.buf b') ∨
    (m < (ext len).length + (keyBytes c.r.isServer key).length ∧ ∃ e c', afHdr c b0 b1 = (.error e, c') ∧ e ≠ .eof) := by
  obtain ⟨hc, he⟩ := claimed_ext ⟨op, fin, z, false, false, c.r.isServer, l7 len⟩ len rfl (by omega)
  rw [afHdr_eq_tail c _ _ (by rw [hph]; exact herrs), hph]
  unfold afTail
  rcases afLen_cut ⟨op, fin, z, false, false, c.r.isServer, l7 len⟩
    { c with r := { c.r with remaining := ((l7 len : Nat) : Int), decompress := z && c.r.nego, final := finalAfter op fin c } }
    (ext len) _ m rfl he (by rw [hc]; omega) hwf (by simp only []; omega) hp with
    ⟨hm1, b1, s1, s2, s3, s4⟩ | ⟨hm1, e, c', s1, s2⟩
  · rw [s1, hc]
    simp only []
    rcases afKey_cut ⟨op, fin, z, false, false, c.r.isServer, l7 len⟩
      { c with r := { c.r with buf := b1, remaining := (len : Int), decompress := z && c.r.nego, final := finalAfter op fin c } }
      c.r.isServer key T _ rfl s3 (by have := s4.size; simp only [] at this ⊢; omega) s2 with
      ⟨hm2, b2, t1, t2, t3, t4⟩ | ⟨hm2, e, c', t1, t2⟩
    · rw [t1]
      exact Or.inl ⟨by omega, b2, rfl, t2, t3, s4.trans t4⟩
    · rw [t1]
      exact Or.inr ⟨by omega, e, c', rfl, t2⟩
  · rw [s1]
    exact Or.inr ⟨by omega, e, c', rfl, s2⟩

theorem encode_length (S : Bool) (b0 : Nat) (key : Key) (payload : Bytes) :
    (Codec.encode (!S) b0 key payload).length =
      2 + (ext payload.length).length + (keyBytes S key).length + payload.length := by
  rw [encode_eq]
  simp only [List.length_cons, List.length_append, body_length]
  omega

/-- steps 1–4 on a frame cut after `m` bytes -/
theorem advance_prefix_cut (c : Conn) (wire tail : Bytes) (m : Nat) (op : Nat) (fin z : Bool) (key : Key) (payload : Bytes)
    (hrem : c.r.remaining = (wire.length : Int)) (hwf : WF c.r.buf) (hsz : 125 ≤ c.r.buf.size)
    (hp : c.r.buf.pending = wire ++ (Codec.encode (!c.r.isServer) (op + (if fin then 128 else 0) + (if z then 64 else 0)) key payload ++ tail).take m)
    (hop16 : op < 16)
    (herrs : headerErrors c.r.isServer c.r.nego c.r.final ⟨op, fin, z, false, false, c.r.isServer, l7 payload.length⟩ = [])
    (hlen : payload.length < 2 ^ 62) :
    (2 + (ext payload.length).length + (keyBytes c.r.isServer key).length ≤ m ∧
      ∃ b', advanceFrame c = afRest ⟨op, fin, z, false, false, c.r.isServer, l7 payload.length⟩
          { c with r := { c.r with buf := b', remaining := (payload.length : Int), decompress := z && c.r.nego, final := finalAfter op fin c, maskPos := (if c.r.isServer then 0 else c.r.maskPos), maskKey := (if c.r.isServer then key else c.r.maskKey) } } ∧
        b'.pending = (body c.r.isServer key payload ++ tail).take
          (m - (2 + (ext payload.length).length + (keyBytes c.r.isServer key).length)) ∧
        WF b' ∧ Same2 c.r.buf b') ∨
    (m < 2 + (ext payload.length).length + (keyBytes c.r.isServer key).length ∧
      ∃ e c', advanceFrame c = (.error e, c') ∧ e ≠ .eof) := by
  rw [advanceFrame_eq]
  rw [encode_eq] at hp
  simp only [List.cons_append, List.append_assoc] at hp
  obtain ⟨b1, s1, s2, s3, s4⟩ := afSkip_ok c wire _ hrem hwf hp
  rw [s1]
  simp only []
  rcases afHead_cut { c with r := { c.r with buf := b1 } } _ _ _ m s3
    (by have := s4.size; simp only [] at this ⊢; omega) s2 with ⟨hm0, b2, t1, t2, t3, t4⟩ | ⟨hm0, e, c', t1, t2⟩
  · rw [t1]
    rcases afHdr_prefix_cut { c with r := { c.r with buf := b2 } } _ _ (body c.r.isServer key payload ++ tail) (m - 2)
      op fin z key payload.length t3 (by have := s4.size; have := t4.size; simp only [] at *; omega) t2
      (parseHdr_enc op fin z c.r.isServer _ hop16 (l7_lt _)) herrs hlen with
      ⟨hm1, b3, u1, u2, u3, u4⟩ | ⟨hm1, e, c', u1, u2⟩
    · simp only [] at hm1 u2
      refine Or.inl ⟨by omega, b3, u1, ?_, u3, (s4.trans t4).trans u4⟩
      rw [u2]
      congr 1
      omega
    · exact Or.inr ⟨by simp only [] at hm1; omega, e, c', u1, u2⟩
  · exact Or.inr ⟨by omega, e, c', t1, t2⟩

theorem advance_prefix_raw (c : Conn) (wire tail : Bytes) (op : Nat) (fin : Bool) (key : Key) (payload : Bytes)
    (hrem : c.r.remaining = (wire.length : Int)) (hwf : WF c.r.buf) (hsz : 125 ≤ c.r.buf.size)
    (hp : c.r.buf.pending = wire ++ (Codec.encode (!c.r.isServer) (op + if fin then 128 else 0) key payload ++ tail))
    (hop16 : op < 16)
    (herrs : headerErrors c.r.isServer c.r.nego c.r.final ⟨op, fin, false, false, false, c.r.isServer, l7 payload.length⟩ = [])
    (hlen : payload.length < 2 ^ 62) :
    ∃ b', advanceFrame c =
        afRest ⟨op, fin, false, false, false, c.r.isServer, l7 payload.length⟩
          { c with r := { c.r with buf := b', remaining := (payload.length : Int), decompress := false, final := finalAfter op fin c, maskPos := (if c.r.isServer then 0 else c.r.maskPos), maskKey := (if c.r.isServer then key else c.r.maskKey) } } ∧
      b'.pending = body c.r.isServer key payload ++ tail ∧ WF b' ∧ Same2 c.r.buf b' := by
  obtain ⟨e1, _⟩ := whole_cut (Codec.encode (!c.r.isServer) (op + if fin then 128 else 0) key payload) tail
  have hl := encode_length c.r.isServer (op + if fin then 128 else 0) key payload
  rcases advance_prefix_cut c wire tail _ op fin false key payload hrem hwf hsz (hp.trans (congrArg _ e1)) hop16 herrs hlen with
    ⟨_, b', r, p, w⟩ | ⟨hm, _⟩
  · refine ⟨b', r, ?_, w⟩
    rw [p, List.take_of_length_le]
    rw [List.length_append, body_length, hl]
    omega
  · omega

theorem afRest_ctl (h : Hdr) (c : Conn) (key : Key) (payload tail : Bytes)
    (hop : (h.opcode == 0 || h.opcode == 1 || h.opcode == 2) = false)
    (hrem : c.r.remaining = (payload.length : Int)) (hwf : WF c.r.buf) (hsz : payload.length ≤ c.r.buf.size)
    (hp : c.r.buf.pending = body c.r.isServer key payload ++ tail)
    (hk : c.r.isServer = true → c.r.maskKey = key) :
    ∃ b', afRest h c = afDispatch h payload { c with r := { c.r with buf := b', remaining := 0 } } ∧
      b'.pending = tail ∧ WF b' ∧ Same2 c.r.buf b' := by
  unfold afRest
  rw [hop]
  simp only [Bool.false_eq_true, if_false]
  obtain ⟨e1, e2⟩ := whole_cut (body c.r.isServer key payload) tail
  rcases afPayload_cut c (body c.r.isServer key payload) tail _
    (by rw [body_length]; exact hrem) hwf (by rw [body_length]; exact hsz) (hp.trans e1) with
    ⟨_, b', u1, u2, u3, u4⟩ | ⟨hm, _⟩
  case inr => exact absurd hm (Nat.not_lt.mpr (Nat.le_add_right _ _))
  rw [u1]
  simp only []
  rw [body_unmask c.r.isServer key c.r.maskKey payload hk]
  exact ⟨b', rfl, u2.trans e2, u3, u4⟩

theorem afDispatch_ping (h : Hdr) (payload : Bytes) (c : Conn) (hop : h.opcode = 9) (hd : c.r.hPing = .dflt) :
    afDispatch h payload c =
      (.ok 9, { w := (writeControl (emit c.w (.hPing payload)) 10 payload writeWaitDeadline).2,
                r := { c.r with hlog := c.r.hlog ++ [.ping payload] } }) := by
  unfold afDispatch
  rw [hop]
  simp only [show ((9 : Nat) == 10) = false from rfl, show ((9 : Nat) == 9) = true from rfl,
    Bool.false_eq_true, if_false, if_true, runHandler, hd]
  rfl

theorem close_body (code : Nat) (reason : Bytes) (hc16 : code < 65536) :
    ((beBytes 2 code ++ reason).length ≥ 2) = True ∧ beVal (List.take 2 (beBytes 2 code ++ reason)) = code ∧
      List.drop 2 (beBytes 2 code ++ reason) = reason := by
  refine ⟨?_, ?_, ?_⟩
  · simp only [List.length_append, beBytes_length, ge_iff_le, Nat.le_add_right]
  · rw [List.take_left' (beBytes_length ..)]
    exact beVal_beBytes 2 code (by simpa using hc16)
  · rw [List.drop_left' (beBytes_length ..)]

theorem afDispatch_close (h : Hdr) (c : Conn) (hop : h.opcode = 8) (hd : c.r.hClose = .dflt)
    (code : Nat) (reason : Bytes)
    (hcode : isValidReceivedCloseCode code = true) (hc16 : code < 65536) (hutf : Spec.validUtf8 reason = true) :
    afDispatch h (beBytes 2 code ++ reason) c =
      (.error (.close code reason),
       { w := (writeControl (emit c.w (.hClose code reason)) 8 (closePayload code []) writeWaitDeadline).2,
         r := { c.r with hlog := c.r.hlog ++ [.close code reason] } }) := by
  obtain ⟨hge, hcode', htext⟩ := close_body code reason hc16
  unfold afDispatch
  rw [hop]
  simp only [show ((8 : Nat) == 10) = false from rfl, show ((8 : Nat) == 9) = false from rfl,
    Bool.false_eq_true, if_false, if_true, hge, hcode', htext, hcode, hutf, decide_true, Bool.not_true,
    Bool.and_false, runHandler, hd]
  rfl

theorem afData_over (h : Hdr) (c : Conn) (len : Nat) (hrem : c.r.remaining = (len : Int)) (h0 : 0 ≤ lenBase h.opcode c)
    (h1 : lenBase h.opcode c + len < 9223372036854775808)
    (hlim : 0 < c.r.limit) (hover : c.r.limit < lenBase h.opcode c + len) :
    afData h c = (.error .readLimit, sendTooBig { c with r := { c.r with length := lenBase h.opcode c + len } }) := by
  unfold afData
  simp only [afData_sum h c len hrem h0 h1]
  rw [if_pos]
  simp only [Bool.or_eq_true, Bool.and_eq_true, decide_eq_true_eq]
  omega

/-- on a data frame advanceFrame consumes the header only: the payload stays pending -/
theorem advance_data_raw (c : Conn) (wire tail : Bytes) (op : Nat) (fin : Bool) (key : Key) (payload : Bytes)
    (hrem : c.r.remaining = (wire.length : Int)) (hwf : WF c.r.buf) (hsz : 125 ≤ c.r.buf.size)
    (hp : c.r.buf.pending = wire ++ (Codec.encode (!c.r.isServer) (op + if fin then 128 else 0) key payload ++ tail))
    (hop : (op = 0 ∧ c.r.final = false) ∨ ((op = 1 ∨ op = 2) ∧ c.r.final = true))
    (hlen : payload.length < 2 ^ 62) (h0 : 0 ≤ lenBase op c)
    (h1 : lenBase op c + payload.length < 9223372036854775808)
    (hlim : c.r.limit ≤ 0 ∨ lenBase op c + payload.length ≤ c.r.limit) :
    ∃ b', advanceFrame c =
        (.ok op, { c with r := { c.r with buf := b', remaining := (payload.length : Int), decompress := false, final := fin, maskPos := (if c.r.isServer then 0 else c.r.maskPos), maskKey := (if c.r.isServer then key else c.r.maskKey), length := lenBase op c + payload.length } }) ∧
      b'.pending = body c.r.isServer key payload ++ tail ∧ WF b' ∧ Same2 c.r.buf b' := by
  obtain ⟨b', a1, a2⟩ := advance_prefix_raw c wire tail op fin key payload hrem hwf hsz hp (by omega)
    (hdrErrs_data _ _ _ _ false _ _ (fun h => nomatch h) hop) hlen
  have hopb : (op == 0 || op == 1 || op == 2) = true := by
    rcases hop with ⟨rfl, _⟩ | ⟨rfl | rfl, _⟩ <;> rfl
  have hfin : finalAfter op fin c = fin := by
    unfold finalAfter
    rcases hop with ⟨rfl, _⟩ | ⟨rfl | rfl, _⟩ <;> rfl
  refine ⟨b', ?_, a2⟩
  rw [a1, hfin]
  unfold afRest
  simp only [hopb, if_true]
  exact afData_ok _ _ payload.length rfl h0 h1 hlim

theorem advance_ctl_raw (c : Conn) (wire tail : Bytes) (op : Nat) (key : Key) (payload : Bytes)
    (hrem : c.r.remaining = (wire.length : Int)) (hwf : WF c.r.buf) (hsz : 125 ≤ c.r.buf.size)
    (hp : c.r.buf.pending = wire ++ (Codec.encode (!c.r.isServer) (op + 128) key payload ++ tail))
    (hop : op = 9 ∨ op = 10) (hlen : payload.length ≤ 125)
    (hhp : ∀ id, c.r.hPing ≠ .fail id) (hhq : ∀ id, c.r.hPong ≠ .fail id) :
    ∃ b' w', advanceFrame c =
        (.ok op, { w := w', r := { c.r with buf := b', remaining := 0, decompress := false, maskPos := (if c.r.isServer then 0 else c.r.maskPos), maskKey := (if c.r.isServer then key else c.r.maskKey), hlog := c.r.hlog ++ [ctlEv op payload] } }) ∧
      b'.pending = tail ∧ WF b' ∧ Same2 c.r.buf b' := by
  obtain ⟨b1, a1, a2, a3, a4⟩ := advance_prefix_raw c wire tail op true key payload hrem hwf hsz hp (by omega)
    (hdrErrs_ctl3 _ _ _ _ _ (Or.inr hop) (by rw [l7_small _ hlen]; exact hlen)) (by omega)
  have hopb : (op == 0 || op == 1 || op == 2) = false := by
    rcases hop with rfl | rfl <;> rfl
  have hfin : finalAfter op true c = c.r.final := by
    unfold finalAfter
    rcases hop with rfl | rfl <;> rfl
  rw [hfin] at a1
  obtain ⟨b2, r1, r2, r3, r4⟩ := afRest_ctl ⟨op, true, false, false, false, c.r.isServer, l7 payload.length⟩
    { c with r := { c.r with buf := b1, remaining := (payload.length : Int), decompress := false, maskPos := (if c.r.isServer then 0 else c.r.maskPos), maskKey := (if c.r.isServer then key else c.r.maskKey) } }
    key payload tail hopb rfl a3 (by have := a4.size; simp only [] at this ⊢; omega) a2
    (by intro h; simp only [] at h ⊢; rw [if_pos h])
  obtain ⟨w', v1⟩ := afDispatch_ok ⟨op, true, false, false, false, c.r.isServer, l7 payload.length⟩ payload
    { c with r := { c.r with buf := b2, remaining := 0, decompress := false, maskPos := (if c.r.isServer then 0 else c.r.maskPos), maskKey := (if c.r.isServer then key else c.r.maskKey) } }
    hop hhp hhq
  exact ⟨b2, w', a1.trans (r1.trans v1), r2, r3, a4.trans r4⟩

end WS.AdvFrame
