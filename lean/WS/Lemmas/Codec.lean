import WS.Model.Writer
import WS.Spec.Frame
import WS.Lemmas.Mask
/-
  C02, one frame: `encode` is the byte string the writer model hands to the transport for one frame
  (`controlFrame_encode`; `frameWrite_bytes` in Transport.lean), `frameOf` the frame it stands for, and the strict RFC
  decoder `Spec.decodeFrame` takes the one to the other, leaving the rest of the stream
  (`decode_encode`). Then `decodeStream`, one frame at a time.
-/
namespace WS.Codec
open WS WS.Spec

def frameOf (isServer : Bool) (b0 : Nat) (key : Key) (payload : Bytes) : Frame :=
  { fin := decide (b0 / 128 % 2 = 1), rsv1 := decide (b0 / 64 % 2 = 1), rsv2 := decide (b0 / 32 % 2 = 1),
    rsv3 := decide (b0 / 16 % 2 = 1), opcode := b0 % 16,
    mask := if isServer then none else some key, payload := payload }

def encode (isServer : Bool) (b0 : Nat) (key : Key) (payload : Bytes) : Bytes :=
  header isServer b0 payload.length key ++ (if isServer then payload else maskFrom key 0 payload)


theorem frameOf_bits (sv : Bool) (op : Nat) (hop : op < 16) (fin z : Bool) (key : Key) (p : Bytes) :
    frameOf sv (op + (if fin then 128 else 0) + (if z then 64 else 0)) key p =
      { fin := fin, rsv1 := z, rsv2 := false, rsv3 := false, opcode := op,
        mask := if sv then none else some key, payload := p } := by
  cases fin <;> cases z <;> simp [frameOf] <;> omega

theorem toNat_ofNat_lt (n : Nat) (h : n < 256) : (UInt8.ofNat n).toNat = n := by
  simp [UInt8.toNat_ofNat']; omega

theorem decodeLen_small (n : Nat) (r : Bytes) (h : n < 126) : decodeLen n r = some (n, r) := by
  simp [decodeLen, h]

/-- the two extended length forms of `decodeLen`: `w` bytes big-endian; `bad` are the values for which the
    form is not allowed -/
def extForm (w : Nat) (bad : Nat → Prop) [DecidablePred bad] (rest : Bytes) : Option (Nat × Bytes) :=
  if rest.length < w then none
  else if bad (beVal (rest.take w)) then none else some (beVal (rest.take w), rest.drop w)

theorem decodeLen_eq (n : Nat) (rest : Bytes) :
    decodeLen n rest =
      if n < 126 then some (n, rest)
      else if n = 126 then extForm 2 (· < 126) rest else extForm 8 (fun v => v < 65536 ∨ v ≥ 2 ^ 63) rest := rfl

section
variable {w : Nat} {bad : Nat → Prop} [DecidablePred bad]

theorem extForm_beBytes (len : Nat) (r : Bytes) (hl : len < 256 ^ w) (hb : ¬ bad len) :
    extForm w bad (beBytes w len ++ r) = some (len, r) := by
  unfold extForm
  rw [List.take_left' (beBytes_length ..), List.drop_left' (beBytes_length ..), beVal_beBytes w len hl,
    if_neg (by rw [List.length_append, beBytes_length]; omega), if_neg hb]

theorem extForm_some {rest r : Bytes} {len : Nat} (h : extForm w bad rest = some (len, r)) :
    r.length ≤ rest.length ∧ ∀ x, extForm w bad (rest ++ x) = some (len, r ++ x) := by
  unfold extForm at h ⊢
  split at h
  · cases h
  · rename_i hw
    split at h
    · cases h
    · rename_i hb
      simp only [Option.some.injEq, Prod.mk.injEq] at h
      obtain ⟨hv, hr⟩ := h
      refine ⟨by rw [← hr, List.length_drop]; omega, fun x => ?_⟩
      rw [List.take_append_of_le_length (by omega), List.drop_append_of_le_length (by omega),
        if_neg (by rw [List.length_append]; omega), if_neg hb, hv, hr]

end

theorem decodeLen_mid (len : Nat) (r : Bytes) (h1 : 125 < len) (h2 : len < 65536) :
    decodeLen 126 (beBytes 2 len ++ r) = some (len, r) := by
  rw [decodeLen_eq, if_neg (by omega), if_pos rfl]
  exact extForm_beBytes len r h2 (Nat.not_lt.mpr h1)

theorem decodeLen_big (len : Nat) (r : Bytes) (h1 : 65536 ≤ len) (h2 : len < 2 ^ 63) :
    decodeLen 127 (beBytes 8 len ++ r) = some (len, r) := by
  rw [decodeLen_eq, if_neg (by omega), if_neg (by omega)]
  exact extForm_beBytes len r (by omega) (show ¬ (len < 65536 ∨ len ≥ 2 ^ 63) by omega)

theorem decodeLen_some {n : Nat} {rest r : Bytes} {len : Nat} (h : decodeLen n rest = some (len, r)) :
    r.length ≤ rest.length ∧ ∀ x, decodeLen n (rest ++ x) = some (len, r ++ x) := by
  simp only [decodeLen_eq] at h ⊢
  by_cases h1 : n < 126
  · simp only [if_pos h1] at h ⊢
    cases h
    exact ⟨Nat.le_refl _, fun _ => rfl⟩
  · simp only [if_neg h1] at h ⊢
    by_cases h2 : n = 126
    · simp only [if_pos h2] at h ⊢
      exact extForm_some h
    · simp only [if_neg h2] at h ⊢
      exact extForm_some h


theorem bitSet_ofNat (b0 v : Nat) (hb : b0 < 256) : bitSet (UInt8.ofNat b0) v = decide (b0 / v % 2 = 1) := by
  unfold bitSet; rw [toNat_ofNat_lt b0 hb]

theorem decodeFrame_unmasked (b0 n7 : Nat) (ext payload rest : Bytes) (hb : b0 < 256) (hn : n7 < 128)
    (hlen : decodeLen n7 (ext ++ (payload ++ rest)) = some (payload.length, payload ++ rest)) :
    decodeFrame (UInt8.ofNat b0 :: UInt8.ofNat n7 :: (ext ++ (payload ++ rest))) =
      some (frameOf true b0 default payload, rest) := by
  have h1 : (UInt8.ofNat n7).toNat = n7 := toNat_ofNat_lt n7 (by omega)
  unfold decodeFrame
  simp only [h1, Nat.mod_eq_of_lt hn, hlen]
  have hd : decide (n7 ≥ 128) = false := by simp; omega
  simp only [hd, decodeKey]
  simp [frameOf, bitSet_ofNat _ _ hb, toNat_ofNat_lt b0 hb]

theorem decodeFrame_masked (b0 n7 : Nat) (key : Key) (ext payload rest : Bytes) (hb : b0 < 256) (hn : n7 < 128)
    (hlen : decodeLen n7 (ext ++ (key.bytes ++ (maskFrom key 0 payload ++ rest))) =
      some (payload.length, key.bytes ++ (maskFrom key 0 payload ++ rest))) :
    decodeFrame (UInt8.ofNat b0 :: UInt8.ofNat (128 + n7) :: (ext ++ (key.bytes ++ (maskFrom key 0 payload ++ rest)))) =
      some (frameOf false b0 key payload, rest) := by
  have h1 : (UInt8.ofNat (128 + n7)).toNat = 128 + n7 := toNat_ofNat_lt _ (by omega)
  have h2 : (128 + n7) % 128 = n7 := by omega
  unfold decodeFrame
  simp only [h1, h2, hlen]
  have hd : decide (128 + n7 ≥ 128) = true := by simp
  simp only [hd, decodeKey, Key.bytes, List.cons_append, List.nil_append]
  have ht : (maskFrom key 0 payload ++ rest).take payload.length = maskFrom key 0 payload :=
    List.take_left' (maskFrom_length ..)
  have hdr : (maskFrom key 0 payload ++ rest).drop payload.length = rest :=
    List.drop_left' (maskFrom_length ..)
  simp [frameOf, bitSet_ofNat _ _ hb, toNat_ofNat_lt b0 hb, ht, hdr, maskFrom_involutive]


theorem decodeFrame_length {bs r : Bytes} {f : Frame} (h : decodeFrame bs = some (f, r)) :
    r.length + 2 ≤ bs.length := by
  unfold decodeFrame at h
  split at h
  · rename_i b0 b1 rest
    split at h
    · cases h
    · rename_i len rest1 hl
      split at h
      · cases h
      · rename_i key rest2 hk
        split at h
        · cases h
        · simp only [Option.some.injEq, Prod.mk.injEq] at h
          obtain ⟨_, hr⟩ := h
          subst hr
          have h1 := (decodeLen_some hl).1
          have h2 : rest2.length ≤ rest1.length := by
            unfold decodeKey at hk
            split at hk
            · split at hk
              · simp only [Option.some.injEq, Prod.mk.injEq] at hk; rw [← hk.2]; simp; omega
              · cases hk
            · simp only [Option.some.injEq, Prod.mk.injEq] at hk; rw [← hk.2]; exact Nat.le_refl _
          simp only [List.length_cons, List.length_drop]
          omega
  · cases h

theorem decodeStreamAux_fuel (f1 f2 : Nat) (bs : Bytes) (h1 : bs.length ≤ f1) (h2 : bs.length ≤ f2) :
    decodeStreamAux f1 bs = decodeStreamAux f2 bs := by
  induction f1 generalizing f2 bs with
  | zero =>
    have : bs = [] := List.eq_nil_of_length_eq_zero (by omega)
    subst this
    cases f2 <;> rfl
  | succ f1 ih =>
    cases bs with
    | nil => cases f2 <;> rfl
    | cons b bs =>
      cases f2 with
      | zero => simp at h2
      | succ f2 =>
        simp only [decodeStreamAux]
        cases hd : decodeFrame (b :: bs) with
        | none => rfl
        | some p =>
          obtain ⟨f, r⟩ := p
          have := decodeFrame_length hd
          simp only [List.length_cons] at this h1 h2
          simp only []
          rw [ih f2 r (by omega) (by omega)]

/-- 2^63: the decoder rejects a 64-bit length with the top bit set (RFC 6455 §5.2, `Spec.decodeLen`). -/
theorem decode_encode (isServer : Bool) (b0 : Nat) (key : Key) (payload rest : Bytes)
    (hb : b0 < 256) (hl : payload.length < 2 ^ 63) :
    decodeFrame (encode isServer b0 key payload ++ rest) = some (frameOf isServer b0 key payload, rest) := by
  cases isServer with
  | true =>
    have hfo : frameOf true b0 key payload = frameOf true b0 default payload := rfl
    rw [hfo]
    unfold encode header
    simp only [if_true, Nat.zero_add]
    split
    · rename_i h
      have := decodeFrame_unmasked b0 127 (beBytes 8 payload.length) payload rest hb (by omega)
        (decodeLen_big _ _ h hl)
      simpa using this
    · split
      · rename_i h1 h2
        have := decodeFrame_unmasked b0 126 (beBytes 2 payload.length) payload rest hb (by omega)
          (decodeLen_mid _ _ h2 (by omega))
        simpa using this
      · rename_i h1 h2
        have := decodeFrame_unmasked b0 payload.length [] payload rest hb (by omega)
          (decodeLen_small _ _ (by omega))
        simpa using this
  | false =>
    unfold encode header
    simp only [Bool.false_eq_true, if_false]
    split
    · rename_i h
      have := decodeFrame_masked b0 127 key (beBytes 8 payload.length) payload rest hb (by omega)
        (decodeLen_big _ _ h hl)
      simpa using this
    · split
      · rename_i h1 h2
        have := decodeFrame_masked b0 126 key (beBytes 2 payload.length) payload rest hb (by omega)
          (decodeLen_mid _ _ h2 (by omega))
        simpa using this
      · rename_i h1 h2
        have := decodeFrame_masked b0 payload.length key [] payload rest hb (by omega)
          (decodeLen_small _ _ (by omega))
        simpa using this

/-- the frame WriteControl builds is `encode` with FIN set. 125 = `maxControlPayload` (RFC 6455 §5.5):
    a control payload always takes the one-byte length form. -/
theorem controlFrame_encode (isServer : Bool) (t : Nat) (data : Bytes) (key : Key) (hd : data.length ≤ 125) :
    controlFrame isServer t data key = encode isServer (t + 128) key data := by
  unfold controlFrame encode header
  have h1 : ¬ data.length ≥ 65536 := by omega
  have h2 : ¬ data.length > 125 := by omega
  cases isServer <;> simp [h1, h2, Nat.add_comm]

theorem controlFrame_eq (isServer : Bool) (t : Nat) (data : Bytes) (key : Key)
    (ht : t < 16) (hd : data.length ≤ 125) :
    controlFrame isServer t data key = encode isServer (t + 128) key data :=
  have _ := ht
  controlFrame_encode isServer t data key hd

theorem decodeStream_nil : decodeStream [] = some [] := by
  rfl

theorem decodeStream_step {bs r : Bytes} {f : Frame} (h : decodeFrame bs = some (f, r)) :
    decodeStream bs = (decodeStream r).map (f :: ·) := by
  have hl := decodeFrame_length h
  unfold decodeStream
  cases bs with
  | nil => simp at hl
  | cons b bs =>
    simp only [List.length_cons, decodeStreamAux, h]
    rw [decodeStreamAux_fuel bs.length r.length r (by simp only [List.length_cons] at hl; omega) (Nat.le_refl _)]

theorem decodeStream_cons (fb rest : Bytes) (f : Frame) (h : decodeFrame (fb ++ rest) = some (f, rest))
    (_ : fb ≠ []) : decodeStream (fb ++ rest) = (decodeStream rest).map (f :: ·) :=
  decodeStream_step h

end WS.Codec
