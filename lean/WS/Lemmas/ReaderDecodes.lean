import WS.Lemmas.RobustReader
/-
  C03 / C08: the reader decodes a conformant peer stream, however it is fragmented, chunked by the transport,
  buffered and read; control frames between fragments reach their handlers exactly once, in wire order; abandoning
  a message part-way never skips, repeats or merges a later one. Frames are encoded by `WS.Codec.encode` for the
  *peer's* role (masked iff the reader is a server). The proofs go through the stream law (SrcLaw.lean) and the
  stage laws of advanceFrame (AdvFrame.lean): one lemma per kind of frame (`step_data`, `step_ctl`) over the reader's
  states (`ReaderIdle` between messages, `St` inside one, `Env` = what the two share), then the loops over them.
  What a step leaves unchanged is not proved here: it is `AdvFrame.Fr` of the frame lemma (`adv_ok`), of which `Keep`
  is the part that hypotheses on a connection travel along. `Lead` / `AtLead`: a message that begins with its data
  frame, and the reader in front of it; `Open`: `St` with the message reader open and the length bounds.
-/
namespace WS.ReaderDecodes
open WS WS.Codec WS.SrcLaw

/-- a frame sent by the peer (uncompressed: RSV bits clear) -/
structure PFrame where
  op : Nat
  fin : Bool
  key : Key
  payload : Bytes
  deriving Repr

def PFrame.b0 (f : PFrame) : Nat := f.op + (if f.fin then 128 else 0)

/-- its bytes on the wire towards a reader of the given role -/
def PFrame.enc (readerIsServer : Bool) (f : PFrame) : Bytes := encode (!readerIsServer) f.b0 f.key f.payload

def encAll (readerIsServer : Bool) (fs : List PFrame) : Bytes := (fs.map (PFrame.enc readerIsServer)).flatten

def PFrame.isCtl (f : PFrame) : Bool := f.op == 9 || f.op == 10

/-- a conformant ping / pong -/
def PFrame.ctlOk (f : PFrame) : Prop := (f.op = 9 ∨ f.op = 10) ∧ f.fin = true ∧ f.payload.length ≤ 125

/-- the frames of one data message after its first data frame, pings / pongs interleaved; ends with the FIN data
    frame. `2 ^ 62` (here, in `MsgShape` and in every `hsz`): the reader adds a frame's length to the running sum of
    its message in int64 (conn.go `c.readLength += c.readRemaining`); with both summands below 2^62 `wrap64` is the
    identity. Only inputs that do not fit in memory are excluded. -/
inductive Tail : List PFrame → Prop
  | last (f : PFrame) : f.op = 0 → f.fin = true → f.payload.length < 2 ^ 62 → Tail [f]
  | cont (f : PFrame) (fs : List PFrame) : f.op = 0 → f.fin = false → f.payload.length < 2 ^ 62 → Tail fs → Tail (f :: fs)
  | ctl (f : PFrame) (fs : List PFrame) : f.ctlOk → Tail fs → Tail (f :: fs)

inductive MsgShape (t : Nat) : List PFrame → Prop
  | single (f : PFrame) : f.op = t → f.fin = true → f.payload.length < 2 ^ 62 → MsgShape t [f]
  | frag (f : PFrame) (fs : List PFrame) : f.op = t → f.fin = false → f.payload.length < 2 ^ 62 → Tail fs → MsgShape t (f :: fs)
  | ctl (f : PFrame) (fs : List PFrame) : f.ctlOk → MsgShape t fs → MsgShape t (f :: fs)

/-- `f :: fs` is a message of type `t`, or with `t = 0` the rest of one, and begins with its data frame `f` -/
structure Lead (t : Nat) (f : PFrame) (fs : List PFrame) : Prop where
  op : f.op = t
  len : f.payload.length < 2 ^ 62
  last : f.fin = true → fs = []
  cont : f.fin = false → Tail fs

theorem Tail.head {more : List PFrame} (h : Tail more) : ∃ f fs, more = f :: fs ∧
    (Lead 0 f fs ∨ (f.ctlOk ∧ Tail fs)) := by
  cases h with
  | last f h1 h2 h3 => exact ⟨f, [], rfl, Or.inl ⟨h1, h3, fun _ => rfl, fun h => (by rw [h2] at h; cases h)⟩⟩
  | cont f fs h1 h2 h3 h4 => exact ⟨f, fs, rfl, Or.inl ⟨h1, h3, fun h => (by rw [h2] at h; cases h), fun _ => h4⟩⟩
  | ctl f fs h1 h4 => exact ⟨f, fs, rfl, Or.inr ⟨h1, h4⟩⟩

theorem MsgShape.head {t : Nat} {fs : List PFrame} (h : MsgShape t fs) : ∃ f fs', fs = f :: fs' ∧
    (Lead t f fs' ∨ (f.ctlOk ∧ MsgShape t fs')) := by
  cases h with
  | single f h1 h2 h3 => exact ⟨f, [], rfl, Or.inl ⟨h1, h3, fun _ => rfl, fun h => (by rw [h2] at h; cases h)⟩⟩
  | frag f fs h1 h2 h3 h4 => exact ⟨f, fs, rfl, Or.inl ⟨h1, h3, fun h => (by rw [h2] at h; cases h), fun _ => h4⟩⟩
  | ctl f fs h1 h4 => exact ⟨f, fs, rfl, Or.inr ⟨h1, h4⟩⟩

def dataPayload (fs : List PFrame) : Bytes := ((fs.filter (fun f => !f.isCtl)).map (·.payload)).flatten

/-- handler invocations the control frames of a segment must cause, in wire order -/
def ctlEvents (fs : List PFrame) : List REv :=
  (fs.filter (·.isCtl)).map (fun f => if f.op == 9 then REv.ping f.payload else REv.pong f.payload)

/-- a reader between messages. `125 ≤ size`: `newConn` gives the bufio.Reader at least
    `maxControlFramePayloadSize` bytes (`readBufSize`), so a control payload, the 8 extension bytes and the 4 key
    bytes can each be peeked whole. `fuel`: the ghost counter `total` bounds what is still pending, so `Conn.fuel`
    is never exhausted. `hp`, `hq`: the ping and pong handlers do not fail (the close handler is not constrained). -/
structure ReaderIdle (c : Conn) : Prop where
  noErr : c.r.readErr = none
  rem : c.r.remaining = 0
  fin : c.r.final = true
  wf : WF c.r.buf
  size : 125 ≤ c.r.buf.size
  fuel : c.r.buf.pending.length ≤ c.r.buf.total
  hp : ∀ id, c.r.hPing ≠ .fail id
  hq : ∀ id, c.r.hPong ≠ .fail id


section Helpers
open WS.AdvFrame WS.RobustAux

/-- the application bytes behind `wire` (the rest of the current frame as it is on the wire) -/
def unmask (c : Conn) (wire : Bytes) : Bytes :=
  if c.r.isServer then maskFrom c.r.maskKey c.r.maskPos wire else wire

structure Env (c : Conn) : Prop where
  wf : WF c.r.buf
  size : 125 ≤ c.r.buf.size
  fuel : c.r.buf.pending.length ≤ c.r.buf.total
  hp : ∀ id, c.r.hPing ≠ .fail id
  hq : ∀ id, c.r.hPong ≠ .fail id

/-- five of the fields no reader step changes: the projection `Fr0.keep` of `AdvFrame.Fr0` that the statements of this
    file hand on -/
structure Keep (c c' : Conn) : Prop where
  isServer : c'.r.isServer = c.r.isServer
  limit : c'.r.limit = c.r.limit
  hPing : c'.r.hPing = c.r.hPing
  hPong : c'.r.hPong = c.r.hPong
  same : Same2 c.r.buf c'.r.buf

theorem Keep.refl (c : Conn) : Keep c c := ⟨rfl, rfl, rfl, rfl, Same2.refl _⟩

theorem Keep.trans {a b c : Conn} (h1 : Keep a b) (h2 : Keep b c) : Keep a c :=
  ⟨h2.isServer.trans h1.isServer, h2.limit.trans h1.limit, h2.hPing.trans h1.hPing, h2.hPong.trans h1.hPong,
    h1.same.trans h2.same⟩

theorem _root_.WS.AdvFrame.Fr0.keep {c c' : Conn} (h : Fr0 c c') : Keep c c' :=
  ⟨h.isServer, h.limit, h.hPing, h.hPong, h.same⟩

theorem Env.fr0 {c c' : Conn} (e : Env c) (h : Fr0 c c') : Env c' := by
  have p := h.prog e.wf
  exact ⟨p.wf, by rw [h.same.size]; exact e.size, p.fuel e.fuel, by rw [h.hPing]; exact e.hp,
    by rw [h.hPong]; exact e.hq⟩

/-- an accepted frame: what advanceFrame keeps, and at least the two header bytes are consumed -/
theorem adv_ok {c c' : Conn} {t : Nat} (h : advanceFrame c = (.ok t, c')) (hw : WF c.r.buf) :
    Fr c c' ∧ c'.r.buf.pending.length + 2 ≤ c.r.buf.pending.length := by
  obtain ⟨h1, h2⟩ := advanceFrame_fr c
  rw [h] at h1 h2
  exact ⟨h1, h2 hw t rfl⟩

theorem ReaderIdle.env {c : Conn} (h : ReaderIdle c) : Env c := ⟨h.wf, h.size, h.fuel, h.hp, h.hq⟩

theorem Env.at_c0 {c : Conn} (e : Env c) : Env (c0 c) := ⟨e.wf, e.size, e.fuel, e.hp, e.hq⟩

theorem Env.fuel_lt {c : Conn} (e : Env c) (n : Nat) : c.r.buf.pending.length < c.fuel + n :=
  pending_lt_fuel e.fuel n

/-- no int64 overflow and no read-limit violation when `n` more payload bytes are counted -/
def LenOk (c : Conn) (n : Nat) : Prop :=
  c.r.length + (n : Int) < 9223372036854775808 ∧ (c.r.limit ≤ 0 ∨ c.r.length + (n : Int) ≤ c.r.limit)

theorem enc_length (S : Bool) (f : PFrame) :
    (f.enc S).length = 2 + (ext f.payload.length).length + (keyBytes S f.key).length + f.payload.length := by
  unfold PFrame.enc
  rw [encode_eq]
  simp only [List.length_cons, List.length_append, body_length]
  omega

@[simp] theorem encAll_nil (S : Bool) : encAll S [] = [] := rfl

@[simp] theorem encAll_cons (S : Bool) (f : PFrame) (fs : List PFrame) :
    encAll S (f :: fs) = f.enc S ++ encAll S fs := by
  simp [encAll]

theorem enc_ne_nil (S : Bool) (f : PFrame) : f.enc S ≠ [] := by
  intro h
  have := congrArg List.length h
  rw [enc_length, List.length_nil] at this
  omega

theorem encAll_ne_nil {t : Nat} {S : Bool} {fs : List PFrame} (h : MsgShape t fs) : encAll S fs ≠ [] := by
  cases h <;> simp [enc_ne_nil]

theorem encAll_append_ne_nil {t : Nat} {S : Bool} {fs : List PFrame} (h : MsgShape t fs) (rest : Bytes) :
    encAll S fs ++ rest ≠ [] :=
  List.append_ne_nil_of_left_ne_nil (encAll_ne_nil h) rest

theorem isCtl_of_ctlOk {f : PFrame} (h : f.ctlOk) : f.isCtl = true := by
  unfold PFrame.isCtl
  rcases h.1 with h | h <;> simp [h]

theorem isCtl_of_data {f : PFrame} (h : f.op = 0 ∨ f.op = 1 ∨ f.op = 2) : f.isCtl = false := by
  unfold PFrame.isCtl
  rcases h with h | h | h <;> simp [h]

@[simp] theorem dataPayload_nil : dataPayload [] = [] := rfl
@[simp] theorem ctlEvents_nil : ctlEvents [] = [] := rfl

theorem dataPayload_ctl {f : PFrame} (fs : List PFrame) (h : f.isCtl = true) :
    dataPayload (f :: fs) = dataPayload fs := by
  simp [dataPayload, h]

theorem dataPayload_data {f : PFrame} (fs : List PFrame) (h : f.isCtl = false) :
    dataPayload (f :: fs) = f.payload ++ dataPayload fs := by
  simp [dataPayload, h]

theorem ctlEvents_ctl {f : PFrame} (fs : List PFrame) (h : f.isCtl = true) :
    ctlEvents (f :: fs) = ctlEv f.op f.payload :: ctlEvents fs := by
  simp [ctlEvents, h, ctlEv]

theorem ctlEvents_data {f : PFrame} (fs : List PFrame) (h : f.isCtl = false) :
    ctlEvents (f :: fs) = ctlEvents fs := by
  simp [ctlEvents, h]

@[simp] theorem unmask_nil (c : Conn) : unmask c [] = [] := by
  unfold unmask; split <;> rfl

@[simp] theorem unmask_length (c : Conn) (w : Bytes) : (unmask c w).length = w.length := by
  unfold unmask; split
  · simp
  · rfl

theorem unmask_body (c : Conn) (key : Key) (payload : Bytes) (hk : c.r.isServer = true → c.r.maskKey = key)
    (hpos : c.r.isServer = true → c.r.maskPos = 0) : unmask c (body c.r.isServer key payload) = payload := by
  have h := body_unmask c.r.isServer key c.r.maskKey payload hk
  unfold unmask
  by_cases hs : c.r.isServer = true
  · rw [if_pos hs, hpos hs]; rw [if_pos hs] at h; exact h
  · rw [if_neg hs]; rw [if_neg hs] at h; exact h

/-- a Read that delivers the first bytes `bs` of the rest of a frame moves the mask position past them -/
theorem unmask_append (c c' : Conn) (bs wire : Bytes) (hs : c'.r.isServer = c.r.isServer)
    (hk : c'.r.maskKey = c.r.maskKey)
    (hp : c'.r.maskPos = if c.r.isServer then (c.r.maskPos + bs.length) % 4 else c.r.maskPos) :
    unmask c (bs ++ wire) =
      (if c.r.isServer then maskFrom c.r.maskKey c.r.maskPos bs else bs) ++ unmask c' wire := by
  unfold unmask
  rw [hs, hk, hp]
  cases c.r.isServer
  · rfl
  · simp only [if_true]
    rw [maskFrom_append]
    congr 1
    exact maskFrom_congr _ (by omega) _

/-- the reader inside (or just before / after) a message: `wire` is what is left of the current frame
    on the wire, `more` the frames of the message still to come, `rest` what follows the message -/
structure St (S : Bool) (c : Conn) (wire : Bytes) (more : List PFrame) (rest : Bytes) : Prop where
  env : Env c
  srv : c.r.isServer = S
  noErr : c.r.readErr = none
  rem : c.r.remaining = (wire.length : Int)
  pend : c.r.buf.pending = wire ++ (encAll S more ++ rest)
  finT : c.r.final = true → more = []
  finF : c.r.final = false → Tail more
  len0 : 0 ≤ c.r.length
  tog : c.r.buf.t.together = false ∨ rest ≠ []

theorem St.congr {S : Bool} {c c' : Conn} {wire : Bytes} {more : List PFrame} {rest : Bytes}
    (h : St S c wire more rest) (h1 : c'.r.readErr = c.r.readErr) (h2 : c'.r.remaining = c.r.remaining)
    (h3 : c'.r.buf = c.r.buf) (h4 : c'.r.final = c.r.final) (h5 : c'.r.isServer = c.r.isServer)
    (h6 : c'.r.hPing = c.r.hPing) (h7 : c'.r.hPong = c.r.hPong) (h8 : 0 ≤ c'.r.length) :
    St S c' wire more rest := by
  refine ⟨⟨?_, ?_, ?_, ?_, ?_⟩, ?_, ?_, ?_, ?_, ?_, ?_, h8, ?_⟩
  · rw [h3]; exact h.env.wf
  · rw [h3]; exact h.env.size
  · rw [h3]; exact h.env.fuel
  · rw [h6]; exact h.env.hp
  · rw [h7]; exact h.env.hq
  · rw [h5]; exact h.srv
  · rw [h1]; exact h.noErr
  · rw [h2]; exact h.rem
  · rw [h3]; exact h.pend
  · rw [h4]; exact h.finT
  · rw [h4]; exact h.finF
  · rw [h3]; exact h.tog

theorem St.at_c0 {S : Bool} {c : Conn} {wire : Bytes} {more : List PFrame} {rest : Bytes}
    (h : St S c wire more rest) : St S (c0 c) wire more rest :=
  h.congr rfl rfl rfl rfl rfl rfl rfl (Int.le_refl 0)

theorem St.idle {S : Bool} {c : Conn} {more : List PFrame} {rest : Bytes} (h : St S c [] more rest)
    (hf : c.r.final = true) : ReaderIdle c ∧ c.r.buf.pending = rest := by
  have hm := h.finT hf
  subst hm
  refine ⟨⟨h.noErr, by simpa using h.rem, hf, h.env.wf, h.env.size, h.env.fuel, h.env.hp, h.env.hq⟩, ?_⟩
  simpa using h.pend

/-- A data frame is entered. Only the bound of this frame is asked for, on the sum it really starts
    from (`lenBase`: a text / binary frame restarts it); the sum afterwards is given exactly. -/
theorem step_data (S : Bool) (c : Conn) (wire : Bytes) (f : PFrame) (fs : List PFrame) (rest : Bytes)
    {more0 : List PFrame} {rest0 : Bytes} (hst : St S c wire more0 rest0)
    (hp : c.r.buf.pending = wire ++ (f.enc S ++ (encAll S fs ++ rest))) {t : Nat} (ld : Lead t f fs)
    (hop : (t = 0 ∧ c.r.final = false) ∨ ((t = 1 ∨ t = 2) ∧ c.r.final = true))
    (tog : c.r.buf.t.together = false ∨ rest ≠ [])
    (hl1 : lenBase f.op c + (f.payload.length : Int) < 9223372036854775808)
    (hl2 : c.r.limit ≤ 0 ∨ lenBase f.op c + (f.payload.length : Int) ≤ c.r.limit) :
    ∃ c', advanceFrame c = (.ok f.op, c') ∧ St S c' (body S f.key f.payload) fs rest ∧ Fr c c' ∧
      c'.r.hlog = c.r.hlog ∧ c'.r.decompress = false ∧ c'.r.length = lenBase f.op c + f.payload.length ∧
      unmask c' (body S f.key f.payload) = f.payload ∧
      c'.r.buf.pending.length < c.r.buf.pending.length := by
  have srv := hst.srv
  subst srv
  obtain ⟨rfl, hlen, hT, hF⟩ := ld
  have hb0 := lenBase_nonneg f.op c hst.len0
  obtain ⟨b', h1, h2, _, _⟩ := advance_data_raw c wire (encAll c.r.isServer fs ++ rest) f.op f.fin f.key f.payload
    hst.rem hst.env.wf hst.env.size hp hop hlen hb0 hl1 hl2
  obtain ⟨fr, hpl⟩ := adv_ok h1 hst.env.wf
  refine ⟨_, h1, ⟨hst.env.fr0 fr.toFr0, rfl, hst.noErr, ?_, h2, hT, hF, ?_, ?_⟩,
    fr, rfl, rfl, rfl, ?_, by omega⟩
  · show (f.payload.length : Int) = _
    rw [body_length]
  · show 0 ≤ lenBase f.op c + (f.payload.length : Int)
    omega
  · rw [fr.same.together]; exact tog
  · exact unmask_body _ f.key f.payload (fun h => if_pos h) (fun h => if_pos h)

/-- `more = []`: the reader stands between messages, the frames of the next message in `rest` -/
theorem step_ctl (S : Bool) (c : Conn) (wire : Bytes) (f : PFrame) (more : List PFrame) (rest : Bytes)
    {more0 : List PFrame} {rest0 : Bytes} (hst : St S c wire more0 rest0)
    (hp : c.r.buf.pending = wire ++ (f.enc S ++ (encAll S more ++ rest))) (hf : f.ctlOk)
    (tog : c.r.buf.t.together = false ∨ rest ≠ [])
    (hT : c.r.final = true → more = []) (hF : c.r.final = false → Tail more) :
    ∃ c', advanceFrame c = (.ok f.op, c') ∧ (f.op == 1 || f.op == 2) = false ∧ St S c' [] more rest ∧
      Fr c c' ∧ c'.r.hlog = c.r.hlog ++ [ctlEv f.op f.payload] ∧ c'.r.length = c.r.length ∧ c'.r.final = c.r.final ∧
      c'.r.buf.pending.length < c.r.buf.pending.length := by
  have srv := hst.srv
  subst srv
  obtain ⟨hop, hfin, hlen⟩ := hf
  have hp' : c.r.buf.pending = wire ++ (Codec.encode (!c.r.isServer) (f.op + 128) f.key f.payload ++
      (encAll c.r.isServer more ++ rest)) := by
    rw [hp]; simp [PFrame.enc, PFrame.b0, hfin]
  obtain ⟨b', w', h1, h2, _, _⟩ := advance_ctl_raw c wire _ f.op f.key f.payload hst.rem hst.env.wf hst.env.size
    hp' hop hlen hst.env.hp hst.env.hq
  obtain ⟨fr, hpl⟩ := adv_ok h1 hst.env.wf
  refine ⟨_, h1, ?_, ⟨hst.env.fr0 fr.toFr0, rfl, hst.noErr, rfl, ?_, hT, hF, hst.len0, ?_⟩,
    fr, rfl, rfl, rfl, by omega⟩
  · rcases hop with h | h <;> rw [h] <;> rfl
  · show b'.pending = _
    rw [h2]; rfl
  · rw [fr.same.together]; exact tog

theorem step_tail (S : Bool) (c : Conn) (wire : Bytes) (more : List PFrame) (rest : Bytes)
    (hst : St S c wire more rest) (hfin : c.r.final = false) (extra : Nat)
    (hl : LenOk c ((dataPayload more).length + extra)) :
    ∃ t c' wire' more', advanceFrame c = (.ok t, c') ∧ (t == 1 || t == 2) = false ∧ St S c' wire' more' rest ∧
      Fr c c' ∧ LenOk c' ((dataPayload more').length + extra) ∧
      unmask c' wire' ++ dataPayload more' = dataPayload more ∧
      c'.r.hlog ++ ctlEvents more' = c.r.hlog ++ ctlEvents more ∧
      c'.r.buf.pending.length < c.r.buf.pending.length := by
  have hp := hst.pend
  obtain ⟨f, fs, rfl, ld | ⟨h1, h4⟩⟩ := (hst.finF hfin).head
  · have h1 := ld.op
    have hd : f.isCtl = false := isCtl_of_data (Or.inl h1)
    have hlb : lenBase f.op c = c.r.length := by rw [h1]; rfl
    rw [encAll_cons, List.append_assoc] at hp
    rw [dataPayload_data _ hd, List.length_append] at hl
    obtain ⟨l1, l2⟩ := hl
    obtain ⟨c', a1, hst', fr, hlog, _, hlen, hpay, lt⟩ := step_data S c wire f fs rest hst hp ld (Or.inl ⟨rfl, hfin⟩)
      hst.tog (by rw [hlb]; omega) (l2.imp_right fun h => by rw [hlb]; omega)
    refine ⟨f.op, c', _, fs, a1, by rw [h1]; rfl, hst', fr, ⟨?_, ?_⟩, ?_, ?_, lt⟩
    · rw [hlen, hlb]; omega
    · rw [hlen, hlb, fr.limit]; exact l2.imp_right fun h => by omega
    · rw [hpay, dataPayload_data _ hd]
    · rw [hlog, ctlEvents_data _ hd]
  · have hd : f.isCtl = true := isCtl_of_ctlOk h1
    rw [encAll_cons, List.append_assoc] at hp
    rw [dataPayload_ctl _ hd] at hl
    obtain ⟨c', a1, htb, hst', fr, hlog, hlen, _, lt⟩ := step_ctl S c wire f fs rest hst hp h1 hst.tog
      (fun h => by rw [hfin] at h; cases h) (fun _ => h4)
    refine ⟨f.op, c', [], fs, a1, htb, hst', fr, ?_, ?_, ?_, lt⟩
    · unfold LenOk at hl ⊢; rw [hlen, fr.limit]; exact hl
    · rw [unmask_nil, List.nil_append, dataPayload_ctl _ hd]
    · rw [hlog, ctlEvents_ctl _ hd, List.append_assoc]; rfl

theorem mrRead_data (S : Bool) (c : Conn) (rid k : Nat) (wire : Bytes) (more : List PFrame) (rest : Bytes)
    (hst : St S c wire more rest) (hw : wire ≠ []) (hk : 0 < k) (fuel : Nat) :
    ∃ out c' wire', mrReadLoop (fuel + 1) c rid k = ((out, none), c') ∧ out ≠ [] ∧ St S c' wire' more rest ∧
      Keep c c' ∧ c'.r.msgReader = c.r.msgReader ∧ c'.r.length = c.r.length ∧ c'.r.hlog = c.r.hlog ∧
      unmask c wire = out ++ unmask c' wire' ∧ c'.r.buf.pending.length < c.r.buf.pending.length := by
  have hwl : 0 < wire.length := List.length_pos_iff.mpr hw
  have hpos : c.r.remaining > 0 := by rw [hst.rem]; omega
  have hk' : 0 < min k c.r.remaining.toNat := by omega
  have hend : c.r.buf.t.together = false ∨ encAll S more ++ rest ≠ [] :=
    hst.tog.imp_right (List.append_ne_nil_of_right_ne_nil _)
  obtain ⟨bs, b', r1, r2, r3, r4, r5, r6, r7⟩ := read_exact c.r.buf hst.env.wf _ hk' wire _ hst.pend
    (by have := hst.rem; omega) hend
  have hbl : 0 < bs.length := List.length_pos_iff.mpr r2
  have hwl' : wire.length = bs.length + (wire.drop bs.length).length := by
    simp only [List.length_drop]; omega
  have fr := mrReadLoop_fr0 rid k (fuel + 1) c
  rw [mrReadLoop_on_data fuel c rid k hst.noErr hpos] at fr ⊢
  simp only [mrData, r1] at fr ⊢
  have he : (if ((decide (c.r.remaining - (bs.length : Int) > 0) || !c.r.final) && decide ((none : Option RErr) = some RErr.eof)) = true
      then some RErr.unexpectedEOF else (none : Option RErr)) = none := by simp
  simp only [he] at fr ⊢
  have hpl : b'.pending.length < c.r.buf.pending.length := by
    rw [r5, hst.pend]
    simp only [List.length_append, List.length_drop]
    omega
  refine ⟨_, _, wire.drop bs.length, rfl, ?_, ⟨hst.env.fr0 fr, hst.srv, rfl, ?_, r5,
    hst.finT, hst.finF, hst.len0, ?_⟩, fr.keep, rfl, rfl, rfl, ?_, hpl⟩
  · cases c.r.isServer
    · exact r2
    · simp only [if_true]
      intro hc
      exact r2 (by simpa using congrArg List.length hc)
  · simp only []
    have := hst.rem
    omega
  · simp only []
    rw [r7.together]; exact hst.tog
  · exact (congrArg (unmask c) r4).trans (unmask_append c _ bs _ rfl rfl rfl)

/-- reader `rid` is open somewhere in its message, and what is left of the message fits the length bounds -/
structure Open (S : Bool) (rid : Nat) (rest : Bytes) (c : Conn) (wire : Bytes) (more : List PFrame) : Prop where
  st : St S c wire more rest
  mr : c.r.msgReader = some rid
  len : LenOk c (dataPayload more).length

/-- one messageReader.Read: a non-empty piece of the rest of the message (after any number of pings, pongs and
    empty fragments), or end-of-message -/
theorem mrReadLoop_spec (S : Bool) (rid k : Nat) (hk : 0 < k) (rest : Bytes) (fuel : Nat) :
    ∀ (c : Conn) (wire : Bytes) (more : List PFrame), Open S rid rest c wire more → c.r.buf.pending.length < fuel →
      (∃ out c' wire' more', mrReadLoop fuel c rid k = ((out, none), c') ∧ out ≠ [] ∧
        Open S rid rest c' wire' more' ∧ Keep c c' ∧
        unmask c wire ++ dataPayload more = out ++ (unmask c' wire' ++ dataPayload more') ∧
        c'.r.hlog ++ ctlEvents more' = c.r.hlog ++ ctlEvents more ∧
        c'.r.buf.pending.length < c.r.buf.pending.length) ∨
      (∃ c', mrReadLoop fuel c rid k = (([], some .eof), c') ∧ unmask c wire ++ dataPayload more = [] ∧
        St S c' [] [] rest ∧ c'.r.final = true ∧ Keep c c' ∧ c'.r.msgReader = none ∧
        c'.r.hlog = c.r.hlog ++ ctlEvents more ∧ LenOk c' 0) := by
  induction fuel with
  | zero => intro c wire more _ h; omega
  | succ fuel ih =>
    intro c wire more ⟨hst, hm, hl⟩ hf
    by_cases hw : wire = []
    · subst hw
      have hrem : ¬ c.r.remaining > 0 := by have := hst.rem; simp at this; omega
      cases hfin : c.r.final with
      | true =>
        right
        have hmore := hst.finT hfin
        subst hmore
        rw [mrReadLoop_on_eom fuel c rid k hst.noErr hrem hfin]
        refine ⟨_, rfl, by simp, hst.congr rfl rfl rfl rfl rfl rfl rfl hst.len0, hfin, ⟨rfl, rfl, rfl, rfl, Same2.refl _⟩,
          rfl, by simp, ?_⟩
        exact (by simpa using hl : LenOk c 0)
      | false =>
        obtain ⟨t, c', wire', more', a1, a2, hst', fr, hl', hpay, hlog, lt⟩ :=
          step_tail S c [] more rest hst hfin 0 (by simpa using hl)
        rw [mrReadLoop_on_ok fuel c rid k hst.noErr hrem hfin t c' a1, a2, if_neg Bool.false_ne_true]
        rcases ih c' wire' more' ⟨hst', fr.msgReader.trans hm, by simpa using hl'⟩ (by omega) with
          ⟨out, c2, w2, m2, b1, b2, ho, kp, b7, b8, b9⟩ | ⟨c2, b1, b2, b3, b4, b5, b6, b7, b8⟩
        · left
          refine ⟨out, c2, w2, m2, b1, b2, ho, fr.keep.trans kp, ?_, ?_, by omega⟩
          · rw [unmask_nil, List.nil_append, ← hpay, b7]
          · rw [b8, hlog]
        · right
          refine ⟨c2, b1, ?_, b3, b4, fr.keep.trans b5, b6, ?_, b8⟩
          · rw [unmask_nil, List.nil_append, ← hpay, b2]
          · rw [b7, hlog]
    · left
      obtain ⟨out, c', wire', a1, a2, a3, a4, a5, a6, a7, a8, a9⟩ := mrRead_data S c rid k wire more rest hst hw hk fuel
      refine ⟨out, c', wire', more, a1, a2, ⟨a3, a5.trans hm, ?_⟩, a4, ?_, by rw [a7], a9⟩
      · unfold LenOk at hl ⊢; rw [a6, a4.limit]; exact hl
      · rw [a8, List.append_assoc]

theorem readAllLoop_spec (S : Bool) (rid k : Nat) (hk : 0 < k) (rest : Bytes) (fuel : Nat) :
    ∀ (c : Conn) (wire : Bytes) (more : List PFrame) (acc : List Bytes), Open S rid rest c wire more →
      c.r.buf.pending.length < fuel →
      ∃ c2, readAllLoop fuel c rid k acc = ((acc.reverse.flatten ++ (unmask c wire ++ dataPayload more), none), c2) ∧
        St S c2 [] [] rest ∧ c2.r.final = true ∧ Keep c c2 ∧ c2.r.hlog = c.r.hlog ++ ctlEvents more := by
  induction fuel with
  | zero => intro c wire more acc _ h; omega
  | succ fuel ih =>
    intro c wire more acc ho hf
    rcases mrReadLoop_spec S rid k hk rest (c.fuel + 1) c wire more ho (ho.st.env.fuel_lt 1) with
      ⟨out, c2, w2, m2, hrd, _, ho2, kp, hpay, hlog, lt⟩ | ⟨c2, hrd, hnil, hst2, hfin2, kp, hmr2, hlog, hl0⟩
    · rw [readAllLoop_on_data fuel c rid k acc out c2 ((mrRead_cur c rid k ho.mr).trans hrd)]
      obtain ⟨c3, d1, d2, d3, d4, d5⟩ := ih c2 w2 m2 (out :: acc) ho2 (by omega)
      refine ⟨c3, ?_, d2, d3, kp.trans d4, ?_⟩
      · rw [d1, hpay]
        simp [List.append_assoc]
      · rw [d5, hlog]
    · rw [readAllLoop_on_eof fuel c rid k acc [] c2 ((mrRead_cur c rid k ho.mr).trans hrd)]
      refine ⟨c2, ?_, hst2, hfin2, kp, hlog⟩
      rw [hnil]; simp

/-- the reader between messages, what is left of the last frame (`wire`) unread, in front of the data frame `f` that
    opens the message `f :: fs` of type `t` -/
structure AtLead (S : Bool) (t : Nat) (rest : Bytes) (c : Conn) (wire : Bytes) (f : PFrame) (fs : List PFrame) :
    Prop where
  st : St S c wire [] (encAll S (f :: fs) ++ rest)
  fin : c.r.final = true
  lead : Lead t f fs

/-- The loop of NextReader up to the first data frame `f` of the next message `fs2`: what is left of an abandoned
    message is skipped. Last clause: a reader that started at a frame boundary between messages arrives at one. -/
theorem nextReaderLoop_arrive (S : Bool) (t : Nat) (ht : t = 1 ∨ t = 2) (rest : Bytes) (fuel : Nat) :
    ∀ (c : Conn) (wire : Bytes) (more fs2 : List PFrame), St S c wire more (encAll S fs2 ++ rest) →
      MsgShape t fs2 → LenOk c (dataPayload more).length → c.r.buf.pending.length < fuel →
      ∃ fuel' c' wire' f fs, nextReaderLoop fuel c = nextReaderLoop (fuel' + 1) c' ∧
        c'.r.buf.pending.length < fuel' + 1 ∧ AtLead S t rest c' wire' f fs ∧
        Keep c c' ∧ c'.r.nextId = c.r.nextId ∧
        dataPayload (f :: fs) = dataPayload fs2 ∧
        c'.r.hlog ++ ctlEvents fs = c.r.hlog ++ ctlEvents more ++ ctlEvents fs2 ∧
        (wire = [] → c.r.final = true → wire' = []) := by
  induction fuel with
  | zero => intro c wire more fs2 _ _ _ h; omega
  | succ fuel ih =>
    intro c wire more fs2 hst hs hl hf
    cases hfin : c.r.final with
    | false =>
      obtain ⟨t', c', wire', more', a1, a2, hst', fr, hl', _, hlog, lt⟩ :=
        step_tail S c wire more _ hst hfin 0 (by simpa using hl)
      rw [nextReaderLoop_on_pass fuel c hst.noErr t' c' a1 a2]
      obtain ⟨fuel', c2, w2, f, fs, b1, b2, at2, kp, nid, pay, log, _⟩ :=
        ih c' wire' more' fs2 hst' hs (by simpa using hl') (by omega)
      exact ⟨fuel', c2, w2, f, fs, b1, b2, at2, fr.keep.trans kp, nid.trans fr.nextId, pay,
        by rw [log, hlog], fun _ h => by cases h⟩
    | true =>
      have hmore := hst.finT hfin
      subst hmore
      obtain ⟨f, fs, rfl, ld | ⟨h1, h4⟩⟩ := hs.head
      · have hd : f.isCtl = false := isCtl_of_data (by have := ld.op; omega)
        exact ⟨fuel, c, wire, f, fs, rfl, hf, ⟨hst, hfin, ld⟩, Keep.refl c, rfl, rfl,
          by rw [ctlEvents_data _ hd]; simp, fun h _ => h⟩
      · have hd : f.isCtl = true := isCtl_of_ctlOk h1
        have hp := hst.pend
        rw [encAll_nil, List.nil_append, encAll_cons, List.append_assoc, ← List.nil_append (encAll S fs ++ rest),
          ← encAll_nil S] at hp
        obtain ⟨c', a1, htb, hst', fr, hlog, hlen, hfin', lt⟩ := step_ctl S c wire f [] (encAll S fs ++ rest) hst
          hp h1 (Or.inr (encAll_append_ne_nil h4 rest)) (fun _ => rfl) (fun h => by rw [hfin] at h; cases h)
        rw [nextReaderLoop_on_pass fuel c hst.noErr f.op c' a1 htb]
        obtain ⟨fuel', c2, w2, g, gs, b1, b2, at2, kp, nid, pay, log, edge⟩ :=
          ih c' [] [] fs hst' h4 (by unfold LenOk at hl ⊢; rw [hlen, fr.limit]; exact hl) (by omega)
        refine ⟨fuel', c2, w2, g, gs, b1, b2, at2, fr.keep.trans kp, nid.trans fr.nextId,
          by rw [pay, dataPayload_ctl _ hd], ?_, fun _ _ => edge rfl (hfin'.trans hfin)⟩
        rw [log, hlog, ctlEvents_ctl _ hd]; simp

theorem nextReaderLoop_open (S : Bool) (t : Nat) (ht : t = 1 ∨ t = 2) (rest : Bytes) (fuel : Nat) (c : Conn)
    (wire : Bytes) (f : PFrame) (fs : List PFrame) (ha : AtLead S t rest c wire f fs)
    (htog : c.r.buf.t.together = false ∨ rest ≠ []) (hfit : c.r.limit ≤ 0 ∨ (f.payload.length : Int) ≤ c.r.limit) :
    ∃ c1, nextReaderLoop (fuel + 1) c = (.msg t c.r.nextId false, c1) ∧ St S c1 (body S f.key f.payload) fs rest ∧
      Keep c c1 ∧ c1.r.msgReader = some c.r.nextId ∧ c1.r.length = (f.payload.length : Int) ∧
      c1.r.hlog = c.r.hlog ∧ unmask c1 (body S f.key f.payload) = f.payload := by
  obtain ⟨hst, hfin, ld⟩ := ha
  have h1 := ld.op
  have h3 := ld.len
  have hlb : lenBase f.op c = 0 := by
    unfold lenBase; rcases ht with h | h <;> rw [h1, h] <;> rfl
  have hp := hst.pend
  rw [encAll_nil, List.nil_append, encAll_cons, List.append_assoc] at hp
  obtain ⟨c', a1, hst', fr, hlog, hdc, hlen, hpay, _⟩ := step_data S c wire f fs rest hst hp ld
    (Or.inr ⟨ht, hfin⟩) htog (by rw [hlb]; omega) (by rw [hlb]; simpa using hfit)
  have htb : (f.op == 1 || f.op == 2) = true := by rcases ht with h | h <;> rw [h1, h] <;> rfl
  refine ⟨{ c' with r := { c'.r with msgReader := some c'.r.nextId, nextId := c'.r.nextId + 1 } }, ?_,
    hst'.congr rfl rfl rfl rfl rfl rfl rfl hst'.len0, ⟨fr.isServer, fr.limit, fr.hPing, fr.hPong, fr.same⟩, ?_, ?_, hlog,
    hpay⟩
  · rw [nextReaderLoop_on_msg fuel c hst.noErr f.op c' a1 htb, hdc, h1, fr.nextId]
  · simp only [fr.nextId]
  · show c'.r.length = _
    rw [hlen, hlb]; omega

/-- What is left of the abandoned message and the next message are within the limit separately: the running sum
    restarts at the first frame of a message. -/
theorem nextReaderLoop_next_msg (S : Bool) (t : Nat) (ht : t = 1 ∨ t = 2) (rest : Bytes) (fuel : Nat) :
    ∀ (c : Conn) (wire : Bytes) (more fs2 : List PFrame), St S c wire more (encAll S fs2 ++ rest) →
      MsgShape t fs2 → (c.r.buf.t.together = false ∨ rest ≠ []) →
      LenOk c (dataPayload more).length → (dataPayload fs2).length < 2 ^ 63 →
      (c.r.limit ≤ 0 ∨ ((dataPayload fs2).length : Int) ≤ c.r.limit) → c.r.buf.pending.length < fuel →
      ∃ c1 wire1 more1, nextReaderLoop fuel c = (.msg t c.r.nextId false, c1) ∧
        Open S c.r.nextId rest c1 wire1 more1 ∧ Keep c c1 ∧
        unmask c1 wire1 ++ dataPayload more1 = dataPayload fs2 ∧
        c1.r.hlog ++ ctlEvents more1 = c.r.hlog ++ ctlEvents more ++ ctlEvents fs2 := by
  intro c wire more fs2 hst hs htog hl hsz hlim hf
  obtain ⟨fuel', c', wire', f, fs, b1, b2, ha, b5, b6, b12, b13, _⟩ :=
    nextReaderLoop_arrive S t ht rest fuel c wire more fs2 hst hs hl hf
  have hd : f.isCtl = false := isCtl_of_data (by have := ha.lead.op; omega)
  have hlen : (dataPayload fs2).length = f.payload.length + (dataPayload fs).length := by
    rw [← b12, dataPayload_data _ hd, List.length_append]
  obtain ⟨c1, d1, d2, d3, d4, d5, d6, d7⟩ := nextReaderLoop_open S t ht rest fuel' c' wire' f fs ha
    (by rw [b5.same.together]; exact htog) (by rw [b5.limit]; omega)
  refine ⟨c1, _, fs, by rw [b1, d1, b6], ⟨d2, by rw [d4, b6], ?_⟩, b5.trans d3, by rw [d7, ← b12, dataPayload_data _ hd],
    by rw [d6, b13]⟩
  unfold LenOk
  rw [d5, d3.limit, b5.limit]
  omega

theorem nextReader_open (S : Bool) (t : Nat) (ht : t = 1 ∨ t = 2) (rest : Bytes) (c : Conn) (wire : Bytes)
    (more fs2 : List PFrame) (hst : St S (c0 c) wire more (encAll S fs2 ++ rest))
    (hs : MsgShape t fs2) (htog : c.r.buf.t.together = false ∨ rest ≠ [])
    (hl1 : (dataPayload more).length < 2 ^ 63) (hl1' : (dataPayload fs2).length < 2 ^ 63)
    (hl2 : c.r.limit ≤ 0 ∨
      (((dataPayload more).length : Int) ≤ c.r.limit ∧ ((dataPayload fs2).length : Int) ≤ c.r.limit)) :
    ∃ c1 rid wire1 more1, nextReader c = (.msg t rid false, c1) ∧ Open S rid rest c1 wire1 more1 ∧ Keep c c1 ∧
      unmask c1 wire1 ++ dataPayload more1 = dataPayload fs2 ∧
      c1.r.hlog ++ ctlEvents more1 = c.r.hlog ++ ctlEvents more ++ ctlEvents fs2 := by
  obtain ⟨c1, w1, m1, b1, ho, b3, b6, b7⟩ := nextReaderLoop_next_msg S t ht rest _ (c0 c) wire more fs2 hst hs
    htog (by unfold LenOk
             show (0 : Int) + _ < _ ∧ (c.r.limit ≤ 0 ∨ (0 : Int) + _ ≤ c.r.limit)
             omega)
    hl1' (hl2.imp_right And.right) (c0_pending_lt_fuel hst.env.fuel)
  refine ⟨c1, c.r.nextId, w1, m1, ?_, ho, ⟨b3.isServer, b3.limit, b3.hPing, b3.hPong, b3.same⟩, b6, b7⟩
  rw [nextReader_eq, nrRes_none c hst.noErr, b1]
  rfl

/-- `nextReader_open` with one bound on the two messages together -/
theorem nextReader_spec (S : Bool) (t : Nat) (ht : t = 1 ∨ t = 2) (rest : Bytes) (c : Conn) (wire : Bytes)
    (more fs2 : List PFrame)
    (hst : St S (c0 c) wire more (encAll S fs2 ++ rest))
    (hs : MsgShape t fs2) (htog : c.r.buf.t.together = false ∨ rest ≠ [])
    (hl1 : (dataPayload more).length + (dataPayload fs2).length < 2 ^ 63)
    (hl2 : c.r.limit ≤ 0 ∨ (((dataPayload more).length + (dataPayload fs2).length : Nat) : Int) ≤ c.r.limit) :
    ∃ c1 rid wire1 more1, nextReader c = (.msg t rid false, c1) ∧ Open S rid rest c1 wire1 more1 ∧ Keep c c1 ∧
      unmask c1 wire1 ++ dataPayload more1 = dataPayload fs2 ∧
      c1.r.hlog ++ ctlEvents more1 = c.r.hlog ++ ctlEvents more ++ ctlEvents fs2 :=
  nextReader_open S t ht rest c wire more fs2 hst hs htog (by omega) (by omega) (hl2.imp_right fun h => by omega)

theorem readAll_keep (S : Bool) (rid k : Nat) (hk : 0 < k) (rest : Bytes) (c : Conn) (wire : Bytes)
    (more : List PFrame) (ho : Open S rid rest c wire more) :
    ∃ c2, readAll c rid k = ((unmask c wire ++ dataPayload more, none), c2) ∧ ReaderIdle c2 ∧
      c2.r.buf.pending = rest ∧ c2.r.hlog = c.r.hlog ++ ctlEvents more ∧ Keep c c2 := by
  obtain ⟨c2, d1, d2, d3, d4, d5⟩ := readAllLoop_spec S rid k hk rest (c.fuel + 2) c wire more [] ho
    (ho.st.env.fuel_lt 2)
  obtain ⟨i1, i2⟩ := d2.idle d3
  refine ⟨c2, ?_, i1, i2, d5, d4⟩
  unfold readAll
  rw [d1]
  simp

theorem readAll_spec (S : Bool) (rid k : Nat) (hk : 0 < k) (rest : Bytes) (c : Conn) (wire : Bytes)
    (more : List PFrame) (ho : Open S rid rest c wire more) :
    ∃ c2, readAll c rid k = ((unmask c wire ++ dataPayload more, none), c2) ∧ ReaderIdle c2 ∧
      c2.r.buf.pending = rest ∧ c2.r.hlog = c.r.hlog ++ ctlEvents more := by
  obtain ⟨c2, h1, h2, h3, h4, _⟩ := readAll_keep S rid k hk rest c wire more ho
  exact ⟨c2, h1, h2, h3, h4⟩

theorem open_and_read (S : Bool) (t : Nat) (ht : t = 1 ∨ t = 2) (rest : Bytes) (c : Conn) (wire : Bytes)
    (more fs2 : List PFrame)
    (hst : St S (c0 c) wire more (encAll S fs2 ++ rest))
    (hs : MsgShape t fs2) (htog : c.r.buf.t.together = false ∨ rest ≠ [])
    (hl1 : (dataPayload more).length + (dataPayload fs2).length < 2 ^ 63)
    (hl2 : c.r.limit ≤ 0 ∨ (((dataPayload more).length + (dataPayload fs2).length : Nat) : Int) ≤ c.r.limit)
    (k : Nat) (hk : 0 < k) :
    ∃ c1 rid, nextReader c = (.msg t rid false, c1) ∧
      ∃ c2, readAll c1 rid k = ((dataPayload fs2, none), c2) ∧ ReaderIdle c2 ∧ c2.r.buf.pending = rest ∧
        c2.r.hlog = c.r.hlog ++ ctlEvents more ++ ctlEvents fs2 ∧ Keep c c2 := by
  obtain ⟨c1, rid, w1, m1, hnr, ho, kp1, hpay1, hlog1⟩ := nextReader_spec S t ht rest c wire more fs2 hst hs htog hl1 hl2
  obtain ⟨c2, d1, d2, d3, d4, d5⟩ := readAll_keep S rid k hk rest c1 w1 m1 ho
  refine ⟨c1, rid, hnr, c2, ?_, d2, d3, ?_, kp1.trans d5⟩
  · rw [d1, hpay1]
  · rw [d4, hlog1]

theorem idle_St (c : Conn) (hc : ReaderIdle c) (fs : List PFrame) (rest : Bytes)
    (hp : c.r.buf.pending = encAll c.r.isServer fs ++ rest) (htog : c.r.buf.t.together = false ∨ rest ≠ []) :
    St c.r.isServer (c0 c) [] [] (encAll c.r.isServer fs ++ rest) := by
  refine ⟨hc.env.at_c0, rfl, hc.noErr, ?_, ?_, fun _ => rfl, ?_, Int.le_refl 0,
    htog.imp_right (List.append_ne_nil_of_right_ne_nil _)⟩
  · show c.r.remaining = _
    rw [hc.rem]; rfl
  · show c.r.buf.pending = _
    rw [hp]; simp
  · intro h
    have h' : c.r.final = false := h
    rw [hc.fin] at h'; cases h'


end Helpers

/-- `read_message` with `Keep`, which lets hypotheses about a connection travel along a list of messages
    (ReadMsgs.lean) -/
theorem read_message_keep (c : Conn) (hc : ReaderIdle c) (t : Nat) (ht : t = 1 ∨ t = 2) (fs : List PFrame)
    (hs : MsgShape t fs) (rest : Bytes)
    (hp : c.r.buf.pending = encAll c.r.isServer fs ++ rest)
    (hend : c.r.buf.t.together = false ∨ rest ≠ [])
    (hsz : (dataPayload fs).length < 2 ^ 62)
    (hlim : c.r.limit ≤ 0 ∨ ((dataPayload fs).length : Int) ≤ c.r.limit)
    (k : Nat) (hk : 0 < k) :
    ∃ c1 rid, nextReader c = (.msg t rid false, c1) ∧
      ∃ c2, readAll c1 rid k = ((dataPayload fs, none), c2) ∧ ReaderIdle c2 ∧ c2.r.buf.pending = rest ∧
        c2.r.hlog = c.r.hlog ++ ctlEvents fs ∧ Keep c c2 := by
  have hst := idle_St c hc fs rest hp hend
  obtain ⟨c1, rid, h1, c2, h2, h3, h4, h5, h6⟩ := open_and_read c.r.isServer t ht rest c [] [] fs hst hs hend
    (by simp; omega) (by simpa using hlim) k hk
  exact ⟨c1, rid, h1, c2, h2, h3, h4, by simpa using h5, h6⟩

/-- C03 core (one message): from an idle reader whose pending bytes start with a conformant message (any
    fragmentation incl. empty frames, any keys, pings / pongs between fragments), NextReader returns its type, and
    reads of any size `k` yield exactly its payload, then end-of-message; the reader is idle again at the first byte
    after the message, and the handlers saw exactly the interleaved control frames, in order. `hend`: a transport
    that reports its terminal error together with the last payload bytes of the stream makes the last Read report
    that error instead. -/
theorem read_message (c : Conn) (hc : ReaderIdle c) (t : Nat) (ht : t = 1 ∨ t = 2) (fs : List PFrame)
    (hs : MsgShape t fs) (rest : Bytes)
    (hp : c.r.buf.pending = encAll c.r.isServer fs ++ rest)
    (hend : c.r.buf.t.together = false ∨ rest ≠ [])
    (hsz : (dataPayload fs).length < 2 ^ 62)
    (hlim : c.r.limit ≤ 0 ∨ ((dataPayload fs).length : Int) ≤ c.r.limit)
    (k : Nat) (hk : 0 < k) :
    ∃ c1 rid, nextReader c = (.msg t rid false, c1) ∧
      ∃ c2, readAll c1 rid k = ((dataPayload fs, none), c2) ∧ ReaderIdle c2 ∧ c2.r.buf.pending = rest ∧
        c2.r.hlog = c.r.hlog ++ ctlEvents fs := by
  obtain ⟨c1, rid, h1, c2, h2, h3, h4, h5, _⟩ := read_message_keep c hc t ht fs hs rest hp hend hsz hlim k hk
  exact ⟨c1, rid, h1, c2, h2, h3, h4, h5⟩

/-- reads of arbitrary sizes on reader `rid`, results discarded (an application that reads part of a message).
    An entry `k` stands for a Read of `k + 1` bytes: a Read of 0 bytes is not modelled by `mrRead`. -/
def partialReads (c : Conn) (rid : Nat) : List Nat → Conn
  | [] => c
  | k :: ks => partialReads (mrRead c rid (k + 1)).2 rid ks

section Helpers2
open WS.AdvFrame WS.RobustAux

/-- The reader after some reads on reader `rid` of the message opened by NextReader: somewhere in that message, or
    at its end with no current reader. `rest1` follows the message, `H` is the handler log once the message's
    remaining pings / pongs have been passed, `n` bounds the payload still undelivered (for the `2 ^ 63` bound of
    the next NextReader), `L` is the read limit and `tg` the transport's `together` flag (both constant). -/
def Ab (S : Bool) (rid : Nat) (rest1 : Bytes) (H : List REv) (n : Nat) (L : Int) (tg : Bool) (c : Conn) : Prop :=
  ∃ wire more, St S c wire more rest1 ∧ (c.r.msgReader = some rid ∨ c.r.msgReader = none) ∧
    LenOk c (dataPayload more).length ∧ wire.length + (dataPayload more).length ≤ n ∧
    c.r.hlog ++ ctlEvents more = H ∧ c.r.limit = L ∧ c.r.buf.t.together = tg

theorem partialReads_spec (S : Bool) (rid : Nat) (rest1 : Bytes) (H : List REv) (n : Nat) (L : Int) (tg : Bool) :
    ∀ (reads : List Nat) (c : Conn), Ab S rid rest1 H n L tg c → Ab S rid rest1 H n L tg (partialReads c rid reads) := by
  intro reads
  induction reads with
  | nil => intro c h; exact h
  | cons k ks ih =>
    intro c h
    unfold partialReads
    apply ih
    obtain ⟨wire, more, hst, hm, hl, hn, hH, hlim, htg⟩ := h
    by_cases hmr : c.r.msgReader = some rid
    · have hmrd := mrRead_cur c rid (k + 1) hmr
      rw [hmrd]
      rcases mrReadLoop_spec S rid (k + 1) (by omega) rest1 (c.fuel + 1) c wire more ⟨hst, hmr, hl⟩ (hst.env.fuel_lt 1) with
        ⟨out, c2, w2, m2, hrd, _, ho, kp, hpay, hlog, _⟩ | ⟨c2, hrd, hnil, hst2, hfin2, kp, hmr2, hlog, hl0⟩
      · rw [hrd]
        refine ⟨w2, m2, ho.st, Or.inl ho.mr, ho.len, ?_, by rw [hlog, hH], by rw [kp.limit]; exact hlim,
          by rw [kp.same.together]; exact htg⟩
        have := congrArg List.length hpay
        simp only [List.length_append, unmask_length] at this
        omega
      · rw [hrd]
        refine ⟨[], [], hst2, Or.inr hmr2, hl0, by simp, by rw [hlog, hH]; simp, by rw [kp.limit]; exact hlim,
          by rw [kp.same.together]; exact htg⟩
    · rw [mrRead_stale c rid (k + 1) hmr]
      exact ⟨wire, more, hst, hm, hl, hn, hH, hlim, htg⟩

end Helpers2

/-- C03 (abandonment): after opening a message and reading any part of it (or nothing, or all of
    it), the next NextReader returns the *following* message, complete and unmixed. -/
theorem abandon_then_next (c : Conn) (hc : ReaderIdle c) (t1 t2 : Nat) (ht1 : t1 = 1 ∨ t1 = 2) (ht2 : t2 = 1 ∨ t2 = 2)
    (fs1 fs2 : List PFrame) (hs1 : MsgShape t1 fs1) (hs2 : MsgShape t2 fs2) (rest : Bytes)
    (hp : c.r.buf.pending = encAll c.r.isServer fs1 ++ encAll c.r.isServer fs2 ++ rest)
    (hend : c.r.buf.t.together = false ∨ rest ≠ [])
    (hsz : (dataPayload fs1).length < 2 ^ 62 ∧ (dataPayload fs2).length < 2 ^ 62)
    (hlim : c.r.limit ≤ 0)
    (reads : List Nat) (k : Nat) (hk : 0 < k) :
    ∃ c1 rid1, nextReader c = (.msg t1 rid1 false, c1) ∧
      ∃ c3 rid2, nextReader (partialReads c1 rid1 reads) = (.msg t2 rid2 false, c3) ∧
        ∃ c4, readAll c3 rid2 k = ((dataPayload fs2, none), c4) ∧ ReaderIdle c4 ∧ c4.r.buf.pending = rest ∧
          c4.r.hlog = c.r.hlog ++ ctlEvents fs1 ++ ctlEvents fs2 := by
  have hp' : c.r.buf.pending = encAll c.r.isServer fs1 ++ (encAll c.r.isServer fs2 ++ rest) := by
    rw [hp, List.append_assoc]
  have hne := encAll_append_ne_nil (S := c.r.isServer) hs2 rest
  have hst := idle_St c hc fs1 _ hp' (Or.inr hne)
  obtain ⟨c1, rid1, w1, m1, hnr, ho, kp1, hpay1, hlog1⟩ := nextReader_spec c.r.isServer t1 ht1 _ c [] [] fs1 hst hs1
    (Or.inr hne) (by simp; omega) (Or.inl hlim)
  have hn : w1.length + (dataPayload m1).length ≤ (dataPayload fs1).length := by
    have := congrArg List.length hpay1
    simp only [List.length_append, unmask_length] at this
    omega
  have hab : Ab c.r.isServer rid1 (encAll c.r.isServer fs2 ++ rest) (c.r.hlog ++ ctlEvents fs1)
      (dataPayload fs1).length c.r.limit c.r.buf.t.together c1 :=
    ⟨w1, m1, ho.st, Or.inl ho.mr, ho.len, hn, by rw [hlog1]; simp, kp1.limit, kp1.same.together⟩
  obtain ⟨w, m, e1, e2, e3, e4, e5, e6, e7⟩ := partialReads_spec _ _ _ _ _ _ _ reads c1 hab
  have hst' := e1.at_c0
  have htog : (partialReads c1 rid1 reads).r.buf.t.together = false ∨ rest ≠ [] := by
    rw [e7]; exact hend
  obtain ⟨c3, rid2, h1, c4, h2, h3, h4, h5, _⟩ := open_and_read c.r.isServer t2 ht2 rest (partialReads c1 rid1 reads)
    w m fs2 hst' hs2 htog (by omega) (Or.inl (by rw [e6]; exact hlim)) k hk
  refine ⟨c1, rid1, hnr, c3, rid2, h1, c4, h2, h3, h4, ?_⟩
  rw [h5, e5]

end WS.ReaderDecodes
