import WS.Lemmas.PoolStepZ
/-
  C20 at the level of the write API (namespace `WS.PoolInvZ`, and `WS.PoolInv` for the two theorems about
  connections without permessage-deflate): every move of the write API keeps `ZInv` (`ZInv.move`), and `ZInv`
  gives `Inv`.  With permessage-deflate negotiated the statement needs the hypothesis that the compress/flate
  answers are consistent along the execution (`WireWF.EnvAdmissible`, as in C02's `wire_wellformed_partial`; real
  compress/flate always satisfies it).  Without negotiation no flate wrapper ever exists (`NoFlate`) and the
  hypothesis holds for every program.
-/
namespace WS.PoolInvZ
open WS WS.PoolInv WS.WFInv

/-- state after a successful beginMessage: nothing stored is live, but a buffer is held for the
    message writer about to be created -/
structure BegunZ (s : W) : Prop where
  cap : maxFrameHeaderSize < s.wbufLen
  hA : ∀ (h : Nat) (x : Handle), s.handles[h]? = some x → hix x < s.mws.length
  hN : NoLive s
  hT : BalTZ s

theorem ensureBuf_begunZ (s : W) (a : ZInv s) (hn : NoLive s) : BegunZ (ensureBuf s) := by
  have b := a.balF hn
  unfold ensureBuf
  rw [b.buf]
  dsimp only
  have hg := poolGet_balZ s b
  refine ⟨?_, ?_, ?_, hg.1⟩
  · rw [W.fixed_wbufLen (poolGet_fixed s)]; exact a.cap
  · rw [hg.2.2.1, hg.2.1]; exact a.hA
  · unfold NoLive; rw [hg.2.1]; exact hn

theorem BegunZ.register {s : W} {m : MW} {x : Handle} (bg : BegunZ s) (hm : m.err = none) (hx : Wr x s.mws.length) :
    ZInv (push s m x) := by
  refine ⟨bg.cap, ?_, ?_, ?_, ?_⟩
  · intro h y hy
    show hix y < (s.mws ++ [m]).length
    have hy' : (s.handles ++ [x])[h]? = some y := hy
    rcases getElem?_snoc_cases _ _ _ _ hy' with ⟨_, hy''⟩ | ⟨_, hy''⟩
    · have := bg.hA h y hy''
      simp; omega
    · rw [hy'', hx.idx]; simp
  · intro j mj hj ej
    have hj' : (s.mws ++ [m])[j]? = some mj := hj
    rcases getElem?_snoc_cases _ _ _ _ hj' with ⟨_, hj''⟩ | ⟨hjl, _⟩
    · exact absurd ej (bg.hN j mj hj'')
    · refine ⟨s.handles.length, x, rfl, ?_, ?_⟩
      · show (s.handles ++ [x])[s.handles.length]? = some x
        simp
      · rw [hjl]; exact hx
  · intro _
    exact ⟨bg.hT.pool, bg.hT.nil0, bg.hT.buf, bg.hT.cnt⟩
  · intro hall
    have : (s.mws ++ [m])[s.mws.length]? = some m := by simp
    exact absurd hm (hall s.mws.length m this)

/-- the fast path of WriteMessage: the local message writer always ends -/
theorem BegunZ.finish {s s' : W} {m m' : MW} (bg : BegunZ s) (hm : m.err = none) (st : StepZ s m s' m')
    (hd : m'.err ≠ none) : ZInv s' := by
  obtain ⟨hmws, hhs, hb⟩ := st.fin hm hd
  refine ZInv.of_noLive ?_ ?_ ?_ (hb bg.hT)
  · rw [st.wl]; exact bg.cap
  · rw [hhs, hmws]; exact bg.hA
  · unfold NoLive; rw [hmws]; exact bg.hN

theorem ZInv.move {s s' : W} (a : ZInv s) (mv : AnyMove s s') : ZInv s' := by
  induction mv with
  | refl s => exact a
  | trans _ _ ih1 ih2 => exact ih2 (ih1 a)
  | silent h => exact a.congr h.key h.fr.len
  | write s h p dn as _ _ => exact (a.hcall (hWrite_hcall s h p dn as trivial (fun _ _ => trivial))).1
  | readFrom s h r => exact (a.hcall (hReadFrom_hcall s h r)).1
  | close s h dn full _ henv => exact (hClose_invZ s h dn full a henv).1
  | closePrev s dnp fullp _ henv => exact (closePrev_invZ s dnp fullp a henv).1
  | register s t m x hw he ht hx =>
    have bg := ensureBuf_begunZ s a (a.noLive_of_noWriter hw)
    rcases hx with ⟨rfl, rfl⟩ | ⟨rfl, rfl, _, _⟩
    · exact bg.register rfl (Or.inl rfl)
    · exact bg.register rfl (Or.inr ⟨[], rfl⟩)
  | fast s t data hw he ht _ =>
    exact (ensureBuf_begunZ s a (a.noLive_of_noWriter hw)).finish (m := { ft := t.toNat, buf := _ }) rfl
      (flushFrame_run (ok := fun _ => True) _ _ _ _ rfl (Or.inr trivial)).step.stepZ (flushFrame_final_dead _ _ _)
  | ctl s ft d b _ => exact a.congr (connWrite_key ..) (W.fixed_wbufLen (connWrite_fixed ..))
  | data s ft d b _ _ => exact a.congr (connWrite_key ..) (W.fixed_wbufLen (connWrite_fixed ..))

theorem ZInv.inv {s : W} (a : ZInv s) : Inv s := by
  refine ⟨?_, ?_, ?_⟩
  · intro hb
    by_cases hl : ∃ (i : Nat) (m : MW), s.mws[i]? = some m ∧ m.err = none
    · exact absurd hb (a.hT hl).buf
    · exact (a.hF (fun i m hi he => hl ⟨i, m, hi, he⟩)).cnt
  · intro hb
    by_cases hl : ∃ (i : Nat) (m : MW), s.mws[i]? = some m ∧ m.err = none
    · refine ⟨(a.hT hl).cnt, ?_⟩
      obtain ⟨i, m, hi, he⟩ := hl
      exact ⟨m, List.mem_of_getElem? hi, he⟩
    · exact absurd (a.hF (fun i m hi he => hl ⟨i, m, hi, he⟩)).buf hb
  · intro i j mi mj hi hj ei ej
    exact a.uniq hi hj ei ej

theorem ZInv.nil0 {s : W} (a : ZInv s) : nilPuts s.log = 0 := by
  by_cases hl : ∃ (i : Nat) (m : MW), s.mws[i]? = some m ∧ m.err = none
  · exact (a.hT hl).nil0
  · exact (a.hF (fun i m hi he => hl ⟨i, m, hi, he⟩)).nil0

/-- a pooled connection as the constructor leaves it, compression negotiated or not -/
def FreshZ (s : W) : Prop :=
  s.pool = true ∧ s.bufRef = .nil ∧ s.writer = none ∧ s.mws = [] ∧ s.handles = [] ∧ s.log = [] ∧ s.writeErr = none ∧
  maxFrameHeaderSize < s.wbufLen

theorem ZInv.of_freshZ {s : W} (h : FreshZ s) : ZInv s := by
  obtain ⟨hp, hb, hw, hm, hh, hl, _, hc⟩ := h
  refine ZInv.of_noLive hc ?_ ?_ ⟨hp, ?_, hb, ?_⟩
  · intro h x hx; rw [hh] at hx; simp at hx
  · intro i m hi; rw [hm] at hi; simp at hi
  · rw [hl]; rfl
  · rw [hl]; rfl

theorem run_invZ (s : W) (ops : List Op) (a : ZInv s) (henv : WireWF.EnvAdmissible s ops) : ZInv (run s ops) := by
  induction ops generalizing s with
  | nil => exact a
  | cons op ops ih =>
    obtain ⟨e1, e2⟩ := henv
    unfold run
    exact ih _ (a.move (applyOp_anyMove s op e1)) e2

theorem pool_balance_z (s0 : W) (h0 : FreshZ s0) (ops : List Op) (henv : WireWF.EnvAdmissible s0 ops) :
    Inv (run s0 ops) :=
  (run_invZ s0 ops (ZInv.of_freshZ h0) henv).inv

theorem no_nil_put_z (s0 : W) (h0 : FreshZ s0) (ops : List Op) (henv : WireWF.EnvAdmissible s0 ops) :
    Ev.poolPut none ∉ (run s0 ops).log :=
  not_mem_of_nilPuts _ (run_invZ s0 ops (ZInv.of_freshZ h0) henv).nil0

def NoFlate (s : W) : Prop := s.nego = false ∧ ∀ (h : Nat) (x : Handle), s.handles[h]? = some x → ∃ i, x = .plain i

theorem NoFlate.of_fr {s s' : W} (nf : NoFlate s) (h : WFInv.Fr s s') : NoFlate s' := by
  unfold NoFlate; rw [h.nego, h.handles]; exact nf

theorem NoFlate.setMW {s : W} (nf : NoFlate s) (i : Nat) (m : MW) : NoFlate (setMW s i m) := nf

theorem NoFlate.not_flate {s : W} (nf : NoFlate s) {h i : Nat} {fo : Bool} {de : Option WErr} {sent : Bytes}
    (hh : s.handles[h]? = some (.flate i fo de sent)) : False := by
  obtain ⟨_, hx⟩ := nf.2 h _ hh
  cases hx

theorem NoFlate.closeEnvOK {s : W} (nf : NoFlate s) (h : Nat) (dn : List Bytes) (full : Bytes) :
    WFInv.CloseEnvOK s h dn full := fun _ _ hh => (nf.not_flate hh).elim

theorem NoFlate.hcall {cl : Bool} {s s' : W} {h : Nat} (nf : NoFlate s) (hc : HCall (fun _ => True) cl s h s') :
    NoFlate s' := by
  cases hc with
  | skip _ => exact nf
  | @mark x x' hh hx _ _ =>
    obtain ⟨i, rfl⟩ := nf.2 h x hh
    cases hx
  | @run x x' m1 s1 hh _ hp st _ =>
    obtain ⟨i, hx⟩ := nf.2 h x hh
    rw [hp i hx, setHandle_same (s := WS.setMW s1 _ m1) (show s1.handles[h]? = _ by rw [st.fr.handles]; exact hh)]
    exact (nf.of_fr st.fr).setMW _ _

theorem hClose_noFlate (s : W) (h : Nat) (dn : List Bytes) (full : Bytes) (nf : NoFlate s) :
    NoFlate (hClose s h dn full).2 :=
  nf.hcall (hClose_hcall s h dn full (fun _ _ => trivial) (nf.closeEnvOK h dn full)
    (fun _ _ hh => (nf.not_flate hh).elim))

theorem closePrev_noFlate (s : W) (dnp : List Bytes) (fullp : Bytes) (nf : NoFlate s) :
    NoFlate (closePrev s dnp fullp) := by
  unfold closePrev
  split
  · exact hClose_noFlate s _ dnp fullp nf
  · exact nf

theorem NoFlate.move {s s' : W} (nf : NoFlate s) (mv : AnyMove s s') : NoFlate s' := by
  induction mv with
  | refl s => exact nf
  | trans _ _ ih1 ih2 => exact ih2 (ih1 nf)
  | silent h => exact nf.of_fr h.fr
  | write s h p dn a _ _ => exact nf.hcall (hWrite_hcall s h p dn a trivial (fun _ _ => trivial))
  | readFrom s h r => exact nf.hcall (hReadFrom_hcall s h r)
  | close s h dn full _ _ => exact hClose_noFlate s h dn full nf
  | closePrev s dnp fullp _ _ => exact closePrev_noFlate s dnp fullp nf
  | register s t m x hw he ht hx =>
    -- without negotiation the new handle is a plain one
    have nb := nf.of_fr (.of_fixed (ensureBuf_fixed s))
    refine ⟨nb.1, fun h y hy => ?_⟩
    rcases getElem?_snoc_cases _ _ _ _ hy with ⟨_, hy'⟩ | ⟨_, hy'⟩
    · exact nb.2 h y hy'
    · rcases hx with ⟨_, rfl⟩ | ⟨_, _, hn, _⟩
      · exact ⟨_, hy'⟩
      · rw [nb.1] at hn; cases hn
  | fast s t data hw he ht _ => exact (nf.of_fr (.of_fixed (ensureBuf_fixed s))).of_fr (.of_fixed (flushFrame_fixed ..))
  | ctl s ft d b _ => exact nf.of_fr (.of_fixed (connWrite_fixed ..))
  | data s ft d b _ _ => exact nf.of_fr (.of_fixed (connWrite_fixed ..))

theorem NoFlate.envOK {s : W} (nf : NoFlate s) (op : Op) : WFInv.EnvOK s op := by
  cases op with
  | close h dn full => exact nf.closeEnvOK h dn full
  | nextWriter t dnp fullp => exact fun h _ => nf.closeEnvOK h dnp fullp
  | writeMessage t data dnp fullp dn full =>
    refine ⟨fun h _ => nf.closeEnvOK h dnp fullp, fun h s1 heq => ?_⟩
    have hn := nf.move (nextWriter_moves s t dnp fullp (fun _ _ => trivial) (fun h _ => nf.closeEnvOK h dnp fullp))
    rw [heq] at hn
    exact (hn.move (.write s1 h data dn false trivial (fun _ _ => trivial))).closeEnvOK h [] full
  | writeJSON enc dnp fullp dn full =>
    refine ⟨fun h _ => nf.closeEnvOK h dnp fullp, fun h s1 heq => ?_⟩
    have hn := nf.move (nextWriter_moves s 1 dnp fullp (fun _ _ => trivial) (fun h _ => nf.closeEnvOK h dnp fullp))
    rw [heq] at hn
    exact (hn.move (.write s1 h enc dn false trivial (fun _ _ => trivial))).closeEnvOK h [] full
  | writePrepared t img dnp fullp => exact fun _ h _ => nf.closeEnvOK h dnp fullp
  | write h p dn a => trivial
  | readFrom h r => trivial
  | writeControl t data d => trivial
  | setWriteDeadline d => trivial
  | enableWriteCompression b => trivial
  | setCompressionLevel l => trivial

theorem NoFlate.envAdmissible {s : W} (nf : NoFlate s) (ops : List Op) : WireWF.EnvAdmissible s ops := by
  induction ops generalizing s with
  | nil => trivial
  | cons op ops ih => exact ⟨nf.envOK op, ih (nf.move (applyOp_anyMove s op (nf.envOK op)))⟩

theorem freshZ_of_fresh {s : W} (h : Fresh s) : FreshZ s ∧ NoFlate s := by
  obtain ⟨hp, hn, hb, hw, hm, hh, hl, he, hc⟩ := h
  exact ⟨⟨hp, hb, hw, hm, hh, hl, he, hc⟩, hn, fun h x hx => by rw [hh] at hx; cases hx⟩

end WS.PoolInvZ

namespace WS.PoolInv
open WS.PoolInvZ

/-- C20 core: for every program, every fault script and every environment answer the pool bookkeeping is
    balanced, at most one message writer is live, and no buffer is held between messages. -/
theorem pool_balance (s0 : W) (h0 : Fresh s0) (ops : List Op) : Inv (run s0 ops) :=
  pool_balance_z s0 (freshZ_of_fresh h0).1 ops ((freshZ_of_fresh h0).2.envAdmissible ops)

/-- never a `put:nil`: the connection never hands the pool a buffer it does not hold -/
theorem no_nil_put (s0 : W) (h0 : Fresh s0) (ops : List Op) : Ev.poolPut none ∉ (run s0 ops).log :=
  no_nil_put_z s0 (freshZ_of_fresh h0).1 ops ((freshZ_of_fresh h0).2.envAdmissible ops)

end WS.PoolInv
