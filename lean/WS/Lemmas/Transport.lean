import WS.Lemmas.Writer
import WS.Lemmas.Footprint
import WS.Lemmas.Codec
/-
  What the calls below the handle layer do, once per operation (namespaces `WS`, `WS.KeyFlow`, `WS.WFInv`):
  `W.fixed`, the part of the connection none of them changes; `Tx`, the outcome of transport calls;
  `Wrote`, the outcome of `Conn.write` without sticky error (`connWrite_spec`, `frameWrite_spec`);
  `W.put`: these calls do not look at the message writers and handles either (`*_put`).
  Two things are called key: `PoolInv.key` (Footprint.lean), the pool bookkeeping, which these calls
  leave alone, and `KeyFlow.keyOf`, the `i`-th masking key of the key source, defined here because
  `frameWrite_spec` says which key a frame carries.
-/
namespace WS
open WS.PoolInv (key key_emit_swd key_emit_wr)

/-- The connection with everything erased that a call below the handle layer may change (sticky error,
    `c.writer`, transport ghosts, key position, pool bookkeeping). Two states with the same `fixed`
    agree on configuration, fault script, key bytes, settings, message writers and handles; a field is
    read off an equation `h : s'.fixed = s.fixed` as `congrArg W.mws h`. -/
def W.fixed (s : W) : W :=
  { s with writeErr := none, writer := none, bufRef := .nil, tcalls := 0, wire := [], log := [],
           keyIdx := 0, poolFree := [], nextBuf := 0 }

section
variable {s s' : W} (h : s'.fixed = s.fixed)
include h
theorem W.fixed_isServer : s'.isServer = s.isServer := (congrArg W.isServer h :)
theorem W.fixed_wbufLen : s'.wbufLen = s.wbufLen := (congrArg W.wbufLen h :)
theorem W.fixed_pool : s'.pool = s.pool := (congrArg W.pool h :)
theorem W.fixed_nego : s'.nego = s.nego := (congrArg W.nego h :)
theorem W.fixed_faults : s'.faults = s.faults := (congrArg W.faults h :)
theorem W.fixed_keys : s'.keys = s.keys := (congrArg W.keys h :)
theorem W.fixed_enableWC : s'.enableWC = s.enableWC := (congrArg W.enableWC h :)
theorem W.fixed_mws : s'.mws = s.mws := (congrArg W.mws h :)
theorem W.fixed_handles : s'.handles = s.handles := (congrArg W.handles h :)
end


@[simp] theorem writeFatal_fixed (s : W) (e : WErr) : (writeFatal s e).fixed = s.fixed := by
  unfold writeFatal; split <;> rfl

@[simp] theorem poolPut_fixed (s : W) : (poolPut s).fixed = s.fixed := by
  unfold poolPut; split <;> rfl

@[simp] theorem poolGet_fixed (s : W) : (poolGet s).fixed = s.fixed := by
  unfold poolGet; split <;> rfl

@[simp] theorem ensureBuf_fixed (s : W) : (ensureBuf s).fixed = s.fixed := by
  unfold ensureBuf; split
  · exact poolGet_fixed s
  · rfl

@[simp] theorem ctlKey_fixed (s : W) : (ctlKey s).2.fixed = s.fixed := by
  unfold ctlKey; split <;> rfl

@[simp] theorem endMessage_fixed (s : W) (m : MW) (e : WErr) : (endMessage s m e).1.fixed = s.fixed := by
  unfold endMessage
  split
  · rfl
  · dsimp only
    split
    · exact poolPut_fixed _
    · rfl

theorem endMessage_keyIdx (s : W) (m : MW) (e : WErr) : (endMessage s m e).1.keyIdx = s.keyIdx := by
  unfold endMessage poolPut
  split
  · rfl
  · dsimp only
    split
    · split <;> rfl
    · rfl

theorem ensureBuf_keyIdx (s : W) : (ensureBuf s).keyIdx = s.keyIdx := by
  unfold ensureBuf poolGet
  split
  · split <;> rfl
  · rfl

theorem writeFatal_of_none {s : W} (h : s.writeErr = none) (e : WErr) :
    writeFatal s e = { s with writeErr := some e } := by
  unfold writeFatal; rw [h]

theorem faults_of_lookup {s : W} {f : Fault} (h : lookupFault s = some f) : s.faults ≠ [] := by
  intro hn
  simp [lookupFault, hn] at h

/-- `r` is the outcome of transport calls that were to send `b`: the wire has grown by a prefix of `b`
    (by all of it if no error is reported), an error needs a fault script, and nothing but the
    transport ghosts (`wire`, `tcalls`, transport events in `log`) has changed. -/
structure Tx (s : W) (b : Bytes) (r : Option WErr × W) : Prop where
  fixed : r.2.fixed = s.fixed
  writeErr : r.2.writeErr = s.writeErr
  writer : r.2.writer = s.writer
  keyIdx : r.2.keyIdx = s.keyIdx
  sent : ∃ p q, p ++ q = b ∧ r.2.wire = s.wire ++ p ∧ (r.1 = none → q = [])
  fault : r.1.isSome → s.faults ≠ []
  key : key r.2 = key s

theorem tSetWD_tx (s : W) (d : Int) : Tx s [] (tSetWD s d) := by
  unfold tSetWD
  cases h : lookupFault s with
  | none =>
    exact ⟨rfl, rfl, rfl, rfl, ⟨[], [], rfl, (List.append_nil _).symm, fun _ => rfl⟩, nofun, (key_emit_swd _ _ _).trans rfl⟩
  | some f =>
    have hf := faults_of_lookup h
    cases f <;> exact ⟨rfl, rfl, rfl, rfl, ⟨[], [], rfl, (List.append_nil _).symm, fun _ => rfl⟩, fun _ => hf,
      (key_emit_swd _ _ _).trans rfl⟩

theorem tWrite_tx (s : W) (b : Bytes) : Tx s b (tWrite s b) := by
  unfold tWrite
  cases h : lookupFault s with
  | none => exact ⟨rfl, rfl, rfl, rfl, ⟨b, [], List.append_nil b, rfl, fun _ => rfl⟩, nofun, (key_emit_wr _ _ _ _).trans rfl⟩
  | some f =>
    have hf := faults_of_lookup h
    cases f with
    | fail id =>
      exact ⟨rfl, rfl, rfl, rfl, ⟨[], b, rfl, (List.append_nil _).symm, nofun⟩, fun _ => hf, (key_emit_wr _ _ _ _).trans rfl⟩
    | short n id =>
      exact ⟨rfl, rfl, rfl, rfl, ⟨b.take (min n b.length), b.drop (min n b.length), List.take_append_drop _ _, rfl, nofun⟩,
        fun _ => hf, (key_emit_wr _ _ _ _).trans rfl⟩

theorem Tx.stop {s : W} {a : Bytes} {r : Option WErr × W} (h : Tx s a r) (he : r.1.isSome) (b : Bytes) :
    Tx s (a ++ b) r := by
  obtain ⟨p, q, hpq, hw, _⟩ := h.sent
  refine ⟨h.fixed, h.writeErr, h.writer, h.keyIdx, ⟨p, q ++ b, by rw [← hpq, List.append_assoc], hw, fun hn => ?_⟩, h.fault,
    h.key⟩
  rw [hn] at he; cases he

theorem Tx.seq {s : W} {a b : Bytes} {r1 r2 : Option WErr × W} (h1 : Tx s a r1) (hn : r1.1 = none)
    (h2 : Tx r1.2 b r2) : Tx s (a ++ b) r2 := by
  obtain ⟨p, q, hpq, hw, hq⟩ := h1.sent
  obtain ⟨p2, q2, hpq2, hw2, hq2⟩ := h2.sent
  have hq := hq hn
  subst hq
  rw [List.append_nil] at hpq
  subst hpq
  refine ⟨h2.fixed.trans h1.fixed, h2.writeErr.trans h1.writeErr, h2.writer.trans h1.writer,
    h2.keyIdx.trans h1.keyIdx, ⟨p ++ p2, q2, by rw [← hpq2, List.append_assoc], ?_, hq2⟩, fun he => ?_,
    h2.key.trans h1.key⟩
  · rw [hw2, hw, List.append_assoc]
  · exact W.fixed_faults h1.fixed ▸ h2.fault he

theorem writeBufs_tx (s : W) (b0 b1 : Bytes) : Tx s (b0 ++ b1) (writeBufs s b0 b1) := by
  have h0 := tWrite_tx s b0
  unfold writeBufs
  split
  · rename_i h1
    rw [List.isEmpty_iff.mp h1, List.append_nil]
    exact h0
  · split
    · rename_i heq
      rw [heq] at h0
      exact h0.stop rfl b1
    · rename_i s1 heq
      rw [heq] at h0
      exact h0.seq rfl (tWrite_tx s1 b1)

/-- Outcome `r` of `Conn.write` of the bytes `f` (a frame, or a prepared image) on a connection
    without sticky error: as `Tx`, and the sticky error afterwards records the failure, or the close
    frame (`close`). -/
structure Wrote (s : W) (f : Bytes) (close : Bool) (r : Option WErr × W) : Prop where
  fixed : r.2.fixed = s.fixed
  writer : r.2.writer = s.writer
  sent : ∃ p q, p ++ q = f ∧ r.2.wire = s.wire ++ p ∧ (r.1 = none → q = [])
  ok : r.1 = none → r.2.writeErr = if close then some .closeSent else none
  err : ∀ e, r.1 = some e → r.2.writeErr = some e
  fault : r.1.isSome → s.faults ≠ []
  key : key r.2 = key s

/-- a key draw only advances `keyIdx` -/
theorem Wrote.of_newKey {s : W} {f : Bytes} {c : Bool} {r : Option WErr × W} (h : Wrote (newKey s).2 f c r) :
    Wrote s f c r := ⟨h.fixed, h.writer, h.sent, h.ok, h.err, h.fault, h.key⟩

theorem Tx.fatal {s s1 : W} {b : Bytes} {e : WErr} (h : Tx s b (some e, s1)) (he : s.writeErr = none)
    (c : Bytes) (close : Bool) : Wrote s (b ++ c) close (some e, writeFatal s1 e) := by
  have h1 : s1.writeErr = none := h.writeErr.trans he
  have h := h.stop rfl c
  rw [writeFatal_of_none h1]
  exact ⟨h.fixed, h.writer, h.sent, nofun, fun _ h => Option.some.inj h ▸ rfl,
    h.fault, h.key⟩

theorem Tx.done {s s1 : W} {b : Bytes} (h : Tx s b (none, s1)) (he : s.writeErr = none) (close : Bool) :
    Wrote s b close (none, if close then writeFatal s1 .closeSent else s1) := by
  have h1 : s1.writeErr = none := h.writeErr.trans he
  cases close with
  | false => exact ⟨h.fixed, h.writer, h.sent, fun _ => h1, nofun, h.fault, h.key⟩
  | true =>
    rw [if_pos rfl, writeFatal_of_none h1]
    exact ⟨h.fixed, h.writer, h.sent, fun _ => rfl, nofun, h.fault, h.key⟩

theorem writeFatal_keyIdx (s : W) (e : WErr) : (writeFatal s e).keyIdx = s.keyIdx := by
  unfold writeFatal; split <;> rfl

theorem connWrite_spec (s : W) (ft d : Int) (b0 b1 : Bytes) (he : s.writeErr = none) :
    Wrote s (b0 ++ b1) (ft == 8) (connWrite s ft d b0 b1) ∧ (connWrite s ft d b0 b1).2.keyIdx = s.keyIdx := by
  have h1 := tSetWD_tx s d
  unfold connWrite
  rw [he]
  dsimp only
  split
  · rename_i e s1 heq
    rw [heq] at h1
    exact ⟨h1.fatal he _ _, (writeFatal_keyIdx s1 e).trans h1.keyIdx⟩
  · rename_i s1 heq
    rw [heq] at h1
    have h2 := h1.seq rfl (writeBufs_tx s1 b0 b1)
    split
    · rename_i e s2 heq2
      rw [heq2] at h2
      have := h2.fatal he [] (ft == 8)
      rw [List.append_nil] at this
      exact ⟨this, (writeFatal_keyIdx s2 e).trans h2.keyIdx⟩
    · rename_i s2 heq2
      rw [heq2] at h2
      refine ⟨h2.done he _, ?_⟩
      dsimp only
      split
      · exact (writeFatal_keyIdx s2 _).trans h2.keyIdx
      · exact h2.keyIdx

@[simp] theorem connWrite_fixed (s : W) (ft d : Int) (b0 b1 : Bytes) : (connWrite s ft d b0 b1).2.fixed = s.fixed := by
  cases he : s.writeErr with
  | none => exact (connWrite_spec s ft d b0 b1 he).1.fixed
  | some e => rw [connWrite_of_err s ft d b0 b1 e he]

theorem connWrite_key (s : W) (ft d : Int) (b0 b1 : Bytes) : key (connWrite s ft d b0 b1).2 = key s := by
  cases he : s.writeErr with
  | none => exact (connWrite_spec s ft d b0 b1 he).1.key
  | some e => rw [connWrite_of_err s ft d b0 b1 e he]

theorem writeFatal_key (s : W) (e : WErr) : key (writeFatal s e) = key s := by
  unfold writeFatal; split <;> rfl

end WS

namespace WS.KeyFlow

/-- the `i`-th draw from a key source -/
def keyOf (keys : Bytes) (i : Nat) : Key :=
  match Key.ofBytes ((keys.drop (4 * (if keys.length / 4 = 0 then 0 else i % (keys.length / 4)))).take 4) with
  | some k => k
  | none => default

theorem newKey_fst (s : W) : (newKey s).1 = keyOf s.keys s.keyIdx := rfl

end WS.KeyFlow

namespace WS
open WS.Codec WS.KeyFlow
open WS.PoolInv (key)

theorem frameWrite_bytes (sv : Bool) (b0 : Nat) (k : Key) (buf extra : Bytes) (hx : sv = true ∨ extra = []) :
    (if sv then header true b0 (buf.length + extra.length) default ++ buf
      else header false b0 (buf.length + extra.length) k ++ maskFrom k 0 buf) ++ extra =
    encode sv b0 k (buf ++ extra) := by
  cases sv with
  | true => simp [encode, header]
  | false =>
    have : extra = [] := hx.resolve_left (by simp)
    subst this
    simp [encode]

/-- The model's `maskFrom` stands for conn.go's call of `maskBytes`; that the two agree is
    `MaskTrunc.mask_words_eq_bytes`. -/
theorem frameWrite_spec (s : W) (m : MW) (final : Bool) (extra : Bytes) (he : s.writeErr = none)
    (hx : s.isServer = true ∨ extra = []) :
    Wrote s (encode s.isServer (m.ft + (if final then 128 else 0) + (if m.compress then 64 else 0))
        (keyOf s.keys s.keyIdx) (m.buf ++ extra)) ((m.ft : Int) == 8) (frameWrite s m final extra) ∧
    (frameWrite s m final extra).2.keyIdx = s.keyIdx + (if s.isServer then 0 else 1) := by
  have h1 : Gen.finalBit.toNat = 128 := by decide
  have h2 : Gen.rsv1Bit.toNat = 64 := by decide
  have hb := frameWrite_bytes s.isServer (m.ft + (if final then 128 else 0) + (if m.compress then 64 else 0))
    (keyOf s.keys s.keyIdx) m.buf extra hx
  unfold frameWrite
  rw [h1, h2]
  cases hsv : s.isServer with
  | true =>
    rw [hsv] at hb
    simp only [↓reduceIte] at hb ⊢
    rw [← hb]
    exact connWrite_spec s m.ft s.deadline _ extra he
  | false =>
    have hex : extra = [] := hx.resolve_left (by simp [hsv])
    subst hex
    rw [hsv] at hb
    simp only [Bool.false_eq_true, ↓reduceIte, List.isEmpty_nil, Bool.not_true] at hb ⊢
    rw [← hb]
    exact And.imp Wrote.of_newKey id (connWrite_spec (newKey s).2 m.ft s.deadline _ [] he)

@[simp] theorem frameWrite_fixed (s : W) (m : MW) (final : Bool) (extra : Bytes) :
    (frameWrite s m final extra).2.fixed = s.fixed := by
  obtain ⟨b, f, h⟩ := frameWrite_eq m final extra
  rw [h]
  split
  · exact connWrite_fixed ..
  · split
    · exact writeFatal_fixed ..
    · exact connWrite_fixed ..

theorem frameWrite_key (s : W) (m : MW) (final : Bool) (extra : Bytes) :
    key (frameWrite s m final extra).2 = key s := by
  obtain ⟨b, f, h⟩ := frameWrite_eq m final extra
  rw [h]
  split
  · exact connWrite_key ..
  · split
    · exact writeFatal_key ..
    · exact connWrite_key ..

theorem fixedInv (c : W) : MWInv (fun _ => True) (fun s _ => s.fixed = c) :=
  .ofState (fun s m final extra h => (frameWrite_fixed s m final extra).trans h)
    (fun s m e h => (endMessage_fixed s m e).trans h)

@[simp] theorem flushFrame_fixed (s : W) (m : MW) (final : Bool) (extra : Bytes) :
    (flushFrame s m final extra).2.1.fixed = s.fixed := (fixedInv s.fixed).flushFrame final rfl trivial

@[simp] theorem mwWrite_fixed (s : W) (m : MW) (p : Bytes) : (mwWrite s m p).2.1.fixed = s.fixed :=
  (fixedInv s.fixed).mwWrite p rfl trivial

@[simp] theorem mwWriteString_fixed (s : W) (m : MW) (p : Bytes) : (mwWriteString s m p).2.1.fixed = s.fixed :=
  (fixedInv s.fixed).mwWriteString p rfl

@[simp] theorem mwReadFrom_fixed (s : W) (m : MW) (r : Src) : (mwReadFrom s m r).2.1.fixed = s.fixed :=
  (fixedInv s.fixed).mwReadFrom r rfl

@[simp] theorem mwClose_fixed (s : W) (m : MW) : (mwClose s m).2.1.fixed = s.fixed :=
  (fixedInv s.fixed).mwClose rfl

@[simp] theorem feed_fixed (s : W) (m : MW) (cs : List Bytes) : (feed s m cs).2.1.fixed = s.fixed :=
  (fixedInv s.fixed).feed cs rfl (fun _ _ => trivial)

@[simp] theorem writeControl_fixed (s : W) (t : Int) (data : Bytes) (d : Int) :
    (writeControl s t data d).2.fixed = s.fixed := by
  unfold writeControl
  split
  · rfl
  · split
    · rfl
    · dsimp only
      split
      · exact ctlKey_fixed s
      · exact (connWrite_fixed ..).trans (ctlKey_fixed s)

namespace WFInv

theorem Fr.of_fixed {s s' : W} (h : s'.fixed = s.fixed) : Fr s s' :=
  ⟨W.fixed_isServer h, W.fixed_nego h, W.fixed_wbufLen h, W.fixed_faults h, W.fixed_mws h, W.fixed_handles h⟩

theorem poolGet_fr (s : W) : Fr s (poolGet s) ∧ (poolGet s).wire = s.wire ∧
    (poolGet s).writeErr = s.writeErr ∧ (poolGet s).writer = s.writer := by
  refine ⟨.of_fixed (poolGet_fixed s), core_wire (poolGet_core s), core_writeErr (poolGet_core s), ?_⟩
  unfold poolGet
  split <;> rfl

end WFInv

theorem MWStep.fixed {ok : Bytes → Prop} {s s' : W} {m m' : MW} (st : MWStep ok s m s' m') : s'.fixed = s.fixed := by
  induction st with
  | refl s m => rfl
  | buf s m chunk _ _ => rfl
  | flush s m final extra _ _ => exact flushFrame_fixed s m final extra
  | trans _ _ ih1 ih2 => exact ih2.trans ih1

theorem MWStep.fr {ok : Bytes → Prop} {s s' : W} {m m' : MW} (st : MWStep ok s m s' m') : WFInv.Fr s s' :=
  .of_fixed st.fixed

theorem MWRun.err' {ok : Bytes → Prop} {s : W} {m : MW} {r : Option WErr × W × MW} (run : MWRun ok s m r)
    (hc : 0 < s.cap) : r.1 ≠ none → r.2.2.err ≠ none :=
  run.err (by rw [run.step.fr.cap]; exact hc)

/-! ### the calls below the handle layer neither read nor write `mws` and `handles` -/

/-- `s` with `mws` and `handles` replaced; the `*_put` lemmas say that a call below the handle layer commutes with it,
    so a step made on the stored copy of a message writer can be stored back afterwards -/
def W.put (s : W) (a : List MW) (b : List Handle) : W := { s with mws := a, handles := b }

section
variable (s : W) (a : List MW) (b : List Handle)

theorem writeFatal_put (e : WErr) : writeFatal (s.put a b) e = (writeFatal s e).put a b := by
  unfold writeFatal
  dsimp only [W.put]
  split <;> rfl

theorem tSetWD_put (d : Int) : tSetWD (s.put a b) d = ((tSetWD s d).1, (tSetWD s d).2.put a b) := by
  unfold tSetWD
  dsimp only [W.put, lookupFault]
  split <;> rfl

theorem tWrite_put (x : Bytes) : tWrite (s.put a b) x = ((tWrite s x).1, (tWrite s x).2.put a b) := by
  unfold tWrite
  dsimp only [W.put, lookupFault]
  split <;> rfl

theorem writeBufs_put (x y : Bytes) :
    writeBufs (s.put a b) x y = ((writeBufs s x y).1, (writeBufs s x y).2.put a b) := by
  unfold writeBufs
  rw [tWrite_put]
  split
  · rfl
  · cases tWrite s x with
    | mk e s1 => cases e <;> simp only [tWrite_put]

theorem connWrite_put (ft d : Int) (x y : Bytes) :
    connWrite (s.put a b) ft d x y = ((connWrite s ft d x y).1, (connWrite s ft d x y).2.put a b) := by
  unfold connWrite
  rw [tSetWD_put, show (s.put a b).writeErr = s.writeErr from rfl]
  split
  · rfl
  · cases tSetWD s d with
    | mk e s1 =>
      cases e with
      | some e => exact congrArg (Prod.mk _) (writeFatal_put s1 a b e)
      | none =>
        dsimp only
        rw [writeBufs_put]
        cases writeBufs s1 x y with
        | mk e s2 =>
          cases e with
          | some e => exact congrArg (Prod.mk _) (writeFatal_put s2 a b e)
          | none =>
            dsimp only
            split
            · exact congrArg (Prod.mk _) (writeFatal_put s2 a b _)
            · rfl

theorem frameWrite_put (m : MW) (final : Bool) (extra : Bytes) :
    frameWrite (s.put a b) m final extra =
      ((frameWrite s m final extra).1, (frameWrite s m final extra).2.put a b) := by
  obtain ⟨b0, f, h⟩ := frameWrite_eq m final extra
  rw [h, h, show (s.put a b).isServer = s.isServer from rfl]
  split
  · exact connWrite_put ..
  · split
    · exact congrArg (Prod.mk _) (writeFatal_put (newKey s).2 a b _)
    · exact connWrite_put (newKey s).2 a b ..

theorem poolPut_put : poolPut (s.put a b) = (poolPut s).put a b := by
  unfold poolPut
  dsimp only [W.put]
  split <;> rfl

theorem endMessage_put (m : MW) (e : WErr) :
    endMessage (s.put a b) m e = ((endMessage s m e).1.put a b, (endMessage s m e).2) := by
  unfold endMessage
  split
  · rfl
  · show (if s.pool = true then poolPut (W.put { s with writer := none } a b)
        else W.put { s with writer := none } a b, _) = _
    dsimp only
    split
    · rw [poolPut_put]
    · rfl

theorem flushFrame_put (m : MW) (final : Bool) (extra : Bytes) :
    flushFrame (s.put a b) m final extra =
      ((flushFrame s m final extra).1, (flushFrame s m final extra).2.1.put a b,
        (flushFrame s m final extra).2.2) := by
  unfold flushFrame
  rw [frameWrite_put]
  split
  · rw [endMessage_put]
  · cases frameWrite s m final extra with
    | mk e s1 =>
      cases e with
      | some e => dsimp only; rw [endMessage_put]
      | none =>
        dsimp only
        split
        · rw [endMessage_put]
        · rfl

theorem mwClose_put (m : MW) :
    mwClose (s.put a b) m = ((mwClose s m).1, (mwClose s m).2.1.put a b, (mwClose s m).2.2) := by
  unfold mwClose
  split
  · rfl
  · exact flushFrame_put ..

/-- `Close` of a messageWriter after its copy was stored and a handle replaced: as if the two had come after it -/
theorem mwClose_stored (i h : Nat) (m : MW) (x : Handle) :
    setMW (mwClose (setHandle (setMW s i m) h x) m).2.1 i (mwClose (setHandle (setMW s i m) h x) m).2.2 =
      setHandle (setMW (mwClose s m).2.1 i (mwClose s m).2.2) h x := by
  rw [show setHandle (setMW s i m) h x = s.put (s.mws.set i m) (s.handles.set h x) from rfl, mwClose_put]
  show W.put _ ((s.mws.set i m).set i _) (s.handles.set h x) =
    W.put _ ((mwClose s m).2.1.mws.set i _) ((mwClose s m).2.1.handles.set h x)
  rw [List.set_set, W.fixed_mws (mwClose_fixed s m), W.fixed_handles (mwClose_fixed s m)]
  rfl

end

end WS
