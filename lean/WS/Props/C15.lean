import WS.Lemmas.Agree
import WS.Lemmas.HttpLogic
import WS.Lemmas.HdrLogic
import WS.Gen.Tables
import WS.Lemmas.CompressedWrite
/-
  C15 — Both endpoints always agree on whether compression is in use.
-/
namespace WS.Props.C15
open WS WS.Http WS.Server WS.Client WS.HttpLogic

/-- server_any_offer: for every offer, the server compresses iff it is enabled and an extension named
    permessage-deflate was offered -/
theorem server_any_offer (u : UCfg) (r : Req) (rh : RespHdr) (oh : Option Bytes) (hj : Hijack) (b : Bytes) (a : Accepted)
    (h : upgrade u r rh oh hj = .ok (b, a)) :
    a.compress = (u.enableCompression &&
      (parseExtensions (r.values "Sec-Websocket-Extensions")).any (fun e => e.name == strBytes "permessage-deflate")) :=
  HttpLogic.deflate_announced_iff u r rh oh hj b a h

/-- client_any_reply: the client compresses iff the reply carries permessage-deflate (both parameters being required for acceptance: C14.dial_iff) -/
theorem client_any_reply (key : Bytes) (r : Reply) (d : Dialed) (h : checkReply key r = .ok d) :
    d.compress = ((parseExtensions (r.values "Sec-Websocket-Extensions")).any (fun e => e.name == strBytes "permessage-deflate")) :=
  HttpLogic.client_any_reply key r d h

/-- pair_agrees, evaluated on the literals of today's source: what the Dialer offers makes an enabled Upgrader compress … -/
theorem offer_literal_negotiates :
    (parseExtensions [strBytes "permessage-deflate; server_no_context_takeover; client_no_context_takeover"]).any
      (fun e => e.name == strBytes "permessage-deflate") = true :=
  HttpLogic.offer_literal_negotiates 

/-- … and what the Upgrader announces makes the Dialer compress -/
theorem announce_literal_accepted :
    ((parseExtensions [strBytes "permessage-deflate; server_no_context_takeover; client_no_context_takeover"]).find?
        (fun e => e.name == strBytes "permessage-deflate")).map
      (fun e => e.has (strBytes "server_no_context_takeover") && e.has (strBytes "client_no_context_takeover")) = some true :=
  HttpLogic.announce_literal_accepted 

/-- the offer and the announcement found in today's client.go / server.go are those literals -/
theorem literals_as_modelled :
    strBytes "permessage-deflate; server_no_context_takeover; client_no_context_takeover" ∈ Gen.lits_Dialer_DialContext ∧
    strBytes "Sec-WebSocket-Extensions: permessage-deflate; server_no_context_takeover; client_no_context_takeover\r\n" ∈ Gen.lits_Upgrader_Upgrade := by
  constructor <;> rw [strBytes_ofList] <;> decide +kernel

/-- rsv1_iff_decompressor: the reader treats RSV1 as a framing violation exactly when compression was
    not negotiated -/
theorem rsv1_iff_decompressor (isServer final : Bool) (h : Hdr) (hr : h.rsv1 = true)
    (hrest : ¬ HdrLogic.Violates isServer true (!final) h) :
    (headerErrors isServer false final h ≠ []) ∧ (headerErrors isServer true final h = []) := by
  constructor
  · intro hn
    have := (HdrLogic.headerErrors_nil_iff isServer false final h).mp hn
    apply this
    unfold HdrLogic.Violates
    right; right; left  -- third clause of `Violates`: RSV1 set without negotiated compression
    exact ⟨hr, rfl⟩
  · exact (HdrLogic.headerErrors_nil_iff isServer true final h).mpr hrest

open WS.Content WS.CompressedWrite
/-- toggle_safe (compression on): with permessage-deflate negotiated and write compression enabled a
    data message goes out as exactly one RSV1 message whose payload is the deflate stream minus its
    4-byte tail, however flate chunks its output and whatever the buffer size … -/
theorem compressed_message_roundtrip (s : W) (hi : IdleZ s) (t : Nat) (ht : t = 1 ∨ t = 2)
    (writes : List (Bytes × List Bytes)) (dnC : List Bytes) (full : Bytes)
    (hsz : ∀ w ∈ writes, ∀ c ∈ w.2, c.length < 2 ^ 40) (hszC : ∀ c ∈ dnC, c.length < 2 ^ 40)
    (htail : 4 ≤ full.length ∧ full.drop (full.length - 4) = sync4)
    (hcons : pushed writes dnC = full.take (full.length - 4)) :
    let s' := run s (zOps s t writes dnC full)
    IdleZ s' ∧
    wireMessages s' = wireMessages s ++ [⟨t, true, full.take (full.length - 4)⟩] ∧
    wireControls s' = wireControls s :=
  CompressedWrite.compressed_message_roundtrip s hi t ht writes dnC full hsz hszC htail hcons

/-- … and after EnableWriteCompression(false) the same connection sends the next message plain: every
    message is either plain or RSV1 + deflate, both of which a negotiated peer accepts -/
theorem toggle_safe_off (s : W) (hi : IdleZ s) (t : Nat) (ht : t = 1 ∨ t = 2) (data : Bytes) (hd : data.length < 2 ^ 40) :
    let s1 := enableWriteCompression s false
    (writeMessage s1 t data).1 = none ∧
    wireMessages (writeMessage s1 t data).2 = wireMessages s ++ [⟨t, false, data⟩] :=
  CompressedWrite.toggled_off_message_plain s hi t ht data hd

open WS.Agree in
/-- both_or_neither (the property's first sentence): whenever the Dialer's request is upgraded, the
    server side compresses exactly when both sides enabled compression, and the Dialer accepts the 101
    with the same setting — for every pair of EnableCompression values, subprotocol lists, URLs and
    keys. net/http is the carrier (environment): `reqOf` / `replyOf` say header fields arrive under
    canonical names; `reply_is_what_the_101_says` ties `replyOf` to the bytes actually written. -/
theorem both_or_neither (d : DCfg) (u : UCfg) (url : Url) (key host : Bytes) (h : Client.Hdr)
    (oh : Option Bytes) (hj : Hijack) (bytes : Bytes) (a : Accepted)
    (hb : buildRequest d url key [] = .ok (host, h))
    (hu : upgrade u (reqOf host h) none oh hj = .ok (bytes, a)) :
    a.compress = (d.enableCompression && u.enableCompression) ∧
    ∃ dl, checkReply key (replyOf a (Spec.acceptKey Gen.keyGUID key)) = .ok dl ∧ dl.compress = a.compress :=
  Agree.both_or_neither d u url key host h oh hj bytes a hb hu

open WS.Agree in
/-- … and the handshake does succeed (ws/wss URL without userinfo, valid key, hijack possible) -/
theorem handshake_succeeds (d : DCfg) (u : UCfg) (url : Url) (key : Bytes) (oh : Option Bytes) (hj : Hijack)
    (hs : url.scheme = strBytes "ws" ∨ url.scheme = strBytes "wss") (hnu : url.hasUser = false)
    (hk : isValidChallengeKey key = true) (hjok : hj.ok = true) (hco : u.checkOrigin = none ∨ u.checkOrigin = some true) :
    ∃ host h bytes a, buildRequest d url key [] = .ok (host, h) ∧ upgrade u (reqOf host h) none oh hj = .ok (bytes, a) :=
  Agree.handshake_succeeds d u url key oh hj hs hnu hk hjok hco

open WS.Agree in
theorem reply_is_what_the_101_says (u : UCfg) (r : Req) (oh : Option Bytes) (hj : Hijack) (bytes : Bytes) (a : Accepted)
    (hu : upgrade u r none oh hj = .ok (bytes, a)) :
    ∃ names : List Bytes,
      names.map canonicalKey = (replyOf a (Spec.acceptKey Gen.keyGUID (r.get "Sec-Websocket-Key"))).hdr.map (·.1) ∧
      a.lines = strBytes "HTTP/1.1 101 Switching Protocols" ::
        (names.zip (replyOf a (Spec.acceptKey Gen.keyGUID (r.get "Sec-Websocket-Key"))).hdr).map
          (fun p => p.1 ++ strBytes ": " ++ p.2.2.headD []) :=
  Agree.replyOf_renders u r oh hj bytes a hu


section NonVacuity
set_option linter.defProp false

/-- a client connection, write buffer 4096, permessage-deflate negotiated, write compression enabled
    (the default), one masking key available -/
def witZ : W := { newW false 4096 false true with keys := [0x37, 0xfa, 0x21, 0x3d] }

/-- witness for `compressed_message_roundtrip` / `toggle_safe_off`: the fresh negotiated client is `IdleZ` -/
def witZ_idle : IdleZ witZ :=
  { healthy := rfl, noFaults := rfl, noWriter := rfl
    dead := by intro m h; cases h
    size := by decide
    whole := ⟨[], rfl, rfl⟩
    nego := rfl, enabled := rfl }

/-- "Hel" ++ "lo" written in two calls; flate pushes the RFC 7692 §7.2.3.1 deflate stream of "Hello"
    (f2 48 cd c9 c9 07 00) downstream in four chunks: one during each Write, two during Close -/
def witWrites : List (Bytes × List Bytes) :=
  [([0x48, 0x65, 0x6c], [[0xf2, 0x48]]), ([0x6c, 0x6f], [[0xcd]])]
def witDnC : List Bytes := [[0xc9, 0xc9], [0x07, 0x00]]
/-- the complete deflate stream: pushed bytes ++ 00 00 ff ff -/
def witFull : Bytes := [0xf2, 0x48, 0xcd, 0xc9, 0xc9, 0x07, 0x00, 0x00, 0x00, 0xff, 0xff]

def witWrites_sz : ∀ w ∈ witWrites, ∀ c ∈ w.2, c.length < 2 ^ 40 := by decide
def witDnC_sz : ∀ c ∈ witDnC, c.length < 2 ^ 40 := by decide
def witFull_tail : 4 ≤ witFull.length ∧ witFull.drop (witFull.length - 4) = sync4 := by decide
def witFull_cons : pushed witWrites witDnC = witFull.take (witFull.length - 4) := by decide

/-- non-vacuity of `compressed_message_roundtrip`: all hypotheses hold for a client (buffer 4096,
    compression negotiated) writing the text message "Hello" in two pieces with flate's output in four
    chunks, and the theorem applies -/
example :
    let s' := run witZ (zOps witZ 1 witWrites witDnC witFull)
    IdleZ s' ∧
    wireMessages s' = wireMessages witZ ++ [⟨1, true, witFull.take (witFull.length - 4)⟩] ∧
    wireControls s' = wireControls witZ :=
  compressed_message_roundtrip witZ witZ_idle 1 (Or.inl rfl) witWrites witDnC witFull
    witWrites_sz witDnC_sz witFull_tail witFull_cons

/-- … and the wire of that run really is one masked FIN+RSV1 text frame of 7 bytes -/
example : (run witZ (zOps witZ 1 witWrites witDnC witFull)).wire =
    [0xc1, 0x87, 0x37, 0xfa, 0x21, 0x3d, 197, 178, 236, 244, 254, 253, 33] := by decide +kernel

/-- the first two bytes of that frame as the peer's reader parses them: FIN, RSV1, text, masked, len 7 -/
def witHdr : Hdr := parseHdr 0xc1 0x87
def witHdr_rsv1 : witHdr.rsv1 = true := by decide
/-- a server reader between messages (`final = true`) with compression negotiated has no objection -/
def witHdr_rest : ¬ HdrLogic.Violates true true (!true) witHdr := by unfold HdrLogic.Violates; decide

/-- non-vacuity of `rsv1_iff_decompressor`: the header c1 87 (what the client above put on the wire)
    read by an idle server reader satisfies both hypotheses, and the theorem applies -/
example : (headerErrors true false true witHdr ≠ []) ∧ (headerErrors true true true witHdr = []) :=
  rsv1_iff_decompressor true true witHdr witHdr_rsv1 witHdr_rest

def witData : Bytes := strBytes "Hello, plain world"

/-- non-vacuity of `toggle_safe_off`: the same negotiated client (buffer 4096), after
    EnableWriteCompression(false), sends an 18-byte text message -/
example :
    let s1 := enableWriteCompression witZ false
    (writeMessage s1 1 witData).1 = none ∧
    wireMessages (writeMessage s1 1 witData).2 = wireMessages witZ ++ [⟨1, false, witData⟩] :=
  toggle_safe_off witZ witZ_idle 1 (Or.inl rfl) witData (by decide +kernel)

/-- the RFC 6455 §1.3 sample key and the literal offer / announcement of today's client.go / server.go -/
def witKey : Bytes := strBytes "dGhlIHNhbXBsZSBub25jZQ=="
def witOffer : Bytes := strBytes "permessage-deflate; server_no_context_takeover; client_no_context_takeover"

/-- the RFC 6455 §1.3 opening handshake (canonical header keys) plus the Dialer's compression offer -/
def witReq : Req :=
  { method := strBytes "GET", host := strBytes "server.example.com"
    hdr := [(strBytes "Upgrade", [strBytes "websocket"]),
            (strBytes "Connection", [strBytes "Upgrade"]),
            (strBytes "Sec-Websocket-Key", [witKey]),
            (strBytes "Origin", [strBytes "http://server.example.com"]),
            (strBytes "Sec-Websocket-Version", [strBytes "13"]),
            (strBytes "Sec-Websocket-Extensions", [witOffer])] }
/-- an Upgrader with EnableCompression, default origin policy, 4096-byte buffers -/
def witU : UCfg :=
  { subprotocols := none, enableCompression := true, checkOrigin := none, readBufferSize := 4096,
    writeBufferSize := 4096, pool := false, handshakeTimeout := false }
def witHj : Hijack := { ok := true, brSize := 4096, buffered := 0, availLen := 4096 }

/-- witness for `server_any_offer`: Upgrade accepts that request (every condition of the chain holds;
    the 101 bytes contain the SHA-1 accept token and are left unevaluated) -/
def witUp_ok : ∃ p, upgrade witU witReq none (some (strBytes "server.example.com")) witHj = .ok p :=
  (HttpLogic.upgrade_ok_iff witU witReq none (some (strBytes "server.example.com")) witHj).mpr (by decide +kernel)

/-- non-vacuity of `server_any_offer`: the hypothesis holds for the RFC sample request with the Dialer's
    offer against an Upgrader with compression enabled, and the theorem shows that it compresses -/
example : ∃ b a, upgrade witU witReq none (some (strBytes "server.example.com")) witHj = .ok (b, a) ∧
    a.compress = true := by
  obtain ⟨⟨b, a⟩, h⟩ := witUp_ok
  refine ⟨b, a, h, ?_⟩
  rw [server_any_offer _ _ _ _ _ _ _ h]
  decide +kernel

/-- the server's 101 for that key, as the client sees it: RFC 6455 §1.3 accept token + the announcement -/
def witReply : Reply :=
  { status := 101
    hdr := [(strBytes "Upgrade", [strBytes "websocket"]),
            (strBytes "Connection", [strBytes "Upgrade"]),
            (strBytes "Sec-Websocket-Accept", [strBytes "s3pPLMBiTxaQ9kYGzzhZRbK+xOo="]),
            (strBytes "Sec-Websocket-Extensions", [witOffer])] }

/-- Boolean test "x = .ok d" (`Except` has no `DecidableEq` instance) -/
def witOkIs (x : Except DErr Dialed) (d : Dialed) : Bool :=
  match x with | .ok d' => d' == d | .error _ => false
def witOkIs_sound {x : Except DErr Dialed} {d : Dialed} (h : witOkIs x d = true) : x = .ok d := by
  cases x <;> simp_all [witOkIs]

/-- witness for `client_any_reply`: the client accepts that reply for the sample key (the kernel
    evaluates SHA-1 + base64 here) -/
def witReply_ok : checkReply witKey witReply = .ok { compress := true, subprotocol := [] } :=
  witOkIs_sound (by decide +kernel)

/-- non-vacuity of `client_any_reply`: the hypothesis holds for the RFC 6455 sample key / accept pair
    with permessage-deflate announced, and the theorem applies -/
example : ({ compress := true, subprotocol := [] } : Dialed).compress =
    ((parseExtensions (witReply.values "Sec-Websocket-Extensions")).any (fun e => e.name == strBytes "permessage-deflate")) :=
  client_any_reply witKey witReply _ witReply_ok


/-! #### Dialer × Upgrader composed (`both_or_neither`, `handshake_succeeds`, `reply_is_what_the_101_says`) -/

open WS.Agree

/-- ws://example.com -/
def witUrl : Url := { scheme := strBytes "ws", host := strBytes "example.com", hasUser := false }
/-- Dialers asking for subprotocol "chat", with / without EnableCompression -/
def witDOn : DCfg := { subprotocols := [strBytes "chat"], enableCompression := true }
def witDOff : DCfg := { subprotocols := [strBytes "chat"], enableCompression := false }
/-- Upgraders: EnableCompression and Subprotocols ["chat"]; no compression and no subprotocol list -/
def witUOn : UCfg := { witU with subprotocols := some [strBytes "chat"] }
def witUOff : UCfg := { witU with enableCompression := false }
def witOh : Option Bytes := some (strBytes "example.com")

/-- witnesses for `handshake_succeeds`: the RFC 6455 sample key is a valid challenge key (16 bytes base64) -/
def witKey_valid : isValidChallengeKey witKey = true := by decide +kernel

/-- non-vacuity of `handshake_succeeds`: all hypotheses hold for ws://example.com, the sample key, a
    working Hijack and the default origin policy, for each of the four EnableCompression combinations -/
def witHS (d : DCfg) (u : UCfg) (hco : u.checkOrigin = none ∨ u.checkOrigin = some true) :
    ∃ host h bytes a, buildRequest d witUrl witKey [] = .ok (host, h) ∧
      upgrade u (reqOf host h) none witOh witHj = .ok (bytes, a) :=
  handshake_succeeds d u witUrl witKey witOh witHj (Or.inl rfl) rfl witKey_valid rfl hco

/-- … and of `both_or_neither` on each of them: both hypotheses hold (they are what `witHS` returns), the
    theorem applies (`Agree.agreed_of_handshake` puts the two together), and the concrete outcome is: Dialer on, Upgrader on → both compress -/
example : ∃ host h bytes a, buildRequest witDOn witUrl witKey [] = .ok (host, h) ∧
    upgrade witUOn (reqOf host h) none witOh witHj = .ok (bytes, a) ∧ a.compress = true ∧
    ∃ dl, checkReply witKey (replyOf a (Spec.acceptKey Gen.keyGUID witKey)) = .ok dl ∧ dl.compress = true :=
  agreed_of_handshake (witHS witDOn witUOn (Or.inl rfl)) rfl

/-- Dialer on, Upgrader off → neither compresses -/
example : ∃ host h bytes a, buildRequest witDOn witUrl witKey [] = .ok (host, h) ∧
    upgrade witUOff (reqOf host h) none witOh witHj = .ok (bytes, a) ∧ a.compress = false ∧
    ∃ dl, checkReply witKey (replyOf a (Spec.acceptKey Gen.keyGUID witKey)) = .ok dl ∧ dl.compress = false :=
  agreed_of_handshake (witHS witDOn witUOff (Or.inl rfl)) rfl

/-- Dialer off, Upgrader on → neither compresses -/
example : ∃ host h bytes a, buildRequest witDOff witUrl witKey [] = .ok (host, h) ∧
    upgrade witUOn (reqOf host h) none witOh witHj = .ok (bytes, a) ∧ a.compress = false ∧
    ∃ dl, checkReply witKey (replyOf a (Spec.acceptKey Gen.keyGUID witKey)) = .ok dl ∧ dl.compress = false :=
  agreed_of_handshake (witHS witDOff witUOn (Or.inl rfl)) rfl

/-- Dialer off, Upgrader off → neither compresses -/
example : ∃ host h bytes a, buildRequest witDOff witUrl witKey [] = .ok (host, h) ∧
    upgrade witUOff (reqOf host h) none witOh witHj = .ok (bytes, a) ∧ a.compress = false ∧
    ∃ dl, checkReply witKey (replyOf a (Spec.acceptKey Gen.keyGUID witKey)) = .ok dl ∧ dl.compress = false :=
  agreed_of_handshake (witHS witDOff witUOff (Or.inl rfl)) rfl

/-- `handshake_succeeds`, further instance: a wss URL and an application CheckOrigin that returns true -/
example : ∃ host h bytes a,
    buildRequest witDOn { witUrl with scheme := strBytes "wss" } witKey [] = .ok (host, h) ∧
    upgrade { witUOn with checkOrigin := some true } (reqOf host h) none none witHj = .ok (bytes, a) :=
  handshake_succeeds witDOn { witUOn with checkOrigin := some true } { witUrl with scheme := strBytes "wss" }
    witKey none witHj (Or.inr rfl) rfl witKey_valid rfl (Or.inr rfl)

/-! the on / on configuration evaluated: the request the Dialer builds, what the Upgrader answers -/

/-- the header map DialContext builds for `witDOn` -/
def witHdrOn : Client.Hdr :=
  [(strBytes "Upgrade", [strBytes "websocket"]), (strBytes "Connection", [strBytes "Upgrade"]),
   (strBytes "Sec-WebSocket-Key", [witKey]), (strBytes "Sec-WebSocket-Version", [strBytes "13"]),
   (strBytes "Sec-WebSocket-Protocol", [strBytes "chat"]),
   (strBytes "Sec-WebSocket-Extensions", [witOffer])]

/-- Boolean test "x = .ok v" (`Except` has no `DecidableEq` instance) -/
def witBuildIs (x : Except DErr (Bytes × Client.Hdr)) (v : Bytes × Client.Hdr) : Bool :=
  match x with | .ok v' => v' == v | .error _ => false
def witBuildIs_sound {x : Except DErr (Bytes × Client.Hdr)} {v : Bytes × Client.Hdr} (h : witBuildIs x v = true) :
    x = .ok v := by
  cases x <;> simp_all [witBuildIs]

/-- first hypothesis of `both_or_neither`, evaluated -/
def witBuildOn : buildRequest witDOn witUrl witKey [] = .ok (strBytes "example.com", witHdrOn) :=
  witBuildIs_sound (by decide +kernel)

/-- Boolean test "x = .ok (_, a) with these 101 lines, subprotocol and compression flag" -/
def witUpIs (x : Except Reject (Bytes × Accepted)) (lines : List Bytes) (sub : Bytes) (c : Bool) : Bool :=
  match x with | .ok (_, a) => a.lines == lines && a.subprotocol == sub && a.compress == c | .error _ => false
def witUpIs_sound {x : Except Reject (Bytes × Accepted)} {lines : List Bytes} {sub : Bytes} {c : Bool}
    (h : witUpIs x lines sub c = true) :
    ∃ b a, x = .ok (b, a) ∧ a.lines = lines ∧ a.subprotocol = sub ∧ a.compress = c := by
  cases x with
  | error e => simp [witUpIs] at h
  | ok p =>
    obtain ⟨b, a⟩ := p
    simp only [witUpIs, Bool.and_eq_true, beq_iff_eq] at h
    exact ⟨b, a, rfl, h.1.1, h.1.2, h.2⟩

/-- the 101 of the RFC 6455 §1.3 sample key, with subprotocol and extension lines -/
def witLinesOn : List Bytes :=
  [strBytes "HTTP/1.1 101 Switching Protocols", strBytes "Upgrade: websocket", strBytes "Connection: Upgrade",
   strBytes "Sec-WebSocket-Accept: s3pPLMBiTxaQ9kYGzzhZRbK+xOo=", strBytes "Sec-WebSocket-Protocol: chat",
   strBytes "Sec-WebSocket-Extensions: permessage-deflate; server_no_context_takeover; client_no_context_takeover"]

/-- second hypothesis of `both_or_neither` / the hypothesis of `reply_is_what_the_101_says`, evaluated:
    Upgrade accepts, selects "chat", compresses, and writes these lines -/
def witUpOn : ∃ b a, upgrade witUOn (reqOf (strBytes "example.com") witHdrOn) none witOh witHj = .ok (b, a) ∧
    a.lines = witLinesOn ∧ a.subprotocol = strBytes "chat" ∧ a.compress = true :=
  witUpIs_sound (by decide +kernel)

/-- `both_or_neither` instantiated on the evaluated pair: the theorem's value for `a.compress` (on && on)
    agrees with the evaluated one, and the Dialer accepts the 101 with compression on -/
example : ∃ b a, upgrade witUOn (reqOf (strBytes "example.com") witHdrOn) none witOh witHj = .ok (b, a) ∧
    a.lines = witLinesOn ∧ a.compress = (witDOn.enableCompression && witUOn.enableCompression) ∧
    ∃ dl, checkReply witKey (replyOf a (Spec.acceptKey Gen.keyGUID witKey)) = .ok dl ∧ dl.compress = true := by
  obtain ⟨b, a, hu, hl, _, hc⟩ := witUpOn
  obtain ⟨hc', dl, hdl, hdc⟩ := both_or_neither witDOn witUOn witUrl witKey _ _ witOh witHj b a witBuildOn hu
  exact ⟨b, a, hu, hl, hc', dl, hdl, hdc.trans hc⟩

/-- non-vacuity of `reply_is_what_the_101_says`: the hypothesis holds for that upgrade, and the theorem
    applies: the six lines `witLinesOn` are the status line plus one `Name: value` line per field of `replyOf` -/
example : ∃ b a, upgrade witUOn (reqOf (strBytes "example.com") witHdrOn) none witOh witHj = .ok (b, a) ∧
    ∃ names : List Bytes,
      names.map canonicalKey = (replyOf a (Spec.acceptKey Gen.keyGUID
        ((reqOf (strBytes "example.com") witHdrOn).get "Sec-Websocket-Key"))).hdr.map (·.1) ∧
      witLinesOn = strBytes "HTTP/1.1 101 Switching Protocols" ::
        (names.zip (replyOf a (Spec.acceptKey Gen.keyGUID
          ((reqOf (strBytes "example.com") witHdrOn).get "Sec-Websocket-Key"))).hdr).map
          (fun p => p.1 ++ strBytes ": " ++ p.2.2.headD []) := by
  obtain ⟨b, a, hu, hl, _, _⟩ := witUpOn
  obtain ⟨names, h1, h2⟩ := reply_is_what_the_101_says witUOn _ witOh witHj b a hu
  exact ⟨b, a, hu, names, h1, hl ▸ h2⟩

/-- `reply_is_what_the_101_says`, second instance: the RFC 6455 §1.3 request `witReq` against `witU` -/
example : ∃ b a, upgrade witU witReq none (some (strBytes "server.example.com")) witHj = .ok (b, a) ∧
    ∃ names : List Bytes,
      names.map canonicalKey = (replyOf a (Spec.acceptKey Gen.keyGUID (witReq.get "Sec-Websocket-Key"))).hdr.map (·.1) ∧
      a.lines = strBytes "HTTP/1.1 101 Switching Protocols" ::
        (names.zip (replyOf a (Spec.acceptKey Gen.keyGUID (witReq.get "Sec-Websocket-Key"))).hdr).map
          (fun p => p.1 ++ strBytes ": " ++ p.2.2.headD []) := by
  obtain ⟨⟨b, a⟩, h⟩ := witUp_ok
  exact ⟨b, a, h, reply_is_what_the_101_says witU witReq _ witHj b a h⟩

end NonVacuity

end WS.Props.C15
