import WS.Lemmas.AuditGaps
import WS.Lemmas.PreparedSend
import WS.Lemmas.Sched
import WS.Gen.Skeletons
/-
  C09 — A close frame is the last thing a connection ever writes.
  Over the interleaving model `WS.Sched` (any number of threads, every interleaving) a close frame
  can only be the last frame on the wire; `WellLocked` on the generated statement skeletons ties the
  `Step` relation to the lock protocol of the source. Over the executable writer model, for every
  program: once the sticky error is set (a close frame sets `ErrCloseSent`), nothing reaches the
  transport and every frame-writing call fails.
-/
namespace WS.Props.C09
open WS WS.Sched

theorem reach_inv {g : G} (h : Reach g) : Inv g := Sched.reach_inv h

/-- In every reachable state of every interleaving of any number of threads a close frame can
    only be the last frame on the wire. -/
theorem close_is_last {g : G} (h : Reach g) : CloseLast g.wire := (reach_inv h).closeL

/-- Once a close frame is on the wire no step of any thread appends anything. -/
theorem no_byte_after_close {g g' : G} (h : Reach g) (hs : Step g g') (hc : true ∈ g.wire) :
    g'.wire = g.wire := by
  cases hs with
  | writeOk t c hp => exact absurd hc ((reach_inv h).clean t (Or.inr hp))
  | _ => rfl

/-- After the closer has released the mutex the sticky error is set: every write API entered
    afterwards takes the `checkFail` branch (see `only_checkFail_after_close`). -/
theorem writeErr_after_close_released {g : G} (h : Reach g) (hc : true ∈ g.wire) (hh : g.holder = none) :
    g.writeErr = true :=
  (reach_inv h).closed_err hc (fun _ hu => nomatch hh.symm.trans hu)

/-- A thread that acquires the mutex after a close frame was written and released cannot get past
    the error check. -/
theorem only_checkFail_after_close {g g' : G} (h : Reach g) (hc : true ∈ g.wire) (t : Nat)
    (hp : g.phase t = .lockedUnchecked) (hs : Step g g') (ht : g'.phase t ≠ .lockedUnchecked) :
    g'.phase t = .idle ∧ g'.wire = g.wire := by
  have hwe : g.writeErr = true :=
    (reach_inv h).closed_err_of_holder hc (t := t) (by simp [hp, holds]) (by simp [hp])
  -- a step enabled by another phase is made by another thread and leaves `t` where it is, which `ht` excludes
  have other : ∀ {u p}, g.phase u ≠ .lockedUnchecked → upd g.phase u p t = .lockedUnchecked :=
    fun {u _} hu => (upd_other _ _ (fun (e : t = u) => hu (e ▸ hp))).trans hp
  cases hs with
  | checkFail u h1 he =>
    by_cases e : t = u
    · subst e; exact ⟨upd_same .., rfl⟩
    · exact absurd ((upd_other _ _ e).trans hp) ht
  | checkOk u h1 he => exact nomatch hwe.symm.trans he
  | want u h1 | acquire u h1 _ | timeout u h1 | deadlineOk u h1 | deadlineFail u h1 | writeOk u _ h1
  | writeFail u h1 | mark u _ h1 | release u h1 =>
    exact absurd (other (by simp [h1])) ht

open WS.Gen in
/-- acquire; deferred release; re-check of the sticky error under the lock; deadline; write;
    error check; close mark; return — with only validation / local frame building before the lock. -/
def WellLocked (l : List Gen.Act) : Bool :=
  let body := l.dropWhile (fun a => a == .validateType || a == .validateLen || a == .build)
  body == [.acquire, .deferRelease, .checkErr, .setDeadline, .write, .checkWrite, .markClose, .ret] ||
  body == [.acquireTimed, .deferRelease, .checkErr, .setDeadline, .write, .checkWrite, .markClose, .ret]

theorem write_wellLocked : WellLocked Gen.writeSkeleton = true := by decide
theorem writeControl_wellLocked : WellLocked Gen.writeControlSkeleton = true := by decide

/-- For every program: once the sticky write error is set — a close frame sent by any path sets it
    to ErrCloseSent — no operation of the write API makes a transport call or changes the wire. -/
theorem seq_nothing_after_close (s : W) (ops : List Op) (h : s.writeErr.isSome) :
    (run s ops).wire = s.wire ∧ (run s ops).tcalls = s.tcalls ∧ (run s ops).writeErr = s.writeErr :=
  run_failstop s ops h

/-- every frame-writing request after that fails; a message writer opened earlier fails at Close -/
theorem seq_requests_fail (s : W) (h : s.writeErr.isSome) :
    (∀ t dnp fullp, ∃ e, (nextWriter s t dnp fullp).1 = .error e) ∧
    (∀ t data dnp fullp dn full, (writeMessage s t data dnp fullp dn full).1.isSome) ∧
    (∀ enc dnp fullp dn full, (writeJSON s enc dnp fullp dn full).1.isSome) ∧
    (∀ t data d, (writeControl s t data d).1.isSome) ∧
    (∀ t img dnp fullp, (writePreparedImage s t img dnp fullp).1.isSome) ∧
    (∀ hd dn full, (hClose s hd dn full).1.isSome) :=
  requests_fail_of_err s h

/-- non-vacuity: a server that sends a close via WriteControl ends up with the sticky error set
    and the close frame as the whole wire -/
example : (writeControl (newW true 16 false false) 8 [3, 232] 0).2.writeErr = some .closeSent ∧
    (writeControl (newW true 16 false false) 8 [3, 232] 0).2.wire = [136, 2, 3, 232] := by decide

open WS.PreparedSend in
/-- a message writer that was open when the close frame went out fails no later than its Close (so the
    message is never reported as sent): with the sticky error set, Close on any handle — live, stale,
    compressed, bogus — returns an error -/
theorem open_writer_fails_at_close (s : W) (he : s.writeErr.isSome) (h : Nat) (dn : List Bytes) (full : Bytes) :
    (hClose s h dn full).1.isSome :=
  (hClose_of_err s h dn full he).1

open WS.Codec WS.ReaderDecodes WS.RoleGeneric WS.AuditGaps in
/-- a close frame that went out latches exactly ErrCloseSent … -/
theorem close_latches_ErrCloseSent (s : W) (d : Int) (b0 b1 : Bytes) (h : (connWrite s 8 d b0 b1).1 = none) :
    (connWrite s 8 d b0 b1).2.writeErr = some .closeSent :=
  AuditGaps.close_sets_closeSent s d b0 b1 h

open WS.Codec WS.ReaderDecodes WS.RoleGeneric WS.AuditGaps in
/-- … and with it latched every otherwise valid request — WriteMessage, NextWriter, WriteControl (deadline not
    already past), WritePreparedMessage — fails with exactly ErrCloseSent and leaves the wire unchanged -/
theorem requests_fail_with_closeSent (s : W) (h : s.writeErr = some .closeSent) :
    (∀ t data, (t = 1 ∨ t = 2) → (writeMessage s t data).1 = some .closeSent ∧ (writeMessage s t data).2.wire = s.wire) ∧
    (∀ t, (t = 1 ∨ t = 2) → ∃ s', nextWriter s t = (.error .closeSent, s') ∧ s'.wire = s.wire) ∧
    (∀ t data d, (t = 8 ∨ t = 9 ∨ t = 10) → data.length ≤ 125 → 0 ≤ d →
        (writeControl s t data d).1 = some .closeSent ∧ (writeControl s t data d).2.wire = s.wire) ∧
    (∀ t img, (writePreparedImage s t img).1 = some .closeSent ∧ (writePreparedImage s t img).2.wire = s.wire) :=
  AuditGaps.requests_fail_with_closeSent s h

/-- the close frame itself sets the sticky error (Conn.write and WriteControl) -/
theorem close_sets_sticky (s : W) (d : Int) (b0 b1 : Bytes) (h : (connWrite s 8 d b0 b1).1 = none) :
    (connWrite s 8 d b0 b1).2.writeErr.isSome := by
  rw [close_latches_ErrCloseSent s d b0 b1 h]; rfl

section NonVacuity
set_option linter.defProp false

/-! two threads: thread 0 writes a data frame (thread 1 starts waiting meanwhile), then a close
    frame, and releases; thread 1 then acquires the mutex -/
def witG1 : G := { init with phase := upd init.phase 0 .waiting }
def witG2 : G := { witG1 with holder := some 0, phase := upd witG1.phase 0 .lockedUnchecked }
def witG3 : G := { witG2 with phase := upd witG2.phase 0 .lockedChecked }
def witG4 : G := { witG3 with phase := upd witG3.phase 1 .waiting }
def witG5 : G := { witG4 with phase := upd witG4.phase 0 .deadlineSet }
def witG6 : G := { witG5 with wire := witG5.wire ++ [false], phase := upd witG5.phase 0 (.wrote false) }
def witG7 : G := { witG6 with writeErr := witG6.writeErr || false, phase := upd witG6.phase 0 .marked }
def witG8 : G := { witG7 with holder := none, phase := upd witG7.phase 0 .idle }
def witG9 : G := { witG8 with phase := upd witG8.phase 0 .waiting }
def witG10 : G := { witG9 with holder := some 0, phase := upd witG9.phase 0 .lockedUnchecked }
def witG11 : G := { witG10 with phase := upd witG10.phase 0 .lockedChecked }
def witG12 : G := { witG11 with phase := upd witG11.phase 0 .deadlineSet }
def witG13 : G := { witG12 with wire := witG12.wire ++ [true], phase := upd witG12.phase 0 (.wrote true) }
def witG14 : G := { witG13 with writeErr := witG13.writeErr || true, phase := upd witG13.phase 0 .marked }
def witG15 : G := { witG14 with holder := none, phase := upd witG14.phase 0 .idle }
def witG16 : G := { witG15 with holder := some 1, phase := upd witG15.phase 1 .lockedUnchecked }
def witG17 : G := { witG16 with holder := none, phase := upd witG16.phase 1 .idle }

def witR1 : Reach witG1 := .step .init (.want init 0 rfl)
def witR2 : Reach witG2 := .step witR1 (.acquire witG1 0 rfl rfl)
def witR3 : Reach witG3 := .step witR2 (.checkOk witG2 0 rfl rfl)
def witR4 : Reach witG4 := .step witR3 (.want witG3 1 rfl)
def witR5 : Reach witG5 := .step witR4 (.deadlineOk witG4 0 rfl)
def witR6 : Reach witG6 := .step witR5 (.writeOk witG5 0 false rfl)
def witR7 : Reach witG7 := .step witR6 (.mark witG6 0 false rfl)
def witR8 : Reach witG8 := .step witR7 (.release witG7 0 rfl)
def witR9 : Reach witG9 := .step witR8 (.want witG8 0 rfl)
def witR10 : Reach witG10 := .step witR9 (.acquire witG9 0 rfl rfl)
def witR11 : Reach witG11 := .step witR10 (.checkOk witG10 0 rfl rfl)
def witR12 : Reach witG12 := .step witR11 (.deadlineOk witG11 0 rfl)
def witR13 : Reach witG13 := .step witR12 (.writeOk witG12 0 true rfl)
def witR14 : Reach witG14 := .step witR13 (.mark witG13 0 true rfl)
def witR15 : Reach witG15 := .step witR14 (.release witG14 0 rfl)
def witR16 : Reach witG16 := .step witR15 (.acquire witG15 1 rfl rfl)
def witS16 : Step witG16 witG17 := .checkFail witG16 1 rfl rfl

/-- the wire of the witness state: a data frame, then the close frame -/
example : witG16.wire = [false, true] := rfl

/-- non-vacuity of `reach_inv`: a 16-step schedule of two threads is reachable -/
example : Inv witG16 := reach_inv witR16
/-- non-vacuity of `close_is_last`: the reachable state `witG16` has wire [data, close] -/
example : CloseLast [false, true] := close_is_last witR16
/-- non-vacuity of `no_byte_after_close`: reachable `witG16` with a close frame on the wire and a
    further step (thread 1 fails the error check) -/
example : witG17.wire = [false, true] := no_byte_after_close witR16 witS16 (by decide)
/-- non-vacuity of `no_byte_after_close`, second instance: the closer's own `mark` step -/
example : witG14.wire = [false, true] := no_byte_after_close witR13 (.mark witG13 0 true rfl) (by decide)
/-- non-vacuity of `writeErr_after_close_released`: `witG15` = thread 0 has written the close frame and
    released the mutex -/
example : witG15.writeErr = true := writeErr_after_close_released witR15 (by decide) rfl
/-- non-vacuity of `only_checkFail_after_close`: in `witG16` a close is on the wire, thread 1 is in phase
    `.lockedUnchecked`, and the step `witS16` leaves that phase -/
example : witG17.phase 1 = .idle ∧ witG17.wire = witG16.wire :=
  only_checkFail_after_close witR16 (by decide) 1 rfl witS16 (by decide)


/-! sequential witnesses -/

/-- a client connection with a 4096-byte write buffer and a masking-key source -/
def witW0 : W := { newW false 4096 false false with keys := [0x37, 0xfa, 0x21, 0x3d, 1, 2, 3, 4] }
/-- … after it sent a close frame (status 1000) via WriteControl -/
def witWc : W := (writeControl witW0 8 [3, 232] 0).2
/-- … which latched ErrCloseSent -/
def witWc_closeSent : witWc.writeErr = some .closeSent := by decide
/-- witness for `seq_nothing_after_close` / `seq_requests_fail`: the sticky error is set -/
def witWc_err : witWc.writeErr.isSome := by decide
def witOps : List Op :=
  [.writeMessage 1 [104, 101, 108, 108, 111] [] [] [] [],
   .writeControl 9 [112, 105, 110, 103] 0,
   .nextWriter 2 [] []]

/-- non-vacuity of `seq_nothing_after_close`: a three-operation program (WriteMessage "hello", ping,
    NextWriter) on the client that has sent a close -/
example : (run witWc witOps).wire = witWc.wire ∧ (run witWc witOps).tcalls = witWc.tcalls ∧
    (run witWc witOps).writeErr = witWc.writeErr := seq_nothing_after_close witWc witOps witWc_err

def witClose : Bytes := controlFrame false 8 [3, 232] (newKey witW0).1
/-- witness for `close_sets_sticky`: the masked close frame is written without error -/
def witClose_ok : (connWrite witW0 8 0 witClose []).1 = none := by decide
/-- non-vacuity of `close_sets_sticky`: Conn.write of a masked close frame on the 4096-byte client -/
example : (connWrite witW0 8 0 witClose []).2.writeErr.isSome :=
  close_sets_sticky witW0 0 witClose [] witClose_ok
/-- concrete value for the `close_sets_sticky` witness -/
example : (connWrite witW0 8 0 witClose []).2.writeErr = some .closeSent :=
  close_latches_ErrCloseSent witW0 0 witClose [] witClose_ok

/-- non-vacuity of `seq_requests_fail`: NextWriter after the close fails -/
example : ∃ e, (nextWriter witWc 1 [] []).1 = .error e := (seq_requests_fail witWc witWc_err).1 1 [] []
/-- non-vacuity of `seq_requests_fail`: a ping after the close fails -/
example : (writeControl witWc 9 [112, 105, 110, 103] 0).1.isSome :=
  (seq_requests_fail witWc witWc_err).2.2.2.1 9 [112, 105, 110, 103] 0

/-! an open message writer when the close frame goes out -/

/-- NextWriter(BinaryMessage); Write 01 02 03 (stays in the 4096-byte buffer); WriteControl(close 1000) -/
def witOpsOpen : List Op :=
  [.nextWriter 2 [] [],
   .write 0 [1, 2, 3] [] false,
   .writeControl 8 [3, 232] 0]
/-- the client `witW0` after that program: handle 0 is a live binary writer with three buffered bytes,
    and the close frame is on the wire -/
def witWo : W := run witW0 witOpsOpen

/-- the state really is as described: handle 0 is live, the writer is still the connection's current
    writer, the wire is exactly the masked close frame, and the sticky error is ErrCloseSent -/
def witWo_state : witWo.handles.length = 1 ∧ witWo.writer.isSome ∧ witWo.wire = witClose ∧
    witWo.writeErr = some .closeSent := by decide +kernel
example : witWo.handles.length = 1 ∧ witWo.writer.isSome ∧ witWo.wire = witClose ∧
    witWo.writeErr = some .closeSent := witWo_state
/-- witness for `open_writer_fails_at_close`: the sticky error is set -/
def witWo_err : witWo.writeErr.isSome := by decide +kernel

/-- non-vacuity of `open_writer_fails_at_close`: Close on the live handle 0 of `witWo` returns an error -/
example : (hClose witWo 0 [] []).1.isSome := open_writer_fails_at_close witWo witWo_err 0 [] []
/-- … concretely ErrCloseSent, and the wire still is (hence ends with) the close frame: the three
    buffered bytes of the binary message never reach the transport -/
example : (hClose witWo 0 [] []).1 = some .closeSent ∧ (hClose witWo 0 [] []).2.wire = witClose ∧
    (hClose witWo 0 [] []).2.tcalls = witWo.tcalls :=
  have hc := (hClose_of_err witWo 0 [] [] witWo_err).2
  ⟨by decide +kernel, (core_wire hc).trans witWo_state.2.2.1, core_tcalls hc⟩
/-- … and the close frame is 88 82 <key> <masked 03 e8> -/
example : witClose = [0x88, 0x82, 0x37, 0xfa, 0x21, 0x3d, 0x34, 0x12] := by decide

/-- a client with a 256-byte write buffer, on which 300 bytes are written (more than the buffer): the
    first fragment of the binary message is already on the wire when the close frame (second masking
    key) goes out -/
def witW0s : W := { newW false 256 false false with keys := [0x37, 0xfa, 0x21, 0x3d, 1, 2, 3, 4] }
def witOpsOpen2 : List Op :=
  [.nextWriter 2 [] [],
   .write 0 (List.replicate 300 7) [] false,
   .writeControl 8 [3, 232] 0]
def witWo2 : W := run witW0s witOpsOpen2
def witWo2_err : witWo2.writeErr.isSome := by decide +kernel
def witWo2_wire : witWo2.wire.take 4 = [0x02, 0xfe, 0x01, 0x00] ∧ witWo2.wire.length = 264 + 8 ∧
    witWo2.wire.drop 264 = [0x88, 0x82, 1, 2, 3, 4, 2, 234] := by decide +kernel
/-- the wire of `witWo2`: a non-final binary fragment (02 fe 01 00 = no FIN, masked, 256 bytes), then the close frame -/
example : witWo2.wire.take 4 = [0x02, 0xfe, 0x01, 0x00] ∧ witWo2.wire.length = 264 + 8 ∧
    witWo2.wire.drop 264 = [0x88, 0x82, 1, 2, 3, 4, 2, 234] := witWo2_wire
/-- non-vacuity of `open_writer_fails_at_close`, second instance: Close on the half-sent message fails … -/
example : (hClose witWo2 0 [] []).1.isSome := open_writer_fails_at_close witWo2 witWo2_err 0 [] []
/-- … with ErrCloseSent, the final fragment is never sent, and the wire still ends with the close frame -/
example : (hClose witWo2 0 [] []).1 = some .closeSent ∧ (hClose witWo2 0 [] []).2.wire = witWo2.wire ∧
    (hClose witWo2 0 [] []).2.wire.drop 264 = [0x88, 0x82, 1, 2, 3, 4, 2, 234] :=
  have hw := core_wire (hClose_of_err witWo2 0 [] [] witWo2_err).2
  ⟨by decide +kernel, hw, (congrArg (List.drop 264) hw).trans witWo2_wire.2.2⟩

/-! a close frame sent through Conn.write on a connection with traffic behind it -/

/-- the client `witW0` after it sent the text message "hello" (first masking key used, wire holds that frame) -/
def witW1 : W := (writeMessage witW0 1 [104, 101, 108, 108, 111]).2
/-- … it is healthy and the message is on the wire -/
example : witW1.writeErr = none ∧ witW1.wire.length = 11 ∧ witW1.keyIdx = 1 := by decide +kernel
/-- the close frame 1001 "bye" as WriteControl would build it on `witW1`: masked with the SECOND key 01 02 03 04 -/
def witClose1 : Bytes := controlFrame false 8 (beBytes 2 1001 ++ [0x62, 0x79, 0x65]) (newKey witW1).1
example : witClose1 = [0x88, 0x85, 1, 2, 3, 4, 0x03 ^^^ 1, 0xE9 ^^^ 2, 0x62 ^^^ 3, 0x79 ^^^ 4, 0x65 ^^^ 1] := by decide +kernel
/-- witness for `close_latches_ErrCloseSent`: Conn.write(CloseMessage, deadline 1000000) succeeds -/
def witClose1_ok : (connWrite witW1 8 1000000 witClose1 []).1 = none := by decide +kernel

/-- non-vacuity of `close_latches_ErrCloseSent`: the hypothesis holds for the healthy client `witW1` and a
    real masked close frame -/
example : (connWrite witW1 8 1000000 witClose1 []).2.writeErr = some .closeSent :=
  close_latches_ErrCloseSent witW1 1000000 witClose1 [] witClose1_ok
/-- … and the frame really went out: the wire is the text frame followed by the close frame -/
example : (connWrite witW1 8 1000000 witClose1 []).2.wire = witW1.wire ++ witClose1 := by decide +kernel
/-- second instance of `close_latches_ErrCloseSent`: the fresh client `witW0`, zero deadline, two buffers
    (header+key in the first, the masked payload in the second) -/
example : (connWrite witW0 8 0 (witClose.take 6) (witClose.drop 6)).2.writeErr = some .closeSent :=
  close_latches_ErrCloseSent witW0 0 (witClose.take 6) (witClose.drop 6) (by decide)

/-- the state after that close -/
def witWc1 : W := (connWrite witW1 8 1000000 witClose1 []).2
/-- witness for `requests_fail_with_closeSent`: exactly ErrCloseSent is latched -/
def witWc1_closeSent : witWc1.writeErr = some .closeSent := by decide +kernel

/-- non-vacuity of `requests_fail_with_closeSent`, first conjunct: WriteMessage(text, "hello") -/
example : (writeMessage witWc1 1 [104, 101, 108, 108, 111]).1 = some .closeSent ∧
    (writeMessage witWc1 1 [104, 101, 108, 108, 111]).2.wire = witWc1.wire :=
  (requests_fail_with_closeSent witWc1 witWc1_closeSent).1 1 [104, 101, 108, 108, 111] (Or.inl rfl)
/-- second conjunct: NextWriter(binary) -/
example : ∃ s', nextWriter witWc1 2 = (.error .closeSent, s') ∧ s'.wire = witWc1.wire :=
  (requests_fail_with_closeSent witWc1 witWc1_closeSent).2.1 2 (Or.inr rfl)
/-- third conjunct: WriteControl(ping "ping", deadline 5) and a second close frame (zero deadline) -/
example : (writeControl witWc1 9 [112, 105, 110, 103] 5).1 = some .closeSent ∧
    (writeControl witWc1 9 [112, 105, 110, 103] 5).2.wire = witWc1.wire :=
  (requests_fail_with_closeSent witWc1 witWc1_closeSent).2.2.1 9 [112, 105, 110, 103] 5 (Or.inr (Or.inl rfl))
    (by decide) (by decide)
example : (writeControl witWc1 8 [3, 232] 0).1 = some .closeSent ∧ (writeControl witWc1 8 [3, 232] 0).2.wire = witWc1.wire :=
  (requests_fail_with_closeSent witWc1 witWc1_closeSent).2.2.1 8 [3, 232] 0 (Or.inl rfl) (by decide) (by decide)
/-- fourth conjunct: WritePreparedMessage with the frame image of a masked text "hi" -/
example : (writePreparedImage witWc1 1 [0x81, 0x82, 5, 6, 7, 8, 0x68 ^^^ 5, 0x69 ^^^ 6]).1 = some .closeSent ∧
    (writePreparedImage witWc1 1 [0x81, 0x82, 5, 6, 7, 8, 0x68 ^^^ 5, 0x69 ^^^ 6]).2.wire = witWc1.wire :=
  (requests_fail_with_closeSent witWc1 witWc1_closeSent).2.2.2 1 [0x81, 0x82, 5, 6, 7, 8, 0x68 ^^^ 5, 0x69 ^^^ 6]
/-- `requests_fail_with_closeSent` also applies to `witWc` (close sent via WriteControl) and to `witWo` (close sent
    while a message writer was open) -/
example : (writeMessage witWc 2 [1, 2, 3]).1 = some .closeSent ∧ (writeMessage witWc 2 [1, 2, 3]).2.wire = witWc.wire :=
  (requests_fail_with_closeSent witWc witWc_closeSent).1 2 [1, 2, 3] (Or.inr rfl)
example : ∃ s', nextWriter witWo 1 = (.error .closeSent, s') ∧ s'.wire = witWo.wire :=
  (requests_fail_with_closeSent witWo witWo_state.2.2.2).2.1 1 (Or.inl rfl)
end NonVacuity

end WS.Props.C09
