import WS.Lemmas.HttpLogic
import WS.Gen.Skeletons
/-
  C13 — Default origin policy admits same-origin requests only.
-/
namespace WS.Props.C13
open WS WS.Http WS.Server WS.HttpLogic

/-- fold_eq_iff (for all byte strings, invalid UTF-8 included: finding F7): equalASCIIFold accepts exactly the byte
    strings that are equal after byte-wise ASCII lower-casing -/
theorem fold_eq_iff (s t : Bytes) :
    equalASCIIFold s t = true ↔ t.map asciiLower = s.map asciiLower :=
  HttpLogic.fold_eq_iff s t

theorem fold_symm (s t : Bytes) : equalASCIIFold s t = equalASCIIFold t s :=
  HttpLogic.fold_symm s t

/-- no extra label, prefix or suffix look-alike can pass: equal strings have equal length -/
theorem fold_length (s t : Bytes) (h : equalASCIIFold s t = true) : s.length = t.length :=
  HttpLogic.fold_length s t h

/-- regression sentinel for F7 -/
theorem fold_distinguishes_invalid_utf8 : equalASCIIFold [0x61, 0xff] [0x61, 0xfe] = false :=
  HttpLogic.fold_distinguishes_invalid_utf8 

/-- U+212A KELVIN SIGN and U+017F LONG S do not fold to k / s -/
theorem fold_no_unicode_folding :
    equalASCIIFold [0xe2, 0x84, 0xaa] [0x6b] = false ∧ equalASCIIFold [0xc5, 0xbf] [0x73] = false :=
  HttpLogic.fold_no_unicode_folding 

/-- same_origin_iff: accepted iff there is no Origin header, or it parses and its host folds to the request Host -/
theorem same_origin_iff (r : Req) (oh : Option Bytes) :
    checkSameOrigin r oh = true ↔ (r.values "Origin" = [] ∨ ∃ h, oh = some h ∧ equalASCIIFold h r.host = true) :=
  HttpLogic.same_origin_iff r oh

/-- today's checkSameOrigin and equalASCIIFold are the modelled ones -/
theorem policy_as_modelled :
    Gen.stmts_checkSameOrigin =
      ["origin := r.Header[\"Origin\"]", "if len(origin) == 0 { return true }", "u, err := url.Parse(origin[0])",
       "if err != nil { return false }", "return equalASCIIFold(u.Host, r.Host)"] ∧
    Gen.stmts_equalASCIIFold =
      ["if len(s) != len(t) { return false }",
       "for i := 0; i < len(s); i++ { sb, tb := s[i], t[i] if 'A' <= sb && sb <= 'Z' { sb = sb + 'a' - 'A' } if 'A' <= tb && tb <= 'Z' { tb = tb + 'a' - 'A' } if sb != tb { return false } }",
       "return true"] :=
  ⟨rfl, rfl⟩

section NonVacuity
set_option linter.defProp false

/-- witness for `fold_length`: an Origin host in mixed case folds to the request Host -/
def witFold_mixed : equalASCIIFold (strBytes "Example.COM:8080") (strBytes "example.com:8080") = true := by decide +kernel
/-- non-vacuity of `fold_length`: the hypothesis holds for "Example.COM:8080" / "example.com:8080", and the theorem applies -/
example : (strBytes "Example.COM:8080").length = (strBytes "example.com:8080").length :=
  fold_length _ _ witFold_mixed
/-- the hypothesis of `fold_length` is not automatic: a suffix look-alike is rejected -/
example : equalASCIIFold (strBytes "example.com.evil.org") (strBytes "example.com") = false := by decide +kernel

/-- a browser request to Host example.com:8080 whose Origin is the same site, host in mixed case -/
def witReqSame : Req :=
  { method := strBytes "GET", host := strBytes "example.com:8080",
    hdr := [(strBytes "Connection", [strBytes "keep-alive, Upgrade"]), (strBytes "Upgrade", [strBytes "websocket"]),
            (strBytes "Origin", [strBytes "http://Example.COM:8080"])] }

/-- a request to Host example.com:8080 made by a page of another site -/
def witReqCross : Req :=
  { witReqSame with hdr := [(strBytes "Connection", [strBytes "Upgrade"]), (strBytes "Upgrade", [strBytes "websocket"]),
            (strBytes "Origin", [strBytes "https://evil.example.org"])] }

/-- instance of `same_origin_iff` (right to left): the Origin header is present, its host parses to
    "Example.COM:8080" and folds to the Host, hence the request is accepted -/
example : checkSameOrigin witReqSame (some (strBytes "Example.COM:8080")) = true :=
  (same_origin_iff witReqSame (some (strBytes "Example.COM:8080"))).2 (Or.inr ⟨_, rfl, witFold_mixed⟩)
/-- instance of `same_origin_iff`: the first disjunct is false for this request (the Origin header is there) -/
example : witReqSame.values "Origin" ≠ [] := by decide +kernel

/-- instance of `same_origin_iff` (left to right, contrapositive): a cross-origin request is refused,
    both disjuncts of the right-hand side fail -/
example : checkSameOrigin witReqCross (some (strBytes "evil.example.org")) = false := by
  cases h : checkSameOrigin witReqCross (some (strBytes "evil.example.org")) with
  | false => rfl
  | true =>
    rcases (same_origin_iff _ _).1 h with h0 | ⟨x, hx, hf⟩
    · exact absurd h0 (by decide +kernel)
    · cases hx; exact absurd hf (by decide +kernel)

/-- instance of `same_origin_iff`: a request whose Origin does not parse (`oh = none`) is refused -/
example : ¬ checkSameOrigin witReqCross none = true := by
  intro h
  rcases (same_origin_iff _ _).1 h with h0 | ⟨x, hx, _⟩
  · exact absurd h0 (by decide +kernel)
  · cases hx

/-- instance of `same_origin_iff` (first disjunct): a non-browser client sending no Origin header is accepted -/
example : checkSameOrigin { witReqSame with hdr := [(strBytes "Connection", [strBytes "Upgrade"])] } none = true :=
  (same_origin_iff _ none).2 (Or.inl (by decide +kernel))

end NonVacuity

end WS.Props.C13
