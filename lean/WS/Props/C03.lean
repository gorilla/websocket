import WS.Lemmas.ReadProgram
import WS.Lemmas.MixedReads
import WS.Lemmas.ReadMsgs
import WS.Lemmas.JoinLaw
import WS.Lemmas.ReaderZ
import WS.Lemmas.SrcLaw
import WS.Lemmas.Mask
import WS.Lemmas.ReaderDecodes
import WS.Lemmas.Witness
/-
  C03 — The reader decodes any conformant peer stream, however fragmented or read.
  This file: independence from transport chunking, buffer size and read sizes (the byte source is a
  plain stream), then the message-level statements (`read_message`, `abandon_then_next`, … from
  WS/Lemmas/ReaderDecodes.lean and the files built on it).
-/
namespace WS.Props.C03
open WS WS.SrcLaw

/-- header reads (Peek+Discard): whatever the transport chunking, the bufio size (≥ n) and what was
    buffered before, reading n available bytes returns exactly the next n bytes of the stream -/
theorem take_is_stream_prefix (b : Buf) (h : WF b) (n : Nat) (hn : n ≤ b.size) (hp : n ≤ b.pending.length) :
    (b.take n).1 = b.pending.take n ∧ (b.take n).2.1 = none ∧
    (b.take n).2.2.pending = b.pending.drop n ∧ WF (b.take n).2.2 ∧ Same b (b.take n).2.2 :=
  take_ok b h n hn hp

/-- payload reads: a Read of any size k ≥ 1 returns a non-empty prefix of the stream (when there is
    one), never reorders or drops bytes, and reports the transport's terminal error only after the
    last byte -/
theorem read_is_stream_prefix (b : Buf) (h : WF b) (k : Nat) (hk : 0 < k) :
    (b.read k).1 ++ (b.read k).2.2.pending = b.pending ∧ (b.read k).1.length ≤ k ∧
    (b.pending ≠ [] → (b.read k).1 ≠ []) ∧
    (∀ e, (b.read k).2.1 = some e → (b.read k).2.2.pending = [] ∧ e = b.t.term) ∧
    (b.pending = [] → (b.read k).2.1 = some b.t.term) ∧
    WF (b.read k).2.2 ∧ Same b (b.read k).2.2 :=
  read_spec b h k hk

/-- skipping the rest of an abandoned frame (io.CopyN to io.Discard) drops exactly n bytes -/
theorem skip_is_stream_drop (b : Buf) (h : WF b) (n : Nat) (hp : n ≤ b.pending.length) :
    (b.skip n).1 = none ∧ (b.skip n).2.pending = b.pending.drop n ∧ WF (b.skip n).2 ∧ Same b (b.skip n).2 :=
  skip_ok b h n hp

/-- unmasking is position-correct across reads of any sizes -/
theorem unmask_across_reads (k : Key) (p : Nat) (xs ys : Bytes) :
    maskFrom k p (xs ++ ys) = maskFrom k p xs ++ maskFrom k ((p + xs.length) % 4) ys := by
  rw [maskFrom_append]
  congr 1
  exact maskFrom_congr k (by omega) ys

open WS.ReaderDecodes in
/-- C03 (one message): from an idle reader whose pending bytes start with a conformant message —
    any fragmentation incl. empty frames, any masking keys, pings/pongs between fragments, either
    role, any bufio size ≥ 125, any transport chunking — NextReader returns its type and reading to
    the end with reads of ANY size k yields exactly its payload and then end-of-message; the reader
    is idle again right after the message and the handlers saw exactly the interleaved control
    frames, in wire order (C08: exactly once). -/
theorem read_message (c : Conn) (hc : ReaderIdle c) (t : Nat) (ht : t = 1 ∨ t = 2) (fs : List PFrame)
    (hs : MsgShape t fs) (rest : Bytes)
    (hp : c.r.buf.pending = encAll c.r.isServer fs ++ rest)
    (hend : c.r.buf.t.together = false ∨ rest ≠ [])
    (hsz : (dataPayload fs).length < 2 ^ 62)
    (hlim : c.r.limit ≤ 0 ∨ ((dataPayload fs).length : Int) ≤ c.r.limit)
    (k : Nat) (hk : 0 < k) :
    ∃ c1 rid, nextReader c = (.msg t rid false, c1) ∧
      ∃ c2, readAll c1 rid k = ((dataPayload fs, none), c2) ∧ ReaderIdle c2 ∧ c2.r.buf.pending = rest ∧
        c2.r.hlog = c.r.hlog ++ ctlEvents fs :=
  ReaderDecodes.read_message c hc t ht fs hs rest hp hend hsz hlim k hk

open WS.ReaderDecodes in
/-- C03 (abandonment): after opening a message and reading any part of it (nothing, some, or all),
    the next NextReader returns the following message, complete and unmixed -/
theorem abandon_then_next (c : Conn) (hc : ReaderIdle c) (t1 t2 : Nat) (ht1 : t1 = 1 ∨ t1 = 2) (ht2 : t2 = 1 ∨ t2 = 2)
    (fs1 fs2 : List PFrame) (hs1 : MsgShape t1 fs1) (hs2 : MsgShape t2 fs2) (rest : Bytes)
    (hp : c.r.buf.pending = encAll c.r.isServer fs1 ++ encAll c.r.isServer fs2 ++ rest)
    (hend : c.r.buf.t.together = false ∨ rest ≠ [])
    (hsz : (dataPayload fs1).length < 2 ^ 62 ∧ (dataPayload fs2).length < 2 ^ 62)
    (hlim : c.r.limit ≤ 0)
    (reads : List Nat) (k : Nat) (hk : 0 < k) :
    ∃ c1 rid1, nextReader c = (.msg t1 rid1 false, c1) ∧
      ∃ c3 rid2, nextReader (partialReads c1 rid1 reads) = (.msg t2 rid2 false, c3) ∧
        ∃ c4, readAll c3 rid2 k = ((dataPayload fs2, none), c4) ∧ ReaderIdle c4 ∧ c4.r.buf.pending = rest ∧
          c4.r.hlog = c.r.hlog ++ ctlEvents fs1 ++ ctlEvents fs2 :=
  ReaderDecodes.abandon_then_next c hc t1 t2 ht1 ht2 fs1 fs2 hs1 hs2 rest hp hend hsz hlim reads k hk

/-- non-vacuity: a 3-byte buffer over a transport that hands out [1,2],[3,4,5]: take 2 then read 9 -/
example :
    let b : Buf := { size := 3, t := { chunks := [[1, 2], [3, 4, 5]] } }
    (b.take 2).1 = [1, 2] ∧ ((b.take 2).2.2.read 9).1 = [3, 4, 5] := by decide

open WS.Codec WS.ReaderDecodes WS.ReaderZ in
/-- read_message for permessage-deflate: a compressed message (RSV1 on its first data frame,
    compression negotiated) is announced as compressed and what the message reader hands to the
    decompressor — reads of any size, any fragmentation, interleaved pings/pongs, any chunking and
    buffer size, either role — is exactly the concatenation of the data frames' payloads, i.e. the
    peer's deflate stream (compress/flate itself is environment) -/
theorem read_compressed_message (c : Conn) (hc : ReaderIdle c) (hn : c.r.nego = true) (t : Nat) (ht : t = 1 ∨ t = 2)
    (f : PFrame) (more : List PFrame) (hs : ZShape t f more) (rest : Bytes)
    (hp : c.r.buf.pending = encZ c.r.isServer f ++ encAll c.r.isServer more ++ rest)
    (hend : c.r.buf.t.together = false ∨ rest ≠ [])
    (hsz : (f.payload ++ dataPayload more).length < 2 ^ 62)
    (hlim : c.r.limit ≤ 0 ∨ (((f.payload ++ dataPayload more).length : Nat) : Int) ≤ c.r.limit)
    (k : Nat) (hk : 0 < k) :
    ∃ c1 rid, nextReader c = (.msg t rid true, c1) ∧
      ∃ c2, readAll c1 rid k = ((f.payload ++ dataPayload more, none), c2) ∧ ReaderIdle c2 ∧
        c2.r.buf.pending = rest ∧ c2.r.hlog = c.r.hlog ++ ctlEvents more :=
  ReaderZ.read_compressed_message c hc hn t ht f more hs rest hp hend hsz hlim k hk

open WS.Codec WS.ReaderDecodes WS.ReaderZ in
/-- … and the same bytes are refused (nothing delivered, no handler run) when compression was not negotiated -/
theorem compressed_frame_refused_when_not_negotiated (c : Conn) (hc : ReaderIdle c) (hn : c.r.nego = false)
    (t : Nat) (ht : t = 1 ∨ t = 2) (f : PFrame) (hf : f.op = t) (tail : Bytes)
    (hp : c.r.buf.pending = encZ c.r.isServer f ++ tail) (hcnt : c.r.errCount = 0) :
    ∃ msg c', nextReader c = (.err (.protocol msg), c') ∧ c'.r.hlog = c.r.hlog :=
  ReaderZ.compressed_frame_refused_when_not_negotiated c hc hn t ht f hf tail hp hcnt

open WS.Codec WS.ReaderDecodes WS.JoinLaw in
/-- through JoinMessages: reading the joined reader with reads of any size delivers exactly
    payload ++ terminator for a message … -/
theorem join_message (c : Conn) (hc : ReaderIdle c) (t : Nat) (ht : t = 1 ∨ t = 2) (fs : List PFrame)
    (hs : MsgShape t fs) (rest : Bytes)
    (hp : c.r.buf.pending = encAll c.r.isServer fs ++ rest)
    (hend : c.r.buf.t.together = false ∨ rest ≠ [])
    (hsz : (dataPayload fs).length < 2 ^ 62) (hlim : c.r.limit ≤ 0)
    (term : Bytes) (k : Nat) (hk : 0 < k) (fuel : Nat) (hf : (dataPayload fs).length + term.length + 3 ≤ fuel) :
    ∃ c', joinMsg fuel c .idle term k [] = ((dataPayload fs ++ term, none), c', .idle) ∧
      ReaderIdle c' ∧ c'.r.buf.pending = rest ∧ c'.r.hlog = c.r.hlog ++ ctlEvents fs :=
  JoinLaw.join_message c hc t ht fs hs rest hp hend hsz hlim term k hk fuel hf

open WS.Codec WS.ReaderDecodes WS.JoinLaw in
/-- … and payload₁ ++ term, then payload₂ ++ term for two, nothing mixed -/
theorem join_two_messages (c : Conn) (hc : ReaderIdle c) (t1 t2 : Nat) (ht1 : t1 = 1 ∨ t1 = 2) (ht2 : t2 = 1 ∨ t2 = 2)
    (fs1 fs2 : List PFrame) (hs1 : MsgShape t1 fs1) (hs2 : MsgShape t2 fs2) (rest : Bytes)
    (hp : c.r.buf.pending = encAll c.r.isServer fs1 ++ encAll c.r.isServer fs2 ++ rest)
    (hend : c.r.buf.t.together = false ∨ rest ≠ [])
    (hsz : (dataPayload fs1).length < 2 ^ 62 ∧ (dataPayload fs2).length < 2 ^ 62) (hlim : c.r.limit ≤ 0)
    (term : Bytes) (k : Nat) (hk : 0 < k) (fuel : Nat)
    (hf : (dataPayload fs1).length + (dataPayload fs2).length + term.length + 3 ≤ fuel) :
    ∃ c1 c2, joinMsg fuel c .idle term k [] = ((dataPayload fs1 ++ term, none), c1, .idle) ∧
      joinMsg fuel c1 .idle term k [] = ((dataPayload fs2 ++ term, none), c2, .idle) ∧
      ReaderIdle c2 ∧ c2.r.buf.pending = rest :=
  JoinLaw.join_two_messages c hc t1 t2 ht1 ht2 fs1 fs2 hs1 hs2 rest hp hend hsz hlim term k hk fuel hf


open WS.ReaderDecodes WS.Sequences in
/-- read_message for ANY NUMBER of messages: from an idle reader, a stream of any number of
    conformant messages (each with any fragmentation, empty frames, control frames between fragments)
    followed by `rest` is read as exactly those messages, in wire order, each exactly once; the
    handlers saw the interleaved control frames in wire order; the reader is idle again with `rest`
    untouched -/
theorem read_messages (c : Conn) (hc : ReaderIdle c) (msgs : List (Nat × List PFrame))
    (hm : ∀ m ∈ msgs, (m.1 = 1 ∨ m.1 = 2) ∧ MsgShape m.1 m.2 ∧ (dataPayload m.2).length < 2 ^ 62)
    (rest : Bytes)
    (hp : c.r.buf.pending = (msgs.map (fun m => encAll c.r.isServer m.2)).flatten ++ rest)
    (hend : c.r.buf.t.together = false ∨ rest ≠ []) (hlim : c.r.limit ≤ 0) (k : Nat) (hk : 0 < k) :
    ∃ c', readMsgs k msgs.length c = (msgs.map (fun m => (m.1, dataPayload m.2)), c') ∧
      ReaderIdle c' ∧ c'.r.buf.pending = rest ∧
      c'.r.hlog = c.r.hlog ++ (msgs.map (fun m => ctlEvents m.2)).flatten :=
  WS.Sequences.read_messages c hc msgs hm rest hp hend hlim k hk

open WS.ReaderDecodes WS.MixedReads

/-- "reads of any sizes", with the size changing from one Read to the next: reading a message first
    with requests of the sizes `ks` (any positive sizes, in order: `zFills` is the plain loop "Read with
    these sizes until the list ends or a Read returns an error") and then to the end with requests of
    size `k` delivers, concatenated, exactly the payload; end-of-message is signalled once, by
    whichever phase reaches it; the reader is idle again, the following bytes untouched, the handlers
    saw the interleaved control frames -/
theorem read_message_mixed (c : Conn) (hc : ReaderIdle c) (t : Nat) (ht : t = 1 ∨ t = 2) (fs : List PFrame)
    (hs : MsgShape t fs) (rest : Bytes)
    (hp : c.r.buf.pending = encAll c.r.isServer fs ++ rest)
    (hend : c.r.buf.t.together = false ∨ rest ≠ [])
    (hsz : (dataPayload fs).length < 2 ^ 62) (hlim : c.r.limit ≤ 0)
    (ks : List Nat) (hks : ∀ k ∈ ks, 0 < k) (k : Nat) (hk : 0 < k) :
    ∃ c1 rid, nextReader c = (.msg t rid false, c1) ∧
      ∃ pre st c2, zFills ks c1 rid [] = ((pre, st), c2) ∧
        ((st = some .eof ∧ pre = dataPayload fs ∧ ReaderIdle c2 ∧ c2.r.buf.pending = rest ∧
            c2.r.hlog = c.r.hlog ++ ctlEvents fs) ∨
         (st = none ∧ ∃ suf c3, readAll c2 rid k = ((suf, none), c3) ∧ pre ++ suf = dataPayload fs ∧
            ReaderIdle c3 ∧ c3.r.buf.pending = rest ∧ c3.r.hlog = c.r.hlog ++ ctlEvents fs)) :=
  WS.MixedReads.read_message_mixed c hc t ht fs hs rest hp hend hsz hlim ks hks k hk

/-- ReadMessage / io.ReadAll: whatever capacities the Go allocator picks for the growing buffer (any
    strictly increasing sequence — an environment answer measured by the harness; after the list the
    model grows by 8192), the message is returned complete and byte-identical -/
theorem read_message_any_caps (c : Conn) (hc : ReaderIdle c) (t : Nat) (ht : t = 1 ∨ t = 2) (fs : List PFrame)
    (hs : MsgShape t fs) (rest : Bytes)
    (hp : c.r.buf.pending = encAll c.r.isServer fs ++ rest)
    (hend : c.r.buf.t.together = false ∨ rest ≠ [])
    (hsz : (dataPayload fs).length < 2 ^ 62) (hlim : c.r.limit ≤ 0)
    (caps : List Nat) (hcaps : Growing 0 caps) :
    ∃ c1 rid, nextReader c = (.msg t rid false, c1) ∧
      ∃ c2, readAllGrow c1 rid caps = ((dataPayload fs, none), c2) ∧ ReaderIdle c2 ∧
        c2.r.buf.pending = rest ∧ c2.r.hlog = c.r.hlog ++ ctlEvents fs :=
  WS.MixedReads.read_message_any_caps c hc t ht fs hs rest hp hend hsz hlim caps hcaps

open WS.Codec WS.ReaderDecodes WS.JoinLaw WS.JoinSeq in
/-- `join_message` with a read limit in force: a message within the limit goes through JoinMessages
    complete, followed by the terminator; role, limit, handlers and the transport's parameters are
    unchanged (`Keep`) -/
theorem join_message_limited (c : Conn) (hc : ReaderIdle c) (t : Nat) (ht : t = 1 ∨ t = 2) (fs : List PFrame)
    (hs : MsgShape t fs) (rest : Bytes)
    (hp : c.r.buf.pending = encAll c.r.isServer fs ++ rest)
    (hend : c.r.buf.t.together = false ∨ rest ≠ [])
    (hsz : (dataPayload fs).length < 2 ^ 62)
    (hlim : c.r.limit ≤ 0 ∨ ((dataPayload fs).length : Int) ≤ c.r.limit)
    (term : Bytes) (k : Nat) (hk : 0 < k) (fuel : Nat) (hf : (dataPayload fs).length + term.length + 3 ≤ fuel) :
    ∃ c', joinMsg fuel c .idle term k [] = ((dataPayload fs ++ term, none), c', .idle) ∧
      ReaderIdle c' ∧ c'.r.buf.pending = rest ∧ c'.r.hlog = c.r.hlog ++ ctlEvents fs ∧ Keep c c' :=
  WS.JoinSeq.join_message_limited c hc t ht fs hs rest hp hend hsz hlim term k hk fuel hf

open WS.Codec WS.ReaderDecodes WS.JoinLaw WS.JoinSeq WS.Sequences in
/-- JoinMessages over ANY NUMBER of messages (with or without a read limit; each message within it):
    the joined reader delivers payload₁ ++ term ++ payload₂ ++ term ++ …, nothing lost, nothing mixed,
    in wire order; `joinMsgs` is the plain loop "read the joined reader until n messages and their
    terminators have been delivered or an error occurs"; the handlers saw the interleaved control
    frames in wire order and the bytes behind the last message are untouched -/
theorem join_messages (c : Conn) (hc : ReaderIdle c) (msgs : List (Nat × List PFrame))
    (hm : ∀ m ∈ msgs, (m.1 = 1 ∨ m.1 = 2) ∧ MsgShape m.1 m.2 ∧ (dataPayload m.2).length < 2 ^ 62 ∧
            (c.r.limit ≤ 0 ∨ ((dataPayload m.2).length : Int) ≤ c.r.limit))
    (rest : Bytes)
    (hp : c.r.buf.pending = (msgs.map (fun m => encAll c.r.isServer m.2)).flatten ++ rest)
    (hend : c.r.buf.t.together = false ∨ rest ≠ [])
    (term : Bytes) (k : Nat) (hk : 0 < k) (fuel : Nat)
    (hf : ∀ m ∈ msgs, (dataPayload m.2).length + term.length + 3 ≤ fuel) :
    ∃ c', joinMsgs fuel term k msgs.length c [] =
        (((msgs.map (fun m => dataPayload m.2 ++ term)).flatten, none), c') ∧
      ReaderIdle c' ∧ c'.r.buf.pending = rest ∧
      c'.r.hlog = c.r.hlog ++ (msgs.map (fun m => ctlEvents m.2)).flatten :=
  WS.JoinSeq.join_messages c hc msgs hm rest hp hend term k hk fuel hf

open WS.Codec WS.ReaderDecodes WS.ReadProgram in
/-- C03 at its full quantifier — EVERY program over the read API (`runProg`: NextReader and Read(k) in
    any order, number and sizes; reading on after the end of a message; opening the next message while
    the current one is unread, partly read or fully read) run against a stream of conformant messages,
    with or without a read limit, observes exactly what the messages dictate (`Ok`, WS/Lemmas/ReadProgram.lean):
    the i-th NextReader opens the i-th message with its type — none skipped, none delivered twice —, every
    Read returns a non-empty piece of at most the size asked for, continuing exactly where the previous
    Read of that message stopped, with no error; end-of-message is reported exactly when the whole payload
    has been delivered, and again on every later Read of that reader -/
theorem any_read_program (c : Conn) (hc : ReaderIdle c) (msgs : List (Nat × List PFrame))
    (hm : ∀ m ∈ msgs, (m.1 = 1 ∨ m.1 = 2) ∧ MsgShape m.1 m.2 ∧ (dataPayload m.2).length < 2 ^ 62 ∧
            (c.r.limit ≤ 0 ∨ ((dataPayload m.2).length : Int) ≤ c.r.limit))
    (rest : Bytes)
    (hp : c.r.buf.pending = (msgs.map (fun m => encAll c.r.isServer m.2)).flatten ++ rest)
    (hend : c.r.buf.t.together = false ∨ rest ≠ [])
    (ops : List ROp) (hn : (ops.filter ROp.isNext).length ≤ msgs.length) :
    Ok ops (msgs.map (fun m => (m.1, dataPayload m.2))) none false (runProg ops c none).1 :=
  WS.ReadProgram.any_read_program c hc msgs hm rest hp hend ops hn

section NonVacuity
set_option linter.defProp false
open WS WS.SrcLaw WS.Codec WS.ReaderDecodes WS.Witness

/-- a bufio.Reader of 4096 bytes holding 3 buffered bytes over a transport that will deliver two more
    chunks and then fail with a transport error -/
def witBuf : Buf :=
  { size := 4096, buf := [1, 2, 3], t := { chunks := [[4, 5], [6, 7, 8, 9]], term := .transport 3 }, total := 9 }

def witBuf_wf : WF witBuf := ⟨by decide, by decide, by decide, (by intro e h; cases h)⟩

/-- non-vacuity of `take_is_stream_prefix`: a 4-byte header read across the buffer/transport border -/
example : (witBuf.take 4).1 = [1, 2, 3, 4] ∧ (witBuf.take 4).2.1 = none ∧
    (witBuf.take 4).2.2.pending = [5, 6, 7, 8, 9] ∧ WF (witBuf.take 4).2.2 ∧ Same witBuf (witBuf.take 4).2.2 :=
  take_is_stream_prefix witBuf witBuf_wf 4 (by decide) (by decide)

/-- non-vacuity of `read_is_stream_prefix`: Read(2) -/
example : (witBuf.read 2).1 ++ (witBuf.read 2).2.2.pending = witBuf.pending ∧ (witBuf.read 2).1.length ≤ 2 ∧
    (witBuf.pending ≠ [] → (witBuf.read 2).1 ≠ []) ∧
    (∀ e, (witBuf.read 2).2.1 = some e → (witBuf.read 2).2.2.pending = [] ∧ e = witBuf.t.term) ∧
    (witBuf.pending = [] → (witBuf.read 2).2.1 = some witBuf.t.term) ∧
    WF (witBuf.read 2).2.2 ∧ Same witBuf (witBuf.read 2).2.2 :=
  read_is_stream_prefix witBuf witBuf_wf 2 (by decide)

/-- non-vacuity of `skip_is_stream_drop`: skipping 7 of the 9 pending bytes -/
example : (witBuf.skip 7).1 = none ∧ (witBuf.skip 7).2.pending = [8, 9] ∧ WF (witBuf.skip 7).2 ∧ Same witBuf (witBuf.skip 7).2 :=
  skip_is_stream_drop witBuf witBuf_wf 7 (by decide)

/-- instance of `unmask_across_reads` (no hypotheses): "Hello" split 2 + 3 at key offset 3 -/
example : maskFrom ⟨0x37, 0xfa, 0x21, 0x3d⟩ 3 ([0x48, 0x65] ++ [0x6c, 0x6c, 0x6f]) =
    maskFrom ⟨0x37, 0xfa, 0x21, 0x3d⟩ 3 [0x48, 0x65] ++ maskFrom ⟨0x37, 0xfa, 0x21, 0x3d⟩ ((3 + 2) % 4) [0x6c, 0x6c, 0x6f] :=
  unmask_across_reads _ 3 _ _

/-- a text message "Hello" in two fragments ("Hel" non-final, "lo" final) with a ping "p" in between,
    each frame masked with its own key (the reader is a server) -/
def witMsg : List PFrame :=
  [{ op := 1, fin := false, key := ⟨0x37, 0xfa, 0x21, 0x3d⟩, payload := [0x48, 0x65, 0x6c] },
   { op := 9, fin := true, key := ⟨1, 2, 3, 4⟩, payload := [0x70] },
   { op := 0, fin := true, key := ⟨0xa0, 0xb0, 0xc0, 0xd0⟩, payload := [0x6c, 0x6f] }]

def witMsg_shape : MsgShape 1 witMsg :=
  MsgShape.frag _ _ rfl rfl (by decide)
    (Tail.ctl _ _ ⟨Or.inl rfl, rfl, by decide⟩ (Tail.last _ rfl rfl (by decide)))

def witMsg_size : (dataPayload witMsg).length < 2 ^ 62 := by decide

/-- a second, unfragmented binary message of 4 bytes preceded by a pong -/
def witMsg2 : List PFrame :=
  [{ op := 10, fin := true, key := ⟨5, 6, 7, 8⟩, payload := [] },
   { op := 2, fin := true, key := ⟨9, 8, 7, 6⟩, payload := [0xde, 0xad, 0xbe, 0xef] }]

def witMsg2_shape : MsgShape 2 witMsg2 :=
  MsgShape.ctl _ _ ⟨Or.inr rfl, rfl, by decide⟩ (MsgShape.single _ rfl rfl (by decide))

def witMsg2_size : (dataPayload witMsg2).length < 2 ^ 62 := by decide

/-- the wire bytes of the two messages followed by the first byte of a third frame -/
def witWire : Bytes := encAll true witMsg ++ encAll true witMsg2 ++ [0x81]

/-- a server connection, reader idle, 4096-byte bufio.Reader that has buffered the first 5 wire bytes;
    the rest arrives in chunks of 7 bytes, then the transport times out -/
def witSrv : Conn :=
  { w := newW true 4096 false false,
    r := { isServer := true, nego := false, hlog := [.pong []],
           buf := { size := 4096, buf := witWire.take 5,
                    t := { chunks := [(witWire.drop 5).take 7, (witWire.drop 12).take 7, (witWire.drop 19).take 7, witWire.drop 26],
                           term := .transport 1 },
                    total := witWire.length } } }

example : witWire.length = 41 := by decide

def witSrv_idle : ReaderIdle witSrv :=
  ⟨rfl, rfl, rfl, ⟨by decide, by decide, by decide, (by intro e h; cases h)⟩, by decide, by decide,
    (by intro id h; cases h), (by intro id h; cases h)⟩

/-- its unread bytes are the two messages and the stray byte (buffer and chunks evaluated once) -/
def witSrv_pending : witSrv.r.buf.pending = encAll true witMsg ++ encAll true witMsg2 ++ [0x81] := by decide

/-- … the same with the second message counted among the bytes that follow the first -/
def witSrv_pending1 : witSrv.r.buf.pending = encAll true witMsg ++ (encAll true witMsg2 ++ [0x81]) :=
  witSrv_pending.trans (List.append_assoc ..)

def witSrv_nolimit : witSrv.r.limit ≤ 0 := Int.le_refl 0

/-- non-vacuity of `read_message`: `ReaderIdle`, `MsgShape`, the pending bytes, `hend`, the size and
    limit hypotheses hold together; reads of 2 bytes -/
example : ∃ c1 rid, nextReader witSrv = (.msg 1 rid false, c1) ∧
      ∃ c2, readAll c1 rid 2 = (([0x48, 0x65, 0x6c, 0x6c, 0x6f], none), c2) ∧ ReaderIdle c2 ∧
        c2.r.buf.pending = encAll true witMsg2 ++ [0x81] ∧
        c2.r.hlog = [.pong [], .ping [0x70]] :=
  read_message witSrv witSrv_idle 1 (Or.inl rfl) witMsg witMsg_shape (encAll true witMsg2 ++ [0x81])
    witSrv_pending1 (Or.inl rfl) witMsg_size (Or.inl witSrv_nolimit) 2 (by decide)

/-- non-vacuity of `abandon_then_next`: the first message is abandoned after one Read of 2 bytes and
    one of 1 byte; the second message is then read with 3-byte reads -/
example : ∃ c1 rid1, nextReader witSrv = (.msg 1 rid1 false, c1) ∧
      ∃ c3 rid2, nextReader (partialReads c1 rid1 [2, 1]) = (.msg 2 rid2 false, c3) ∧
        ∃ c4, readAll c3 rid2 3 = (([0xde, 0xad, 0xbe, 0xef], none), c4) ∧ ReaderIdle c4 ∧ c4.r.buf.pending = [0x81] ∧
          c4.r.hlog = [.pong []] ++ [.ping [0x70]] ++ [.pong []] :=
  abandon_then_next witSrv witSrv_idle 1 2 (Or.inl rfl) (Or.inr rfl) witMsg witMsg2 witMsg_shape witMsg2_shape [0x81]
    witSrv_pending (Or.inl rfl) ⟨witMsg_size, witMsg2_size⟩ witSrv_nolimit [2, 1] 3 (by decide)

/-- the two messages of `witWire` as a sequence: text "Hello" in two fragments with a ping in between,
    then (after a pong) a single-frame binary message -/
def witMsgs : List (Nat × List PFrame) := [(1, witMsg), (2, witMsg2)]

def witMsgs_ok : ∀ m ∈ witMsgs, (m.1 = 1 ∨ m.1 = 2) ∧ MsgShape m.1 m.2 ∧ (dataPayload m.2).length < 2 ^ 62 := by
  intro m hm
  simp only [witMsgs, List.mem_cons, List.not_mem_nil, or_false] at hm
  rcases hm with rfl | rfl
  · exact ⟨Or.inl rfl, witMsg_shape, by decide⟩
  · exact ⟨Or.inr rfl, witMsg2_shape, by decide⟩

/-- `witMsgs_ok` with the read-limit clause of `join_messages` and `any_read_program`, for any reader -/
def witMsgs_fit {l : Int} (h : l ≤ 0 ∨ 5 ≤ l) : ∀ m ∈ witMsgs, (m.1 = 1 ∨ m.1 = 2) ∧ MsgShape m.1 m.2 ∧
    (dataPayload m.2).length < 2 ^ 62 ∧ (l ≤ 0 ∨ ((dataPayload m.2).length : Int) ≤ l) := by
  intro m hm
  obtain ⟨h1, h2, h3⟩ := witMsgs_ok m hm
  refine ⟨h1, h2, h3, h.imp_right fun h5 => Int.le_trans ?_ h5⟩
  simp only [witMsgs, List.mem_cons, List.not_mem_nil, or_false] at hm
  rcases hm with rfl | rfl <;> decide

def witSrv_pendingAll :
    witSrv.r.buf.pending = (witMsgs.map (fun m => encAll true m.2)).flatten ++ [0x81] := by
  rw [witSrv_pending1]; simp [witMsgs]

/-- non-vacuity of `read_messages`: `ReaderIdle`, the per-message hypotheses (type, `MsgShape`, size),
    the pending bytes = the masked encodings of both messages ++ [0x81], `hend` and the limit
    hypothesis hold together for the server reader `witSrv`; reads of 2 bytes -/
example : ∃ c', WS.Sequences.readMsgs 2 2 witSrv =
        ([(1, [0x48, 0x65, 0x6c, 0x6c, 0x6f]), (2, [0xde, 0xad, 0xbe, 0xef])], c') ∧
      ReaderIdle c' ∧ c'.r.buf.pending = [0x81] ∧
      c'.r.hlog = [.pong []] ++ [.ping [0x70], .pong []] :=
  read_messages witSrv witSrv_idle witMsgs witMsgs_ok [0x81] witSrv_pendingAll (Or.inl rfl) witSrv_nolimit 2 (by decide)

/-- the same instance evaluated directly on the model -/
example : (WS.Sequences.readMsgs 2 2 witSrv).1 = [(1, [0x48, 0x65, 0x6c, 0x6c, 0x6f]), (2, [0xde, 0xad, 0xbe, 0xef])] ∧
    (WS.Sequences.readMsgs 2 2 witSrv).2.r.hlog = [.pong [], .ping [0x70], .pong []] := by decide +kernel

section Z
open WS.ReaderZ

/-- first frame of a compressed text message: 4 bytes of deflate stream, non-final; on the wire it
    carries RSV1 (`encZ`) -/
def witZFirst : PFrame :=
  { op := 1, fin := false, key := ⟨0x37, 0xfa, 0x21, 0x3d⟩, payload := [0xf2, 0x48, 0xcd, 0xc9] }

/-- … followed by a ping "p" and the final continuation with the last 3 bytes of the deflate stream -/
def witZMore : List PFrame :=
  [{ op := 9, fin := true, key := ⟨1, 2, 3, 4⟩, payload := [0x70] },
   { op := 0, fin := true, key := ⟨0xa0, 0xb0, 0xc0, 0xd0⟩, payload := [0xc9, 0x07, 0x00] }]

def witZ_shape : ZShape 1 witZFirst witZMore :=
  ⟨rfl, by decide, Or.inr ⟨rfl, Tail.ctl _ _ ⟨Or.inl rfl, rfl, by decide⟩ (Tail.last _ rfl rfl (by decide))⟩⟩

/-- the wire bytes of the compressed message followed by the first byte of the next frame -/
def witZWire : Bytes := encZ true witZFirst ++ encAll true witZMore ++ [0x81]

example : witZWire.length = 27 := by decide
/-- the first wire byte is 0x41: text, FIN clear, RSV1 set -/
example : witZWire.take 2 = [0x41, 0x84] := by decide

/-- a server connection with permessage-deflate negotiated, reader idle, 4096-byte bufio.Reader that
    has buffered the first 5 wire bytes; the rest arrives in two chunks (9 and 13 bytes), then the
    transport times out -/
def witSrvZ : Conn :=
  { w := newW true 4096 false false,
    r := { isServer := true, nego := true, hlog := [.pong []],
           buf := { size := 4096, buf := witZWire.take 5,
                    t := { chunks := [(witZWire.drop 5).take 9, witZWire.drop 14],
                           term := .transport 1 },
                    total := witZWire.length } } }

def witSrvZ_idle : ReaderIdle witSrvZ :=
  ⟨rfl, rfl, rfl, ⟨by decide, by decide, by decide, (by intro e h; cases h)⟩, by decide, by decide,
    (by intro id h; cases h), (by intro id h; cases h)⟩

/-- non-vacuity of `read_compressed_message`: `ReaderIdle`, `nego = true`, `ZShape`, the pending bytes,
    `hend`, the size and limit hypotheses hold together; reads of 2 bytes. NextReader reports
    `z = true` and the raw bytes handed to the decompressor are the concatenated payloads. -/
example : ∃ c1 rid, nextReader witSrvZ = (.msg 1 rid true, c1) ∧
      ∃ c2, readAll c1 rid 2 = (([0xf2, 0x48, 0xcd, 0xc9, 0xc9, 0x07, 0x00], none), c2) ∧ ReaderIdle c2 ∧
        c2.r.buf.pending = [0x81] ∧ c2.r.hlog = [.pong [], .ping [0x70]] :=
  read_compressed_message witSrvZ witSrvZ_idle rfl 1 (Or.inl rfl) witZFirst witZMore witZ_shape [0x81]
    (by decide) (Or.inl rfl) (by decide) (Or.inl (by decide)) 2 (by decide)

/-- the same instance evaluated directly on the model: compressed flag and message type -/
example : ∃ rid, (nextReader witSrvZ).1 = .msg 1 rid true := ⟨_, rfl⟩

/-- the same wire bytes on a connection where compression was NOT negotiated -/
def witSrvNoZ : Conn := { witSrvZ with r := { witSrvZ.r with nego := false } }

def witSrvNoZ_idle : ReaderIdle witSrvNoZ :=
  ⟨rfl, rfl, rfl, ⟨by decide, by decide, by decide, (by intro e h; cases h)⟩, by decide, by decide,
    (by intro id h; cases h), (by intro id h; cases h)⟩

/-- non-vacuity of `compressed_frame_refused_when_not_negotiated`: the RSV1 first frame is refused with
    a protocol error and no handler ran -/
example : ∃ msg c', nextReader witSrvNoZ = (.err (.protocol msg), c') ∧ c'.r.hlog = [.pong []] :=
  compressed_frame_refused_when_not_negotiated witSrvNoZ witSrvNoZ_idle rfl 1 (Or.inl rfl) witZFirst rfl
    (encAll true witZMore ++ [0x81]) (by decide) rfl

end Z

section Join
open WS.JoinLaw

/-- non-vacuity of `join_message`: `witSrv` read through JoinMessages with terminator "\n" and reads of
    3 bytes delivers "Hello\n" -/
example : ∃ c', joinMsg 20 witSrv .idle [10] 3 [] = (([0x48, 0x65, 0x6c, 0x6c, 0x6f, 10], none), c', .idle) ∧
      ReaderIdle c' ∧ c'.r.buf.pending = encAll true witMsg2 ++ [0x81] ∧
      c'.r.hlog = [.pong [], .ping [0x70]] :=
  join_message witSrv witSrv_idle 1 (Or.inl rfl) witMsg witMsg_shape (encAll true witMsg2 ++ [0x81])
    witSrv_pending1 (Or.inl rfl) witMsg_size witSrv_nolimit [10] 3 (by decide) 20 (by decide)

/-- non-vacuity of `join_two_messages`: "Hello\n" and then the 4 binary bytes plus "\n", nothing mixed -/
example : ∃ c1 c2, joinMsg 20 witSrv .idle [10] 3 [] = (([0x48, 0x65, 0x6c, 0x6c, 0x6f, 10], none), c1, .idle) ∧
      joinMsg 20 c1 .idle [10] 3 [] = (([0xde, 0xad, 0xbe, 0xef, 10], none), c2, .idle) ∧
      ReaderIdle c2 ∧ c2.r.buf.pending = [0x81] :=
  join_two_messages witSrv witSrv_idle 1 2 (Or.inl rfl) (Or.inr rfl) witMsg witMsg2 witMsg_shape witMsg2_shape [0x81]
    witSrv_pending (Or.inl rfl) ⟨witMsg_size, witMsg2_size⟩ witSrv_nolimit [10] 3 (by decide) 20 (by decide)

/-- the bytes delivered, evaluated directly on the model -/
example : (joinMsg 20 witSrv .idle [10] 3 []).1 = ([0x48, 0x65, 0x6c, 0x6c, 0x6f, 10], none) := by decide

/-- non-vacuity of `join_messages` (and of `join_message_limited` inside it): both messages of the
    witness stream through JoinMessages under a read limit of 5 bytes — exactly the size of the larger
    message — as one statement -/
example : ∃ c', WS.JoinSeq.joinMsgs 20 [10] 3 2 { witSrv with r := { witSrv.r with limit := 5 } } [] =
        (([0x48, 0x65, 0x6c, 0x6c, 0x6f, 10, 0xde, 0xad, 0xbe, 0xef, 10], none), c') ∧
      ReaderIdle c' ∧ c'.r.buf.pending = [0x81] := by
  obtain ⟨c', h1, h2, h3, _⟩ := join_messages _ (witSrv_idle.setLimit 5) witMsgs (witMsgs_fit (Or.inr (Int.le_refl 5)))
    [0x81] witSrv_pendingAll (Or.inl rfl) [10] 3 (by decide) 20
    (by
      intro m hm
      simp only [witMsgs, List.mem_cons, List.not_mem_nil, or_false] at hm
      rcases hm with rfl | rfl <;> decide)
  exact ⟨c', h1, h2, h3⟩

end Join

section Mixed
open WS.MixedReads

/-- non-vacuity of `read_message_mixed`, list of sizes ending INSIDE the message: `ReaderIdle`,
    `MsgShape`, the pending bytes, `hend`, the size and limit hypotheses and `∀ k ∈ ks, 0 < k` hold
    together for `witSrv` / `witMsg` with `ks = [1, 3]`, then reads of 2 bytes to the end -/
example : ∃ c1 rid, nextReader witSrv = (.msg 1 rid false, c1) ∧
      ∃ pre st c2, zFills [1, 3] c1 rid [] = ((pre, st), c2) ∧
        ((st = some .eof ∧ pre = [0x48, 0x65, 0x6c, 0x6c, 0x6f] ∧ ReaderIdle c2 ∧
            c2.r.buf.pending = encAll true witMsg2 ++ [0x81] ∧ c2.r.hlog = [.pong [], .ping [0x70]]) ∨
         (st = none ∧ ∃ suf c3, readAll c2 rid 2 = ((suf, none), c3) ∧ pre ++ suf = [0x48, 0x65, 0x6c, 0x6c, 0x6f] ∧
            ReaderIdle c3 ∧ c3.r.buf.pending = encAll true witMsg2 ++ [0x81] ∧
            c3.r.hlog = [.pong [], .ping [0x70]])) :=
  read_message_mixed witSrv witSrv_idle 1 (Or.inl rfl) witMsg witMsg_shape (encAll true witMsg2 ++ [0x81])
    witSrv_pending1 (Or.inl rfl) witMsg_size witSrv_nolimit [1, 3] (by decide) 2 (by decide)

/-- … evaluated on the model: the second alternative holds. Read(1) = "H"; Read(3) = "el" (a Read
    never crosses a frame border), no end-of-message yet; the reads of 2 bytes then deliver "lo"
    (after the ping handler ran) -/
example : (zFills [1, 3] (nextReader witSrv).2 0 []).1 = ([0x48, 0x65, 0x6c], none) ∧
    (readAll (zFills [1, 3] (nextReader witSrv).2 0 []).2 0 2).1 = ([0x6c, 0x6f], none) ∧
    (readAll (zFills [1, 3] (nextReader witSrv).2 0 []).2 0 2).2.r.hlog = [.pong [], .ping [0x70]] := by
  decide +kernel

/-- non-vacuity of `read_message_mixed`, list of sizes REACHING the end of the message:
    `ks = [2, 2, 4096, 7]` -/
example : ∃ c1 rid, nextReader witSrv = (.msg 1 rid false, c1) ∧
      ∃ pre st c2, zFills [2, 2, 4096, 7] c1 rid [] = ((pre, st), c2) ∧
        ((st = some .eof ∧ pre = [0x48, 0x65, 0x6c, 0x6c, 0x6f] ∧ ReaderIdle c2 ∧
            c2.r.buf.pending = encAll true witMsg2 ++ [0x81] ∧ c2.r.hlog = [.pong [], .ping [0x70]]) ∨
         (st = none ∧ ∃ suf c3, readAll c2 rid 2 = ((suf, none), c3) ∧ pre ++ suf = [0x48, 0x65, 0x6c, 0x6c, 0x6f] ∧
            ReaderIdle c3 ∧ c3.r.buf.pending = encAll true witMsg2 ++ [0x81] ∧
            c3.r.hlog = [.pong [], .ping [0x70]])) :=
  read_message_mixed witSrv witSrv_idle 1 (Or.inl rfl) witMsg witMsg_shape (encAll true witMsg2 ++ [0x81])
    witSrv_pending1 (Or.inl rfl) witMsg_size witSrv_nolimit [2, 2, 4096, 7] (by decide) 2 (by decide)

/-- … evaluated on the model: the first alternative holds ("He", "l", "lo", then io.EOF); the
    following bytes are untouched and the ping handler ran once -/
example : (zFills [2, 2, 4096, 7] (nextReader witSrv).2 0 []).1 = ([0x48, 0x65, 0x6c, 0x6c, 0x6f], some .eof) ∧
    (zFills [2, 2, 4096, 7] (nextReader witSrv).2 0 []).2.r.buf.pending = encAll true witMsg2 ++ [0x81] ∧
    (zFills [2, 2, 4096, 7] (nextReader witSrv).2 0 []).2.r.hlog = [.pong [], .ping [0x70]] := by
  decide +kernel

/-- the capacities [2, 3, 8] are strictly increasing from 0 -/
def witCaps_growing : Growing 0 [2, 3, 8] := by simp [Growing]

/-- non-vacuity of `read_message_any_caps`: the same witness read by ReadMessage with an allocator that
    answers the capacities 2, 3, 8 (requests of 2, 1, 5 bytes) -/
example : ∃ c1 rid, nextReader witSrv = (.msg 1 rid false, c1) ∧
      ∃ c2, readAllGrow c1 rid [2, 3, 8] = (([0x48, 0x65, 0x6c, 0x6c, 0x6f], none), c2) ∧ ReaderIdle c2 ∧
        c2.r.buf.pending = encAll true witMsg2 ++ [0x81] ∧ c2.r.hlog = [.pong [], .ping [0x70]] :=
  read_message_any_caps witSrv witSrv_idle 1 (Or.inl rfl) witMsg witMsg_shape (encAll true witMsg2 ++ [0x81])
    witSrv_pending1 (Or.inl rfl) witMsg_size witSrv_nolimit [2, 3, 8] witCaps_growing

/-- … and with no measured capacities at all (`caps = []`, `Growing 0 []` is trivial: the model starts
    at 512 and grows by 8192) -/
example : ∃ c1 rid, nextReader witSrv = (.msg 1 rid false, c1) ∧
      ∃ c2, readAllGrow c1 rid [] = (([0x48, 0x65, 0x6c, 0x6c, 0x6f], none), c2) ∧ ReaderIdle c2 ∧
        c2.r.buf.pending = encAll true witMsg2 ++ [0x81] ∧ c2.r.hlog = [.pong [], .ping [0x70]] :=
  read_message_any_caps witSrv witSrv_idle 1 (Or.inl rfl) witMsg witMsg_shape (encAll true witMsg2 ++ [0x81])
    witSrv_pending1 (Or.inl rfl) witMsg_size witSrv_nolimit [] (by simp [Growing])

/-- `readAllGrow` evaluated on the model for both capacity lists -/
example : (readAllGrow (nextReader witSrv).2 0 [2, 3, 8]).1 = ([0x48, 0x65, 0x6c, 0x6c, 0x6f], none) ∧
    (readAllGrow (nextReader witSrv).2 0 [2, 3, 8]).2.r.buf.pending = encAll true witMsg2 ++ [0x81] ∧
    (readAllGrow (nextReader witSrv).2 0 [2, 3, 8]).2.r.hlog = [.pong [], .ping [0x70]] ∧
    (readAllGrow (nextReader witSrv).2 0 []).1 = ([0x48, 0x65, 0x6c, 0x6c, 0x6f], none) := by
  decide +kernel

end Mixed

section Program
open WS.ReadProgram

/-- a program that reads before opening anything, opens the first message, reads 2 bytes, abandons it,
    opens the second, reads it in pieces of up to 3 bytes, reads on past its end -/
def witProg : List ROp := [.read 5, .next, .read 1, .next, .read 2, .read 2, .read 2, .read 0]

/-- non-vacuity of `any_read_program`: the hypotheses hold for `witSrv` and the two witness messages -/
example : Ok witProg [(1, dataPayload witMsg), (2, dataPayload witMsg2)] none false (runProg witProg witSrv none).1 :=
  any_read_program witSrv witSrv_idle witMsgs (witMsgs_fit (Or.inl witSrv_nolimit))
    [0x81] witSrv_pendingAll (Or.inl rfl) witProg (by decide)

/-- the trace of that run, evaluated on the model: "He", then the second message although "llo" and a
    ping were still unread, its four bytes in pieces of 3 and 1, end-of-message twice -/
example : (runProg witProg witSrv none).1 =
    [.opened 1, .ret [0x48, 0x65] none, .opened 2, .ret [0xde, 0xad, 0xbe] none, .ret [0xef] none,
     .ret [] (some .eof), .ret [] (some .eof)] := by decide +kernel

end Program

end NonVacuity

end WS.Props.C03
