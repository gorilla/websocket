import WS.Gen.Skeletons
/-
  C10 — translator tie: the statement text of the functions this property's model transcribes, regenerated
  from /repo by factgen on every run (WS/Gen/Skeletons.lean), equals the text the model was written against.
  A change to one of these functions breaks the obligation below; the check then searches for a failing
  input with the property's oracles (DESIGN §5).
-/
namespace WS.Props.C10Tie
open WS

/-- Conn.write, writeFatal and flushFrame (error paths) are the modelled ones -/
theorem failstop_sites_as_modelled :
    Gen.stmts_connWrite =
      ["<-c.mu",
        "defer func() { c.mu <- struct{}{} }()",
        "c.writeErrMu.Lock()",
        "err := c.writeErr",
        "c.writeErrMu.Unlock()",
        "if err != nil { return err }",
        "if err := c.conn.SetWriteDeadline(deadline); err != nil { return c.writeFatal(err) }",
        "if len(buf1) == 0 { _, err = c.conn.Write(buf0) } else { err = c.writeBufs(buf0, buf1) }",
        "if err != nil { return c.writeFatal(err) }",
        "if frameType == CloseMessage { _ = c.writeFatal(ErrCloseSent) }",
        "return nil"] ∧
    Gen.stmts_writeFatal =
      ["c.writeErrMu.Lock()",
        "if c.writeErr == nil { c.writeErr = err }",
        "c.writeErrMu.Unlock()",
        "return err"] ∧
    Gen.stmts_flushFrame =
      ["c := w.c",
        "length := w.pos - maxFrameHeaderSize + len(extra)",
        "if isControl(w.frameType) && (!final || length > maxControlFramePayloadSize) { return w.endMessage(errInvalidControlFrame) }",
        "b0 := byte(w.frameType)",
        "if final { b0 |= finalBit }",
        "if w.compress { b0 |= rsv1Bit }",
        "w.compress = false",
        "b1 := byte(0)",
        "if !c.isServer { b1 |= maskBit }",
        "framePos := 0",
        "if c.isServer { framePos = 4 }",
        "switch { case length >= 65536: c.writeBuf[framePos] = b0 c.writeBuf[framePos+1] = b1 | 127 binary.BigEndian.PutUint64(c.writeBuf[framePos+2:], uint64(length)) case length > 125: framePos += 6 c.writeBuf[framePos] = b0 c.writeBuf[framePos+1] = b1 | 126 binary.BigEndian.PutUint16(c.writeBuf[framePos+2:], uint16(length)) default: framePos += 8 c.writeBuf[framePos] = b0 c.writeBuf[framePos+1] = b1 | byte(length) }",
        "if !c.isServer { key := newMaskKey() copy(c.writeBuf[maxFrameHeaderSize-4:], key[:]) maskBytes(key, 0, c.writeBuf[maxFrameHeaderSize:w.pos]) if len(extra) > 0 { return w.endMessage(c.writeFatal(errors.New(\"websocket: internal error, extra used in client mode\"))) } }",
        "if c.isWriting { panic(\"concurrent write to websocket connection\") }",
        "c.isWriting = true",
        "err := c.write(w.frameType, c.writeDeadline, c.writeBuf[framePos:w.pos], extra)",
        "if !c.isWriting { panic(\"concurrent write to websocket connection\") }",
        "c.isWriting = false",
        "if err != nil { return w.endMessage(err) }",
        "if final { _ = w.endMessage(errWriteClosed) return nil }",
        "w.pos = maxFrameHeaderSize",
        "w.frameType = continuationFrame",
        "return nil"] :=
  ⟨rfl, rfl, rfl⟩


/-- SetWriteDeadline only records the deadline; it is applied by Conn.write per frame -/
theorem set_write_deadline_as_modelled :
    Gen.stmts_SetWriteDeadline =
      ["c.writeDeadline = t",
        "return nil"] :=
  rfl

end WS.Props.C10Tie
