import WS.Model.Plan
/-
  C16 — Handshakes clean up on every failure path and leave no deadline on success.
  Theorems over the plan machine of WS/Model/Plan.lean (direct dial, plain HTTP CONNECT proxy,
  Upgrade after the hijack); the plan itself is compared with the operations the real Dial /
  Upgrade perform, with every operation failing in turn (stream hsfault). TLS and SOCKS5 internals
  are observed, not modelled (C18).
-/
namespace WS.Props.C16
open WS.Plan

/-- fail_closes: whichever operation fails, no Conn is returned, the net.Conn is closed, and the
    close is the last thing done to it -/
theorem fail_closes (cfg : Cfg) (k : Nat) (hk : k < (plan cfg).length) :
    (exec (plan cfg) (some k)).returned = false ∧ (exec (plan cfg) (some k)).closed = true ∧
    (exec (plan cfg) (some k)).ops = (plan cfg).take (k + 1) ++ [.c] := by
  unfold exec; simp [hk]

/-- success_open_no_deadline: on success the Conn is returned open, and the last deadline operation
    of the handshake sets the zero time -/
theorem success_open_no_deadline (cfg : Cfg) :
    (exec (plan cfg) none).returned = true ∧ (exec (plan cfg) none).closed = false ∧
    (((exec (plan cfg) none).ops.filter isDeadlineOp).getLast? = some .sd0 ∨
     ((exec (plan cfg) none).ops.filter isDeadlineOp).getLast? = some .swd0) := by
  obtain ⟨s, t, p⟩ := cfg
  cases s <;> cases t <;> cases p <;> decide

/-- ops_under_deadline: with a handshake timeout / context deadline the first operation of the client
    handshake arms it, so every later operation runs under it -/
theorem ops_under_deadline (cfg : Cfg) (hs : cfg.server = false) (ht : cfg.timeout = true) :
    (plan cfg).head? = some .sdD := by
  -- the plan of a client with a timeout is `[.sdD] ++ …`
  unfold plan
  rw [hs, ht]
  rfl

/-- in the plan machine nothing is written after the failing operation: the executed sequence is the plan up to
    the failure followed (for a non-close failure) by one close. (By definition of `Plan.exec`; the content of C16 is
    that the operation sequences RECORDED from the real Dial / Upgrade equal `exec` for every configuration and every
    failing operation — stream hsfault.) -/
theorem no_write_after_failure (cfg : Cfg) (k : Nat) (hk : k < (plan cfg).length) :
    ((exec (plan cfg) (some k)).ops.drop (k + 1)) = [.c] := by
  rw [(fail_closes cfg k hk).2.2]
  exact List.drop_left' (by rw [List.length_take]; omega)

/-- non-vacuity: a direct dial with a timeout whose reply read fails -/
example : exec (plan ⟨false, true, false⟩) (some 2) = ⟨[.sdD, .w, .r, .c], false, true⟩ := by decide

section NonVacuity
set_option linter.defProp false

/-- a client dial through a plain HTTP CONNECT proxy with a handshake timeout:
    plan = [sdD, w, r, w, r, sd0] -/
def witCfg : Cfg := ⟨false, true, true⟩
/-- an Upgrade (server side) with a handshake timeout: plan = [swdD, w, swd0] -/
def witSrv : Cfg := ⟨true, true, false⟩
/-- witness for `fail_closes` / `no_write_after_failure`: operation 3 (the write of the upgrade
    request after the CONNECT exchange) is in the middle of the six-operation plan -/
def witCfg_k : 3 < (plan witCfg).length := by decide

example : plan witCfg = [.sdD, .w, .r, .w, .r, .sd0] := by decide

/-- non-vacuity of `fail_closes`: proxy + timeout dial whose 4th operation (k = 3) fails -/
example : (exec (plan witCfg) (some 3)).returned = false ∧ (exec (plan witCfg) (some 3)).closed = true ∧
    (exec (plan witCfg) (some 3)).ops = (plan witCfg).take (3 + 1) ++ [.c] :=
  fail_closes witCfg 3 witCfg_k
example : exec (plan witCfg) (some 3) = ⟨[.sdD, .w, .r, .w, .c], false, true⟩ := by decide
/-- non-vacuity of `fail_closes`: Upgrade with timeout whose response write (k = 1) fails -/
example : (exec (plan witSrv) (some 1)).returned = false ∧ (exec (plan witSrv) (some 1)).closed = true ∧
    (exec (plan witSrv) (some 1)).ops = (plan witSrv).take (1 + 1) ++ [.c] :=
  fail_closes witSrv 1 (by decide)

/-- instance of `success_open_no_deadline` on the proxy + timeout dial -/
example : ((exec (plan witCfg) none).ops.filter isDeadlineOp).getLast? = some .sd0 := by decide

/-- non-vacuity of `ops_under_deadline`: a client configuration (proxy) with a timeout -/
example : (plan witCfg).head? = some .sdD := ops_under_deadline witCfg rfl rfl
/-- non-vacuity of `ops_under_deadline`: a direct dial with a timeout -/
example : (plan ⟨false, true, false⟩).head? = some .sdD := ops_under_deadline ⟨false, true, false⟩ rfl rfl

/-- non-vacuity of `no_write_after_failure`: proxy + timeout dial, k = 3 in the middle of the plan -/
example : ((exec (plan witCfg) (some 3)).ops.drop (3 + 1)) = [.c] :=
  no_write_after_failure witCfg 3 witCfg_k
/-- non-vacuity of `no_write_after_failure`: Upgrade with timeout whose response write (k = 1) fails -/
example : ((exec (plan witSrv) (some 1)).ops.drop (1 + 1)) = [.c] :=
  no_write_after_failure witSrv 1 (by decide)

end NonVacuity

end WS.Props.C16
