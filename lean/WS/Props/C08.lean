import WS.Lemmas.ReadProgram
import WS.Lemmas.AuditGaps
import WS.Lemmas.ReaderMore
import WS.Lemmas.ReaderRejects
import WS.Lemmas.ReaderDecodes
import WS.Lemmas.Witness
/-
  C08 — Control frames: handlers see each frame once; ping answered, close echoed.
-/
namespace WS.Props.C08
open WS WS.HdrLogic WS.SrcLaw WS.ReaderRejects

/-- default_ping_pong: a ping of 0..125 bytes reaches the ping handler once with its exact payload
    and, with the default handler, is answered by one pong carrying the identical payload -/
theorem default_ping_pong (c : Conn) (hc : AtBoundary c) (hw : WHealthy c.w) (hclient : c.r.isServer = false)
    (hd : c.r.hPing = .dflt) (payload rest : Bytes) (hl : payload.length ≤ 125)
    (hp : c.r.buf.pending = [137, UInt8.ofNat payload.length] ++ payload ++ rest) :
    ∃ c', advanceFrame c = (.ok 9, c') ∧ c'.r.hlog = c.r.hlog ++ [.ping payload] ∧ c'.r.buf.pending = rest ∧
      c'.w.wire = c.w.wire ++ controlFrame c.w.isServer 10 payload (ctlKey c.w).1 ∧
      c'.r.readErr = none ∧ c'.r.final = c.r.final :=
  ReaderRejects.ping_answered c hc hw hclient hd payload rest hl hp

/-- default_close_echo: a close with an accepted code and UTF-8 reason is handed to the close handler once,
    echoed by a close frame with the same code, and reads fail with CloseError{code, reason} -/
theorem default_close_echo (c : Conn) (hc : AtBoundary c) (hw : WHealthy c.w) (hclient : c.r.isServer = false)
    (hd : c.r.hClose = .dflt) (code : Nat) (reason rest : Bytes)
    (hcode : isValidReceivedCloseCode code = true) (hc16 : code < 65536) (hutf : Spec.validUtf8 reason = true)
    (hl : reason.length ≤ 123)
    (hp : c.r.buf.pending = [136, UInt8.ofNat (2 + reason.length)] ++ beBytes 2 code ++ reason ++ rest) :
    ∃ c', advanceFrame c = (.error (.close code reason), c') ∧ c'.r.hlog = c.r.hlog ++ [.close code reason] ∧
      c'.w.wire = c.w.wire ++ controlFrame c.w.isServer 8 (closePayload code []) (ctlKey c.w).1 ∧
      c'.w.writeErr = some .closeSent :=
  ReaderRejects.close_echoed c hc hw hclient hd code reason rest hcode hc16 hutf hl hp

open WS.ReaderDecodes in
/-- handlers_exactly_once: while a conformant message is read to its end (any fragmentation, any read
    sizes), the handler log grows by exactly the pings / pongs interleaved with its fragments, in
    wire order, each with its exact payload -/
theorem handlers_exactly_once (c : Conn) (hc : ReaderIdle c) (t : Nat) (ht : t = 1 ∨ t = 2) (fs : List PFrame)
    (hs : MsgShape t fs) (rest : Bytes)
    (hp : c.r.buf.pending = encAll c.r.isServer fs ++ rest)
    (hend : c.r.buf.t.together = false ∨ rest ≠ [])
    (hsz : (dataPayload fs).length < 2 ^ 62) (hlim : c.r.limit ≤ 0)
    (k : Nat) (hk : 0 < k) :
    ∃ c1 rid c2, nextReader c = (.msg t rid false, c1) ∧ (readAll c1 rid k).2 = c2 ∧
      c2.r.hlog = c.r.hlog ++ ctlEvents fs := by
  obtain ⟨c1, rid, h1, c2, h2, _, _, h5⟩ := ReaderDecodes.read_message c hc t ht fs hs rest hp hend hsz (Or.inl hlim) k hk
  exact ⟨c1, rid, c2, h1, by rw [h2], h5⟩

/-- handler_error_sticky: an error returned by a handler is a read error like any other, hence
    permanent (C04.nextReader_sticky) -/
theorem handler_error_sticky (c : Conn) (id : Nat) (he : c.r.readErr = some (.handler id)) (hn : c.r.errCount + 1 < 1000) :
    ∃ c', nextReader c = (.err (.handler id), c') ∧ c'.r.readErr = some (.handler id) := by
  obtain ⟨c', h1, h2, _⟩ := ReaderRejects.nextReader_sticky c (.handler id) he hn
  exact ⟨c', h1, h2⟩

open WS.Codec WS.ReaderDecodes WS.RoleGeneric in
/-- default_ping_pong for either role (a server-side reader unmasks the ping with the frame's key; the
    pong carries the unmasked payload) -/
theorem default_ping_pong_any_role (c : Conn) (hc : AtBoundary c) (hw : WHealthy c.w) (hd : c.r.hPing = .dflt)
    (key : Key) (payload rest : Bytes) (hl : payload.length ≤ 125)
    (hp : c.r.buf.pending = PFrame.enc c.r.isServer ⟨9, true, key, payload⟩ ++ rest) :
    ∃ c', advanceFrame c = (.ok 9, c') ∧ c'.r.hlog = c.r.hlog ++ [.ping payload] ∧ c'.r.buf.pending = rest ∧
      c'.w.wire = c.w.wire ++ controlFrame c.w.isServer 10 payload (ctlKey c.w).1 ∧
      c'.r.readErr = none ∧ c'.r.final = c.r.final :=
  RoleGeneric.ping_answered_any c hc hw hd key payload rest hl hp

open WS.Codec WS.ReaderDecodes WS.RoleGeneric in
/-- default_close_echo for either role -/
theorem default_close_echo_any_role (c : Conn) (hc : AtBoundary c) (hw : WHealthy c.w) (hd : c.r.hClose = .dflt)
    (key : Key) (code : Nat) (reason rest : Bytes)
    (hcode : isValidReceivedCloseCode code = true) (hc16 : code < 65536) (hutf : Spec.validUtf8 reason = true)
    (hl : reason.length ≤ 123)
    (hp : c.r.buf.pending = PFrame.enc c.r.isServer ⟨8, true, key, beBytes 2 code ++ reason⟩ ++ rest) :
    ∃ c', advanceFrame c = (.error (.close code reason), c') ∧ c'.r.hlog = c.r.hlog ++ [.close code reason] ∧
      c'.w.wire = c.w.wire ++ controlFrame c.w.isServer 8 (closePayload code []) (ctlKey c.w).1 ∧
      c'.w.writeErr = some .closeSent :=
  RoleGeneric.close_echoed_any c hc hw hd key code reason rest hcode hc16 hutf hl hp


open WS.Codec WS.ReaderDecodes WS.RoleGeneric WS.AuditGaps in
/-- a close frame without a body is reported as CloseError 1005 with an empty reason; the default handler echoes -/
theorem empty_close_is_1005 (c : Conn) (hc : AtBoundary c) (hw : WHealthy c.w) (hd : c.r.hClose = .dflt)
    (key : Key) (rest : Bytes)
    (hp : c.r.buf.pending = PFrame.enc c.r.isServer ⟨8, true, key, []⟩ ++ rest) :
    ∃ c', advanceFrame c = (.error (.close 1005 []), c') ∧ c'.r.hlog = c.r.hlog ++ [.close 1005 []] ∧
      c'.w.writeErr = some .closeSent ∧ c.w.wire.length < c'.w.wire.length :=
  AuditGaps.empty_close_is_1005 c hc hw hd key rest hp

open WS.Codec WS.ReaderDecodes WS.RoleGeneric WS.AuditGaps in
/-- the error a ping handler returns is what the read call returns; it is latched and no pong is written -/
theorem failing_handler_error_returned (c : Conn) (hc : ReaderIdle' c) (id : Nat) (hh : c.r.hPing = .fail id)
    (key : Key) (payload rest : Bytes) (hl : payload.length ≤ 125) (hcnt : c.r.errCount = 0)
    (hp : c.r.buf.pending = PFrame.enc c.r.isServer ⟨9, true, key, payload⟩ ++ rest) :
    ∃ c', nextReader c = (.err (.handler id), c') ∧ c'.r.readErr = some (.handler id) ∧
      c'.r.hlog = c.r.hlog ++ [.ping payload] ∧ c'.w.wire = c.w.wire :=
  AuditGaps.failing_ping_handler c hc id hh key payload rest hl hcnt hp


open WS.Codec WS.ReaderDecodes WS.ReadProgram in
/-- C08 for EVERY read program (`runProg`, C03.any_read_program): whatever sequence of NextReader and
    Read(k) calls the application makes on a stream of conformant messages — reading everything, abandoning
    messages part-way, reading past their ends —, at every point the handler log is a PREFIX of the stream's
    ping / pong frames in wire order with their exact payloads: each control frame is handed to its handler
    at most once, never out of order, never with another payload, and none is invented
    (`handlers_exactly_once` is the case of a program that reads a message to its end: then all of its
    control frames have been handled) -/
theorem any_read_program_hlog (c : Conn) (hc : ReaderIdle c) (msgs : List (Nat × List PFrame))
    (hm : ∀ m ∈ msgs, (m.1 = 1 ∨ m.1 = 2) ∧ MsgShape m.1 m.2 ∧ (dataPayload m.2).length < 2 ^ 62 ∧
            (c.r.limit ≤ 0 ∨ ((dataPayload m.2).length : Int) ≤ c.r.limit))
    (rest : Bytes)
    (hp : c.r.buf.pending = (msgs.map (fun m => encAll c.r.isServer m.2)).flatten ++ rest)
    (hend : c.r.buf.t.together = false ∨ rest ≠ [])
    (ops : List ROp) (hn : (ops.filter ROp.isNext).length ≤ msgs.length) :
    (runProg ops c none).2.r.hlog <+: c.r.hlog ++ (msgs.map (fun m => ctlEvents m.2)).flatten :=
  WS.HlogProgram.any_read_program_hlog c hc msgs hm rest hp hend ops hn

section NonVacuity
set_option linter.defProp false
open WS WS.HdrLogic WS.SrcLaw WS.ReaderRejects WS.Codec WS.ReaderDecodes

/-- a client connection (default handlers, two keys in the key source) in the middle of a fragmented
    message; pending: a ping "ping!" (split over buffer and transport), then a close frame
    1001 "bye", then one stray byte -/
def witPing : Conn :=
  { w := { newW false 4096 false false with keys := [1, 2, 3, 4, 5, 6, 7, 8] },
    r := { isServer := false, nego := false, final := false, length := 3, msgReader := some 0, nextId := 1,
           hlog := [.pong [9]],
           buf := { size := 4096, buf := [137, 5, 0x70, 0x69],
                    t := { chunks := [[0x6e, 0x67, 0x21, 136, 5], [0x03, 0xE9, 0x62, 0x79, 0x65, 0xAA]] }, total := 15 } } }

def witPing_wf : WF witPing.r.buf := ⟨by decide, by decide, by decide, (by intro e h; cases h)⟩

/-- non-vacuity of `default_ping_pong`: all hypotheses hold for `witPing` -/
example : ∃ c', advanceFrame witPing = (.ok 9, c') ∧ c'.r.hlog = [.pong [9]] ++ [.ping [0x70, 0x69, 0x6e, 0x67, 0x21]] ∧
      c'.r.buf.pending = [136, 5, 0x03, 0xE9, 0x62, 0x79, 0x65, 0xAA] ∧
      c'.w.wire = witPing.w.wire ++ controlFrame witPing.w.isServer 10 [0x70, 0x69, 0x6e, 0x67, 0x21] (ctlKey witPing.w).1 ∧
      c'.r.readErr = none ∧ c'.r.final = witPing.r.final :=
  default_ping_pong witPing ⟨rfl, rfl, witPing_wf, by decide⟩ ⟨rfl, rfl⟩ rfl rfl [0x70, 0x69, 0x6e, 0x67, 0x21]
    [136, 5, 0x03, 0xE9, 0x62, 0x79, 0x65, 0xAA] (by decide) (by decide +kernel)

/-- evaluated: the pong on the wire is masked with the first key and carries the ping's payload -/
example : (advanceFrame witPing).2.w.wire = [0x8A, 0x85, 1, 2, 3, 4, 0x70 ^^^ 1, 0x69 ^^^ 2, 0x6e ^^^ 3, 0x67 ^^^ 4, 0x21 ^^^ 1] := by
  decide +kernel

/-- the connection after the ping was answered: the close frame 1001 "bye" is next -/
def witClose : Conn := (advanceFrame witPing).2

def witClose_atBoundary : AtBoundary witClose :=
  ⟨by decide, by decide, ⟨by decide, by decide, by decide, by decide⟩, by decide⟩

/-- what `default_close_echo` asks of `witClose` beyond `AtBoundary`, in one evaluation of `advanceFrame witPing`:
    write side healthy, client role, default close handler, and the close frame 1001 "bye" plus one stray byte pending -/
def witClose_facts : (witClose.w.writeErr = none ∧ witClose.w.faults = []) ∧ witClose.r.isServer = false ∧
    witClose.r.hClose = .dflt ∧ witClose.r.buf.pending = [136, 5] ++ beBytes 2 1001 ++ [0x62, 0x79, 0x65] ++ [0xAA] := by
  decide +kernel

/-- non-vacuity of `default_close_echo`: all hypotheses hold for `witClose` (a state produced by the
    model itself), code 1001, reason "bye" -/
example : ∃ c', advanceFrame witClose = (.error (.close 1001 [0x62, 0x79, 0x65]), c') ∧
      c'.r.hlog = witClose.r.hlog ++ [.close 1001 [0x62, 0x79, 0x65]] ∧
      c'.w.wire = witClose.w.wire ++ controlFrame witClose.w.isServer 8 (closePayload 1001 []) (ctlKey witClose.w).1 ∧
      c'.w.writeErr = some .closeSent :=
  default_close_echo witClose witClose_atBoundary witClose_facts.1 witClose_facts.2.1 witClose_facts.2.2.1 1001
    [0x62, 0x79, 0x65] [0xAA] (by decide) (by decide) (by decide) (by decide) witClose_facts.2.2.2

/-- a binary message 01 02 03 04 05 in three fragments with a ping and a pong in between, masked
    (the reader is a server) -/
def witMsg : List PFrame :=
  [{ op := 2, fin := false, key := ⟨0x37, 0xfa, 0x21, 0x3d⟩, payload := [1, 2] },
   { op := 9, fin := true, key := ⟨1, 2, 3, 4⟩, payload := [0x70] },
   { op := 0, fin := false, key := ⟨0xa0, 0xb0, 0xc0, 0xd0⟩, payload := [3] },
   { op := 10, fin := true, key := ⟨4, 3, 2, 1⟩, payload := [0x71, 0x72] },
   { op := 0, fin := true, key := ⟨0xff, 0, 0xff, 0⟩, payload := [4, 5] }]

def witMsg_shape : MsgShape 2 witMsg :=
  MsgShape.frag _ _ rfl rfl (by decide)
    (Tail.ctl _ _ ⟨Or.inl rfl, rfl, by decide⟩ (Tail.cont _ _ rfl rfl (by decide)
      (Tail.ctl _ _ ⟨Or.inr rfl, rfl, by decide⟩ (Tail.last _ rfl rfl (by decide)))))

/-- a server connection with recording ping / pong handlers, reader idle; the 38 wire bytes arrive in
    chunks of 9, followed by EOF -/
def witSrv : Conn :=
  { w := newW true 4096 false false,
    r := { isServer := true, nego := false, hPing := .record, hPong := .record,
           buf := { size := 4096, buf := [],
                    t := { chunks := [(encAll true witMsg).take 9, ((encAll true witMsg).drop 9).take 9,
                                      ((encAll true witMsg).drop 18).take 9, (encAll true witMsg).drop 27] },
                    total := 38 } } }

def witSrv_idle : ReaderIdle witSrv :=
  ⟨rfl, rfl, rfl, ⟨by decide, by decide, by decide, (by intro e h; cases h)⟩, by decide, by decide,
    (by intro id h; cases h), (by intro id h; cases h)⟩

/-- non-vacuity of `handlers_exactly_once`: reads of 1 byte -/
example : ∃ c1 rid c2, nextReader witSrv = (.msg 2 rid false, c1) ∧ (readAll c1 rid 1).2 = c2 ∧
      c2.r.hlog = witSrv.r.hlog ++ [.ping [0x70], .pong [0x71, 0x72]] :=
  handlers_exactly_once witSrv witSrv_idle 2 (Or.inr rfl) witMsg witMsg_shape [] (by decide +kernel) (Or.inl rfl)
    (by decide +kernel) (by decide) 1 (by decide)

/-- a client connection whose application ping handler returned error 42 on the previous call -/
def witHandlerFailed : Conn :=
  { w := { newW false 4096 false false with keys := [1, 2, 3, 4] },
    r := { isServer := false, nego := false, hPing := .fail 42, readErr := some (.handler 42), errCount := 1,
           hlog := [.ping [1, 2]], buf := { size := 4096, buf := [0x81, 0x01, 0x41], total := 7 } } }

/-- non-vacuity of `handler_error_sticky` -/
example : ∃ c', nextReader witHandlerFailed = (.err (.handler 42), c') ∧ c'.r.readErr = some (.handler 42) :=
  handler_error_sticky witHandlerFailed 42 rfl (by decide)

/-- a SERVER connection (default handlers) in the middle of a fragmented message; pending: a masked
    ping "ping!" with the non-zero key 37 fa 21 3d (split over buffer and two transport chunks), then the
    header of a masked close frame -/
def witSrvPing : Conn :=
  { w := newW true 4096 false false,
    r := { isServer := true, nego := false, final := false, length := 3, msgReader := some 0, nextId := 1,
           hlog := [.pong [9]],
           buf := { size := 4096, buf := (PFrame.enc true ⟨9, true, ⟨0x37, 0xfa, 0x21, 0x3d⟩, [0x70, 0x69, 0x6e, 0x67, 0x21]⟩).take 4,
                    t := { chunks := [((PFrame.enc true ⟨9, true, ⟨0x37, 0xfa, 0x21, 0x3d⟩, [0x70, 0x69, 0x6e, 0x67, 0x21]⟩).drop 4).take 4,
                                      (PFrame.enc true ⟨9, true, ⟨0x37, 0xfa, 0x21, 0x3d⟩, [0x70, 0x69, 0x6e, 0x67, 0x21]⟩).drop 8 ++ [0x88, 0x82]] },
                    total := 13 } } }

def witSrvPing_atBoundary : AtBoundary witSrvPing :=
  ⟨rfl, rfl, ⟨by decide, by decide, by decide, (by intro e h; cases h)⟩, by decide⟩

/-- the bytes really are masked: header 89 85, key, payload XOR key -/
example : witSrvPing.r.buf.pending =
    [0x89, 0x85, 0x37, 0xfa, 0x21, 0x3d, 0x70 ^^^ 0x37, 0x69 ^^^ 0xfa, 0x6e ^^^ 0x21, 0x67 ^^^ 0x3d, 0x21 ^^^ 0x37, 0x88, 0x82] := by
  decide +kernel

/-- non-vacuity of `default_ping_pong_any_role`: all hypotheses hold for the server reader `witSrvPing`
    and a masked ping with a non-zero key; the (unmasked, server-side) pong carries the unmasked payload -/
example : ∃ c', advanceFrame witSrvPing = (.ok 9, c') ∧
      c'.r.hlog = witSrvPing.r.hlog ++ [.ping [0x70, 0x69, 0x6e, 0x67, 0x21]] ∧ c'.r.buf.pending = [0x88, 0x82] ∧
      c'.w.wire = witSrvPing.w.wire ++ controlFrame witSrvPing.w.isServer 10 [0x70, 0x69, 0x6e, 0x67, 0x21] (ctlKey witSrvPing.w).1 ∧
      c'.r.readErr = none ∧ c'.r.final = witSrvPing.r.final :=
  default_ping_pong_any_role witSrvPing witSrvPing_atBoundary ⟨rfl, rfl⟩ rfl ⟨0x37, 0xfa, 0x21, 0x3d⟩
    [0x70, 0x69, 0x6e, 0x67, 0x21] [0x88, 0x82] (by decide) (Witness.cut3 _ _ 4 4)

/-- evaluated: the server's pong is unmasked and carries "ping!" -/
example : (advanceFrame witSrvPing).2.w.wire = [0x8A, 0x05, 0x70, 0x69, 0x6e, 0x67, 0x21] := by decide +kernel

/-- a SERVER connection (default handlers), reader idle; pending: a masked close frame 1001 "bye" with the
    non-zero key a0 b0 c0 d0 (split over buffer and transport), then one stray byte -/
def witSrvClose : Conn :=
  { w := newW true 4096 false false,
    r := { isServer := true, nego := false, hlog := [.ping [0x70]],
           buf := { size := 4096, buf := (PFrame.enc true ⟨8, true, ⟨0xa0, 0xb0, 0xc0, 0xd0⟩, beBytes 2 1001 ++ [0x62, 0x79, 0x65]⟩).take 3,
                    t := { chunks := [(PFrame.enc true ⟨8, true, ⟨0xa0, 0xb0, 0xc0, 0xd0⟩, beBytes 2 1001 ++ [0x62, 0x79, 0x65]⟩).drop 3 ++ [0xAA]] },
                    total := 12 } } }

def witSrvClose_atBoundary : AtBoundary witSrvClose :=
  ⟨rfl, rfl, ⟨by decide, by decide, by decide, (by intro e h; cases h)⟩, by decide⟩

example : witSrvClose.r.buf.pending =
    [0x88, 0x85, 0xa0, 0xb0, 0xc0, 0xd0, 0x03 ^^^ 0xa0, 0xE9 ^^^ 0xb0, 0x62 ^^^ 0xc0, 0x79 ^^^ 0xd0, 0x65 ^^^ 0xa0, 0xAA] := by
  decide +kernel

/-- non-vacuity of `default_close_echo_any_role`: all hypotheses hold for the server reader `witSrvClose`,
    code 1001, reason "bye", masked with a non-zero key -/
example : ∃ c', advanceFrame witSrvClose = (.error (.close 1001 [0x62, 0x79, 0x65]), c') ∧
      c'.r.hlog = witSrvClose.r.hlog ++ [.close 1001 [0x62, 0x79, 0x65]] ∧
      c'.w.wire = witSrvClose.w.wire ++ controlFrame witSrvClose.w.isServer 8 (closePayload 1001 []) (ctlKey witSrvClose.w).1 ∧
      c'.w.writeErr = some .closeSent :=
  default_close_echo_any_role witSrvClose witSrvClose_atBoundary ⟨rfl, rfl⟩ rfl ⟨0xa0, 0xb0, 0xc0, 0xd0⟩ 1001
    [0x62, 0x79, 0x65] [0xAA] (by decide) (by decide) (by decide) (by decide) (Witness.cut2 _ _ 3)

/-- evaluated: the server's close echo is unmasked and carries the code 1001 -/
example : (advanceFrame witSrvClose).2.w.wire = [0x88, 0x02, 0x03, 0xE9] := by decide +kernel

/-- a SERVER connection (default handlers), reader idle after one ping; pending: a masked close frame WITHOUT
    a body (header 88 80 and the key 37 fa 21 3d; the key bytes arrive in a second transport chunk), then one
    stray byte -/
def witSrvEmptyClose : Conn :=
  { w := newW true 4096 false false,
    r := { isServer := true, nego := false, hlog := [.ping [0x70]],
           buf := { size := 4096, buf := (PFrame.enc true ⟨8, true, ⟨0x37, 0xfa, 0x21, 0x3d⟩, []⟩).take 3,
                    t := { chunks := [(PFrame.enc true ⟨8, true, ⟨0x37, 0xfa, 0x21, 0x3d⟩, []⟩).drop 3 ++ [0xAA]] },
                    total := 7 } } }

def witSrvEmptyClose_atBoundary : AtBoundary witSrvEmptyClose :=
  ⟨rfl, rfl, ⟨by decide, by decide, by decide, (by intro e h; cases h)⟩, by decide⟩

example : witSrvEmptyClose.r.buf.pending = [0x88, 0x80, 0x37, 0xfa, 0x21, 0x3d, 0xAA] := by decide +kernel

/-- non-vacuity of `empty_close_is_1005`: all hypotheses hold for the server reader `witSrvEmptyClose` -/
example : ∃ c', advanceFrame witSrvEmptyClose = (.error (.close 1005 []), c') ∧
      c'.r.hlog = witSrvEmptyClose.r.hlog ++ [.close 1005 []] ∧
      c'.w.writeErr = some .closeSent ∧ witSrvEmptyClose.w.wire.length < c'.w.wire.length :=
  empty_close_is_1005 witSrvEmptyClose witSrvEmptyClose_atBoundary ⟨rfl, rfl⟩ rfl ⟨0x37, 0xfa, 0x21, 0x3d⟩ [0xAA]
    (Witness.cut2 _ _ 3)

/-- evaluated: the server's echo is an unmasked close frame with an EMPTY body (1005 is never put on the
    wire), the handler saw (1005, ""), and the stray byte is still pending -/
example : (advanceFrame witSrvEmptyClose).2.w.wire = [0x88, 0x00] ∧
    (advanceFrame witSrvEmptyClose).2.r.hlog = [.ping [0x70], .close 1005 []] ∧
    (advanceFrame witSrvEmptyClose).2.r.buf.pending = [0xAA] := by decide +kernel

/-- the same empty close frame towards a CLIENT reader (unmasked: 88 00), mid-message; its echo is masked with
    the first key of the key source -/
def witCliEmptyClose : Conn :=
  { w := { newW false 4096 false false with keys := [1, 2, 3, 4, 5, 6, 7, 8] },
    r := { isServer := false, nego := false, final := false, length := 3, msgReader := some 0, nextId := 1,
           buf := { size := 4096, buf := [0x88], t := { chunks := [[0x00, 0x81], [0x01, 0x41]] }, total := 5 } } }

example : ∃ c', advanceFrame witCliEmptyClose = (.error (.close 1005 []), c') ∧
      c'.r.hlog = witCliEmptyClose.r.hlog ++ [.close 1005 []] ∧
      c'.w.writeErr = some .closeSent ∧ witCliEmptyClose.w.wire.length < c'.w.wire.length :=
  empty_close_is_1005 witCliEmptyClose ⟨rfl, rfl, ⟨by decide, by decide, by decide, (by intro e h; cases h)⟩, by decide⟩
    ⟨rfl, rfl⟩ rfl ⟨0, 0, 0, 0⟩ [0x81, 0x01, 0x41] (by decide +kernel)

example : (advanceFrame witCliEmptyClose).2.w.wire = [0x88, 0x80, 1, 2, 3, 4] := by decide +kernel

/-- a SERVER connection whose application ping handler returns error 7, reader idle (one pong handled so far,
    no failed call yet); pending: a masked ping "hi" (key a0 b0 c0 d0, split over buffer and transport), then a
    masked text frame "A" -/
def witFailPing : Conn :=
  { w := newW true 4096 false false,
    r := { isServer := true, nego := false, hPing := .fail 7, hlog := [.pong [9]],
           buf := { size := 4096, buf := (PFrame.enc true ⟨9, true, ⟨0xa0, 0xb0, 0xc0, 0xd0⟩, [0x68, 0x69]⟩).take 5,
                    t := { chunks := [(PFrame.enc true ⟨9, true, ⟨0xa0, 0xb0, 0xc0, 0xd0⟩, [0x68, 0x69]⟩).drop 5 ++ [0x81, 0x81, 1],
                                      [2, 3, 4, 0x41 ^^^ 1]] },
                    total := 15 } } }

def witFailPing_idle : WS.AuditGaps.ReaderIdle' witFailPing :=
  ⟨rfl, rfl, rfl, ⟨by decide, by decide, by decide, (by intro e h; cases h)⟩, by decide, by decide⟩

example : witFailPing.r.buf.pending =
    [0x89, 0x82, 0xa0, 0xb0, 0xc0, 0xd0, 0x68 ^^^ 0xa0, 0x69 ^^^ 0xb0, 0x81, 0x81, 1, 2, 3, 4, 0x41 ^^^ 1] := by decide +kernel

/-- non-vacuity of `failing_handler_error_returned`: all hypotheses hold for `witFailPing`, handler error 7,
    ping "hi", a text frame behind it -/
example : ∃ c', nextReader witFailPing = (.err (.handler 7), c') ∧ c'.r.readErr = some (.handler 7) ∧
      c'.r.hlog = witFailPing.r.hlog ++ [.ping [0x68, 0x69]] ∧ c'.w.wire = witFailPing.w.wire :=
  failing_handler_error_returned witFailPing witFailPing_idle 7 rfl ⟨0xa0, 0xb0, 0xc0, 0xd0⟩ [0x68, 0x69]
    [0x81, 0x81, 1, 2, 3, 4, 0x41 ^^^ 1] (by decide) rfl (by decide +kernel)

/-- evaluated: NextReader latches the handler's error, the handler saw the unmasked "hi" once, no pong (nothing
    at all) was written, and the text frame behind the ping was not touched -/
example : (nextReader witFailPing).2.r.readErr = some (.handler 7) ∧
    (nextReader witFailPing).2.r.hlog = [.pong [9], .ping [0x68, 0x69]] ∧
    (nextReader witFailPing).2.w.wire = [] ∧ (nextReader witFailPing).2.w.writeErr = none ∧
    (nextReader witFailPing).2.r.buf.pending = [0x81, 0x81, 1, 2, 3, 4, 0x41 ^^^ 1] := by decide +kernel

section Program
open WS.ReadProgram

/-- a program that opens the message, reads three single bytes (crossing the ping) and stops -/
def witHProg : List ROp := [.read 3, .next, .read 0, .read 0, .read 0]

/-- non-vacuity of `any_read_program_hlog`: the hypotheses hold for `witSrv` -/
example : (runProg witHProg witSrv none).2.r.hlog <+: witSrv.r.hlog ++ [.ping [0x70], .pong [0x71, 0x72]] :=
  any_read_program_hlog witSrv witSrv_idle [(2, witMsg)]
    (List.forall_mem_singleton.2 ⟨Or.inr rfl, witMsg_shape, by decide, Or.inl (by decide)⟩)
    [] (by decide +kernel) (Or.inl rfl) witHProg (by decide)

/-- where that program stands: the ping between the first two fragments has been handled, the pong
    before the last fragment not yet -/
example : (runProg witHProg witSrv none).2.r.hlog = [.ping [0x70]] := by decide +kernel

end Program

end NonVacuity

end WS.Props.C08
