import WS.Gen.Skeletons
/-
  C20 — translator tie: the statement text of the functions this property's model transcribes, regenerated
  from /repo by factgen on every run (WS/Gen/Skeletons.lean), equals the text the model was written against.
  A change to one of these functions breaks the obligation below; the check then searches for a failing
  input with the property's oracles (DESIGN §5).
-/
namespace WS.Props.C20Tie
open WS

/-- beginMessage / endMessage in /repo are the modelled ones (the only pool traffic of the package: inventory pool_sites) -/
theorem pool_sites_as_modelled :
    Gen.stmts_beginMessage =
      ["if c.writer != nil { c.writer.Close() c.writer = nil }",
        "if !isControl(messageType) && !isData(messageType) { return errBadWriteOpCode }",
        "c.writeErrMu.Lock()",
        "err := c.writeErr",
        "c.writeErrMu.Unlock()",
        "if err != nil { return err }",
        "mw.c = c",
        "mw.frameType = messageType",
        "mw.pos = maxFrameHeaderSize",
        "if c.writeBuf == nil { wpd, ok := c.writePool.Get().(writePoolData) if ok { c.writeBuf = wpd.buf } else { c.writeBuf = make([]byte, c.writeBufSize) } }",
        "return nil"] ∧
    Gen.stmts_endMessage =
      ["if w.err != nil { return err }",
        "c := w.c",
        "w.err = err",
        "c.writer = nil",
        "if c.writePool != nil { c.writePool.Put(writePoolData{buf: c.writeBuf}) c.writeBuf = nil }",
        "return err"] :=
  ⟨rfl, rfl⟩

end WS.Props.C20Tie
