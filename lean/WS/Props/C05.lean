import WS.Lemmas.CutTogether
import WS.Lemmas.CutProgramFull
import WS.Lemmas.ProgramAnyLimit
import WS.Lemmas.CutProgram
import WS.Lemmas.ZCut
import WS.Lemmas.SrcLaw
import WS.Lemmas.ReaderRejects
import WS.Lemmas.CutLogic
import WS.Lemmas.ReaderMore
import WS.Lemmas.Witness
/-
  C05 — No silent truncation. Source level first: a cut stream is reported as an error exactly when the
  bytes asked for did not all arrive; what did arrive is delivered unchanged and in order. Then the reader
  (sticky error, no data after an error: WS/Lemmas/ReaderRejects.lean), whole messages (`cut_never_complete*`,
  compressed messages included) and every read program (`cut_program_never_complete_fits_partial`).
  Finding F1 (EOF together with the last bytes of a *non-final* frame) is repaired in /repo; `cut_never_complete`
  is the statement it violated. CutProgramFull, CutTogether and ProgramAnyLimit are imported so that every run
  compiles the lemmas they hold towards the unrestricted program-level statement.
-/
namespace WS.Props.C05
open WS WS.SrcLaw

/-- a header cut short: Conn.read reports the terminal error (io.EOF mapped to the 1006
    unexpected-EOF CloseError), never a short header as if it were complete -/
theorem header_cut_is_error (b : Buf) (h : WF b) (n : Nat) (hn : n ≤ b.size) (hp : b.pending.length < n) :
    (b.take n).1 = b.pending ∧ (b.take n).2.1 = some (mapEOF b.t.term) ∧
    (b.take n).2.2.pending = [] ∧ WF (b.take n).2.2 ∧ Same b (b.take n).2.2 :=
  take_short b h n hn hp

/-- a skipped frame remainder cut short is an error too -/
theorem skip_cut_is_error (b : Buf) (h : WF b) (n : Nat) (hp : b.pending.length < n) :
    (b.skip n).1 = some b.t.term ∧ (b.skip n).2.pending = [] ∧ WF (b.skip n).2 ∧ Same b (b.skip n).2 :=
  skip_short b h n hp

/-- the terminal error is permanent at the source: once everything was delivered every Read
    reports it again (scripted transports are sticky) -/
theorem error_repeats (b : Buf) (h : WF b) (k : Nat) (hk : 0 < k) (he : b.pending = []) :
    (b.read k).2.1 = some b.t.term ∧ (b.read k).2.2.pending = [] := by
  have := read_spec b h k hk
  exact ⟨this.2.2.2.2.1 he, (this.2.2.2.1 _ (this.2.2.2.2.1 he)).1⟩

/-- once NextReader has returned an error it returns the same error on every later call and delivers
    nothing further (up to the documented 1000-call panic) -/
theorem error_is_permanent (c : Conn) (e : RErr) (he : c.r.readErr = some e) (hn : c.r.errCount + 1 < 1000) :
    ∃ c', nextReader c = (.err e, c') ∧ c'.r.readErr = some e ∧ c'.w = c.w ∧ c'.r.hlog = c.r.hlog ∧
      c'.r.buf = c.r.buf ∧ c'.r.errCount = c.r.errCount + 1 :=
  ReaderRejects.nextReader_sticky c e he hn

theorem no_data_after_error (c : Conn) (e : RErr) (he : c.r.readErr = some e) (rid k : Nat) :
    ((mrRead c rid k).1).1 = [] ∧ ((mrRead c rid k).1).2.isSome ∧ (mrRead c rid k).2.w = c.w :=
  ReaderRejects.mrRead_after_error c e he rid k

/-- non-vacuity: two bytes arrive, four are needed -/
example :
    let b : Buf := { size := 16, t := { chunks := [[1, 2]], term := .eof } }
    (b.take 4).2.1 = some .unexpectedEOF := by decide

open WS.Codec WS.ReaderDecodes WS.CutLogic WS.ReaderMore
/-- cut_never_complete: the transport ends (EOF, error or timeout; alone or together with the last
    bytes) at ANY byte offset strictly inside a conformant message, for any fragmentation, interleaved
    control frames, chunking, buffer size and read size: the message is never reported complete.
    Either NextReader fails, or the message reader fails with a non-nil error other than io.EOF after
    delivering only a prefix of the payload (or NextReader raises the documented panic of the 1000th
    failed call). -/
theorem cut_never_complete (c : Conn) (hc : ReaderIdle c) (t : Nat) (ht : t = 1 ∨ t = 2)
    (fs : List PFrame)
    (hs : MsgShape t fs) (cut : Nat) (hcut : cut < (encAll c.r.isServer fs).length)
    (hp : c.r.buf.pending = (encAll c.r.isServer fs).take cut)
    (hsz : (dataPayload fs).length < 2 ^ 62) (hlim : c.r.limit ≤ 0)
    (k : Nat) (hk : 0 < k) :
    (∃ e, openAndRead c k = .failedOpen e ∧ c.r.errCount + 1 < 1000) ∨
    (∃ got e, openAndRead c k = .failedRead t got e ∧ e ≠ .eof ∧ got <+: dataPayload fs) ∨
    (1000 ≤ c.r.errCount + 1 ∧ openAndRead c k = .panicked) :=
  CutLogic.cut_never_complete_or_panic_partial c hc t ht fs hs cut hcut hp hsz hlim k hk


/-- the same on reachable reader states (the failed-call counter is 0 while no error is latched —
    `reach_inv_nextReader`, `reach_inv_read` below): no panic alternative -/
theorem cut_never_complete_reachable (c : Conn) (hc : ReaderIdle c) (hi : CountInv c) (t : Nat) (ht : t = 1 ∨ t = 2)
    (fs : List PFrame) (hs : MsgShape t fs) (cut : Nat) (hcut : cut < (encAll c.r.isServer fs).length)
    (hp : c.r.buf.pending = (encAll c.r.isServer fs).take cut)
    (hsz : (dataPayload fs).length < 2 ^ 62) (hlim : c.r.limit ≤ 0) (k : Nat) (hk : 0 < k) :
    (∃ e, openAndRead c k = .failedOpen e) ∨
    (∃ got e, openAndRead c k = .failedRead t got e ∧ e ≠ .eof ∧ got <+: dataPayload fs) := by
  have h0 : c.r.errCount = 0 := hi hc.noErr
  exact CutLogic.cut_never_complete_partial c hc t ht fs hs cut hcut hp hsz hlim (by omega) k hk

/-- … and when the whole message arrived before the transport ended it is reported complete and
    byte-identical -/
theorem whole_message_then_error (c : Conn) (hc : ReaderIdle c) (t : Nat) (ht : t = 1 ∨ t = 2) (fs : List PFrame)
    (hs : MsgShape t fs)
    (hp : c.r.buf.pending = encAll c.r.isServer fs) (htog : c.r.buf.t.together = false)
    (hsz : (dataPayload fs).length < 2 ^ 62) (hlim : c.r.limit ≤ 0)
    (k : Nat) (hk : 0 < k) :
    openAndRead c k = .complete t (dataPayload fs) :=
  CutLogic.whole_message_then_error c hc t ht fs hs hp htog hsz hlim k hk


/-- the reachable-state invariant used above is preserved by NextReader and by Read -/
theorem reach_inv_nextReader (c : Conn) (h : ReachInv c) : ReachInv (nextReader c).2 :=
  ReaderMore.nextReader_reachInv_partial c h

theorem reach_inv_read (c : Conn) (rid k : Nat) (hk : 0 < k) (h : ReachInv c) : ReachInv (mrRead c rid k).2 :=
  ReaderMore.mrRead_reachInv c rid k hk h

open WS.Codec WS.ReaderDecodes WS.ReaderZ WS.CutLogic WS.ReaderMore WS.ZCut

/-- cut_never_complete for COMPRESSED messages (finding F10 as a theorem): the transport ends (EOF,
    error or timeout; alone or together with the last bytes) at ANY byte offset strictly inside a
    compressed message (first frame RSV1, any fragmentation, control frames in between): whatever
    compress/flate does with the raw bytes — whatever the sizes of its read requests, however early it
    reports the end of the deflate stream (a final block long before the last frame), whatever the
    request size of the drain that follows — the message is not reported complete: NextReader fails or
    the decompressing reader (model of flateReadWrapper, `zReadToEnd`) fails -/
theorem compressed_cut_never_complete (c : Conn) (hc : ReaderIdle c) (hi : CountInv c) (hn : c.r.nego = true)
    (t : Nat) (ht : t = 1 ∨ t = 2) (f : PFrame) (more : List PFrame) (hs : ZShape t f more)
    (cut : Nat) (hcut : cut < (encZ c.r.isServer f ++ encAll c.r.isServer more).length)
    (hp : c.r.buf.pending = (encZ c.r.isServer f ++ encAll c.r.isServer more).take cut)
    (hsz : (f.payload ++ dataPayload more).length < 2 ^ 62) (hlim : c.r.limit ≤ 0) (env : ZEnv)
    (hreq : ∀ k ∈ env.reqs, 0 < k) (hdr : 0 < env.drainK) :
    (∃ e c1, nextReader c = (.err e, c1)) ∨
    (∃ c1 rid, nextReader c = (.msg t rid true, c1) ∧ ∃ raw e c2, zReadToEnd c1 rid env = ((raw, .failed e), c2)) :=
  WS.ZCut.compressed_cut_never_complete c hc hi hn t ht f more hs cut hcut hp hsz hlim env hreq hdr

/-- … and a compressed message that arrived whole is reported complete whenever the decompressor
    accepts it, however early or late it reports the end of the deflate stream; what it was given is a
    prefix of the concatenated payloads; the reader is idle again with the following bytes untouched -/
theorem compressed_whole_complete (c : Conn) (hc : ReaderIdle c) (hn : c.r.nego = true)
    (t : Nat) (ht : t = 1 ∨ t = 2) (f : PFrame) (more : List PFrame) (hs : ZShape t f more) (rest : Bytes)
    (hp : c.r.buf.pending = encZ c.r.isServer f ++ encAll c.r.isServer more ++ rest)
    (hend : c.r.buf.t.together = false ∨ rest ≠ [])
    (hsz : (f.payload ++ dataPayload more).length < 2 ^ 62) (hlim : c.r.limit ≤ 0)
    (reqs : List Nat) (drainK : Nat) (hreq : ∀ k ∈ reqs, 0 < k) (hdr : 0 < drainK) :
    ∃ c1 rid, nextReader c = (.msg t rid true, c1) ∧
      ∃ raw c2, zReadToEnd c1 rid ⟨reqs, true, drainK⟩ = ((raw, .complete), c2) ∧
        raw <+: f.payload ++ dataPayload more ∧ ReaderIdle c2 ∧ c2.r.buf.pending = rest :=
  WS.ZCut.compressed_whole_complete c hc hn t ht f more hs rest hp hend hsz hlim reqs drainK hreq hdr

/-- completion of a compressed message implies that the raw message was read to its end, for every
    behaviour of the decompressor: the message reader has returned io.EOF and is detached, or — on a
    transport that reports io.EOF together with the last bytes — io.EOF is latched right after the
    last byte of the final frame. The second alternative cannot be dropped:
    `ZCut.complete_reads_to_end_counterexample` (see the examples below). -/
theorem complete_reads_to_end_or_latched (c : Conn) (rid : Nat) (hrid : c.r.msgReader = some rid)
    (env : ZEnv) (raw : Bytes) (c' : Conn) (h : zReadToEnd c rid env = ((raw, .complete), c')) :
    c'.r.msgReader = none ∨
    (c.r.buf.t.together = true ∧ c'.r.readErr = some .eof ∧ c'.r.remaining ≤ 0 ∧ c'.r.final = true) :=
  WS.ZCut.complete_reads_to_end_or_latched_partial c rid hrid env raw c' h

open WS.Codec WS.ReaderDecodes WS.CutLogic WS.ReaderMore in
/-- `cut_never_complete` WITHOUT the "no read limit" hypothesis: whatever read limit is in force
    (positive, zero or negative), a message cut at any offset strictly inside it is never reported
    complete; with a limit the failure may be ErrReadLimit instead of the transport's error — still an
    error other than io.EOF after only a prefix of the payload -/
theorem cut_never_complete_any_limit (c : Conn) (hc : ReaderIdle c) (t : Nat) (ht : t = 1 ∨ t = 2)
    (fs : List PFrame)
    (hs : MsgShape t fs) (cut : Nat) (hcut : cut < (encAll c.r.isServer fs).length)
    (hp : c.r.buf.pending = (encAll c.r.isServer fs).take cut)
    (hsz : (dataPayload fs).length < 2 ^ 62)
    (k : Nat) (hk : 0 < k) :
    (∃ e, openAndRead c k = .failedOpen e ∧ c.r.errCount + 1 < 1000) ∨
    (∃ got e, openAndRead c k = .failedRead t got e ∧ e ≠ .eof ∧ got <+: dataPayload fs) ∨
    (1000 ≤ c.r.errCount + 1 ∧ openAndRead c k = .panicked) :=
  WS.CutAnyLimit.cut_never_complete_any_limit c hc t ht fs hs cut hcut hp hsz k hk

open WS.Codec WS.ReaderDecodes WS.ReadProgram WS.CutProgram in
/-- the first sentence of C05 for EVERY read program (`runProg`, C03.any_read_program): whole messages,
    then the first `cut` bytes of one more message (cut strictly inside it), then the transport's terminal
    condition, whatever it is and however delivered; the application calls NextReader and Read(k) in any
    order, number and sizes — also after errors, also NextReader from inside the cut message. The messages
    its trace reports as complete (`completed`: opened, pieces without error, then io.EOF) form a sublist
    of the whole messages, in order: every message reported complete was completely received and is
    byte-identical, and the partially received one is never among them.
    PARTIAL with respect to the full statement `cut_program_never_complete` (kept, commented, in
    WS/Lemmas/CutProgram.lean; not refuted): proved when (a) every WHOLE message is within the read limit
    (the cut one need not be) and (b) the terminal condition does not arrive together with the last bytes
    of the last whole message (`together = false ∨ 0 < cut`); the two excluded corners are covered at the
    one-message level by `cut_never_complete_any_limit`, `whole_message_then_error` and by the rcut stream. -/
theorem cut_program_never_complete_fits_partial (c : Conn) (hc : ReaderIdle c) (msgs : List (Nat × List PFrame))
    (hm : ∀ m ∈ msgs, (m.1 = 1 ∨ m.1 = 2) ∧ MsgShape m.1 m.2 ∧ (dataPayload m.2).length < 2 ^ 62 ∧
      (c.r.limit ≤ 0 ∨ ((dataPayload m.2).length : Int) ≤ c.r.limit))
    (t : Nat) (ht : t = 1 ∨ t = 2) (fs : List PFrame) (hs : MsgShape t fs) (hsz : (dataPayload fs).length < 2 ^ 62)
    (cut : Nat) (hcut : cut < (encAll c.r.isServer fs).length)
    (hp : c.r.buf.pending = (msgs.map (fun m => encAll c.r.isServer m.2)).flatten ++ (encAll c.r.isServer fs).take cut)
    (hend : c.r.buf.t.together = false ∨ 0 < cut)
    (ops : List ROp) :
    List.Sublist (completed (runProg ops c none).1) (msgs.map (fun m => (m.1, dataPayload m.2))) :=
  WS.CutProgram.cut_program_never_complete_fits_partial c hc msgs hm t ht fs hs hsz cut hcut hp hend ops

section NonVacuity
set_option linter.defProp false
open WS WS.SrcLaw WS.Codec WS.ReaderDecodes WS.CutLogic WS.ReaderMore WS.Witness

/-- a 4096-byte bufio.Reader with 3 buffered bytes; the transport delivers 2 more and then EOF -/
def witBuf : Buf :=
  { size := 4096, buf := [0x82, 0x7E, 0x01], t := { chunks := [[0x00, 0xAA]], term := .eof }, total := 5 }

def witBuf_wf : WF witBuf := ⟨by decide, by decide, by decide, (by intro e h; cases h)⟩

/-- non-vacuity of `header_cut_is_error`: 5 bytes arrive where 8 are needed -/
example : (witBuf.take 8).1 = [0x82, 0x7E, 0x01, 0x00, 0xAA] ∧ (witBuf.take 8).2.1 = some .unexpectedEOF ∧
    (witBuf.take 8).2.2.pending = [] ∧ WF (witBuf.take 8).2.2 ∧ Same witBuf (witBuf.take 8).2.2 :=
  header_cut_is_error witBuf witBuf_wf 8 (by decide) (by decide)

/-- non-vacuity of `skip_cut_is_error`: a frame remainder of 256 bytes of which only 5 arrive -/
example : (witBuf.skip 256).1 = some .eof ∧ (witBuf.skip 256).2.pending = [] ∧ WF (witBuf.skip 256).2 ∧
    Same witBuf (witBuf.skip 256).2 :=
  skip_cut_is_error witBuf witBuf_wf 256 (by decide)

/-- a drained source: nothing buffered, the transport script exhausted, its timeout error latched -/
def witDrained : Buf := { size := 4096, buf := [], err := some (.transport 7), t := { chunks := [], term := .transport 7 }, total := 5 }

def witDrained_wf : WF witDrained :=
  ⟨by decide, by decide, by decide, (by intro e h; cases h; exact ⟨rfl, rfl⟩)⟩

/-- non-vacuity of `error_repeats` (latched error) -/
example : (witDrained.read 512).2.1 = some (.transport 7) ∧ (witDrained.read 512).2.2.pending = [] :=
  error_repeats witDrained witDrained_wf 512 (by decide) rfl

/-- … and on the state after that Read (error no longer latched, transport sticky) -/
example : ((witDrained.read 512).2.2.read 512).2.1 = some (.transport 7) ∧ ((witDrained.read 512).2.2.read 512).2.2.pending = [] :=
  error_repeats (witDrained.read 512).2.2 (read_spec witDrained witDrained_wf 512 (by decide)).2.2.2.2.2.1 512 (by decide)
    (error_repeats witDrained witDrained_wf 512 (by decide) rfl).2

/-- a client connection whose reader failed with the 1006 unexpected-EOF error (a message reader had
    been handed out before, a ping was handled) -/
def witFailed : Conn :=
  { w := { newW false 4096 false false with keys := [1, 2, 3, 4] },
    r := { isServer := false, nego := false, readErr := some .unexpectedEOF, errCount := 3,
           msgReader := some 0, nextId := 1, hlog := [.ping [1]], final := false,
           buf := { size := 4096, buf := [], total := 5 } } }

/-- non-vacuity of `error_is_permanent` -/
example : ∃ c', nextReader witFailed = (.err .unexpectedEOF, c') ∧ c'.r.readErr = some .unexpectedEOF ∧ c'.w = witFailed.w ∧
      c'.r.hlog = witFailed.r.hlog ∧ c'.r.buf = witFailed.r.buf ∧ c'.r.errCount = 4 :=
  error_is_permanent witFailed _ rfl (by decide)

/-- non-vacuity of `no_data_after_error` -/
example : ((mrRead witFailed 0 512).1).1 = [] ∧ ((mrRead witFailed 0 512).1).2.isSome ∧ (mrRead witFailed 0 512).2.w = witFailed.w :=
  no_data_after_error witFailed _ rfl 0 512

/-- a text message "Hello" in two fragments ("Hel" non-final, "lo" final) with a ping "p" in between,
    each frame masked with its own key (the reader is a server) -/
def witMsg : List PFrame :=
  [{ op := 1, fin := false, key := ⟨0x37, 0xfa, 0x21, 0x3d⟩, payload := [0x48, 0x65, 0x6c] },
   { op := 9, fin := true, key := ⟨1, 2, 3, 4⟩, payload := [0x70] },
   { op := 0, fin := true, key := ⟨0xa0, 0xb0, 0xc0, 0xd0⟩, payload := [0x6c, 0x6f] }]

def witMsg_shape : MsgShape 1 witMsg :=
  MsgShape.frag _ _ rfl rfl (by decide)
    (Tail.ctl _ _ ⟨Or.inl rfl, rfl, by decide⟩ (Tail.last _ rfl rfl (by decide)))

def witMsg_size : (dataPayload witMsg).length < 2 ^ 62 := by decide

/-- 24 wire bytes -/
example : (encAll true witMsg).length = 24 := by decide

/-- a server connection, reader idle; of the 24 wire bytes of `witMsg` only the first `cut` arrive
    (5 already buffered, the rest in chunks of 7), then EOF (`together`: with the last bytes) -/
def witCut (cut : Nat) (together : Bool) : Conn :=
  { w := newW true 4096 false false,
    r := { isServer := true, nego := false, hlog := [.pong []],
           buf := { size := 4096, buf := ((encAll true witMsg).take cut).take 5,
                    t := { chunks := [(((encAll true witMsg).take cut).drop 5).take 7, ((encAll true witMsg).take cut).drop 12],
                           term := .eof, together := together },
                    total := 24 } } }

/-- cut at byte 21: inside the masking key of the final continuation frame -/
def witCut_idle : ReaderIdle (witCut 21 true) := by decide

def witCut_inside : 21 < (encAll true witMsg).length := by decide

/-- the unread bytes of `witCut 21 true` (and of `witCutLim`) are the first 21 wire bytes, evaluated once -/
def witCut_pending : (witCut 21 true).r.buf.pending = (encAll true witMsg).take 21 := by decide

/-- non-vacuity of `cut_never_complete`: all hypotheses hold for `witCut 21 true`, reads of 2 bytes -/
example : (∃ e, openAndRead (witCut 21 true) 2 = .failedOpen e ∧ (witCut 21 true).r.errCount + 1 < 1000) ∨
    (∃ got e, openAndRead (witCut 21 true) 2 = .failedRead 1 got e ∧ e ≠ .eof ∧ got <+: dataPayload witMsg) ∨
    (1000 ≤ (witCut 21 true).r.errCount + 1 ∧ openAndRead (witCut 21 true) 2 = .panicked) :=
  cut_never_complete (witCut 21 true) witCut_idle 1 (Or.inl rfl) witMsg witMsg_shape 21 witCut_inside witCut_pending
    witMsg_size (Int.le_refl 0) 2 (by decide)

/-- `witCut 21 true` with a read limit of 4 bytes — one byte less than the message: the second data frame
    would take the running sum to 5 -/
def witCutLim : Conn := { witCut 21 true with r := { (witCut 21 true).r with limit := 4 } }

def witCutLim_idle : ReaderIdle witCutLim :=
  ⟨witCut_idle.noErr, witCut_idle.rem, witCut_idle.fin, witCut_idle.wf, witCut_idle.size, witCut_idle.fuel,
   witCut_idle.hp, witCut_idle.hq⟩

/-- non-vacuity of `cut_never_complete_any_limit`: all hypotheses hold with a limit in force -/
example : (∃ e, openAndRead witCutLim 2 = .failedOpen e ∧ witCutLim.r.errCount + 1 < 1000) ∨
    (∃ got e, openAndRead witCutLim 2 = .failedRead 1 got e ∧ e ≠ .eof ∧ got <+: dataPayload witMsg) ∨
    (1000 ≤ witCutLim.r.errCount + 1 ∧ openAndRead witCutLim 2 = .panicked) :=
  cut_never_complete_any_limit witCutLim witCutLim_idle 1 (Or.inl rfl) witMsg witMsg_shape 21 witCut_inside witCut_pending
    witMsg_size 2 (by decide)

/-- what actually happens there: the cut is inside the masking key of the second data frame, so the
    transport's end is met before the limit is consulted … -/
example : openAndRead witCutLim 2 = .failedRead 1 [0x48, 0x65, 0x6c] .unexpectedEOF := by rfl

/-- … and two bytes later (header and key of the second data frame complete, one of its two payload
    bytes missing) the limit is what refuses the message: ErrReadLimit, not completion -/
example : openAndRead { witCut 23 true with r := { (witCut 23 true).r with limit := 4 } } 2 =
    .failedRead 1 [0x48, 0x65, 0x6c] .readLimit := by rfl

/-- non-vacuity of `cut_never_complete_reachable`: additionally `CountInv` -/
example : (∃ e, openAndRead (witCut 21 true) 2 = .failedOpen e) ∨
    (∃ got e, openAndRead (witCut 21 true) 2 = .failedRead 1 got e ∧ e ≠ .eof ∧ got <+: dataPayload witMsg) :=
  cut_never_complete_reachable (witCut 21 true) witCut_idle (fun _ => rfl) 1 (Or.inl rfl) witMsg witMsg_shape 21
    witCut_inside witCut_pending witMsg_size (Int.le_refl 0) 2 (by decide)

/-- what actually happens there: the first fragment's payload is delivered, then the 1006 error -/
example : openAndRead (witCut 21 true) 2 = .failedRead 1 [0x48, 0x65, 0x6c] .unexpectedEOF := by rfl

def witWhole_idle : ReaderIdle (witCut 24 false) :=
  ⟨rfl, rfl, rfl, ⟨by decide, by decide, by decide, (by intro e h; cases h)⟩, by decide, by decide,
    (by intro id h; cases h), (by intro id h; cases h)⟩

/-- non-vacuity of `whole_message_then_error`: all 24 bytes arrive, EOF afterwards; reads of 2 bytes -/
example : openAndRead (witCut 24 false) 2 = .complete 1 [0x48, 0x65, 0x6c, 0x6c, 0x6f] :=
  whole_message_then_error (witCut 24 false) witWhole_idle 1 (Or.inl rfl) witMsg witMsg_shape (by decide) rfl
    witMsg_size (Int.le_refl 0) 2 (by decide)

def witCut_reachInv : ReachInv (witCut 21 true) := ⟨fun _ => rfl, witCut_idle.wf, witCut_idle.fuel⟩

/-- non-vacuity of `reach_inv_nextReader` -/
example : ReachInv (nextReader (witCut 21 true)).2 := reach_inv_nextReader _ witCut_reachInv

/-- non-vacuity of `reach_inv_read`: a Read(2) on the message reader just opened -/
example : ReachInv (mrRead (nextReader (witCut 21 true)).2 0 2).2 :=
  reach_inv_read _ 0 2 (by decide) (reach_inv_nextReader _ witCut_reachInv)

/-! #### compressed messages (`compressed_cut_never_complete`, `compressed_whole_complete`,
    `complete_reads_to_end_or_latched`) -/
open WS.ReaderZ WS.ZCut

/-- first frame of a compressed text message: RSV1 (set by `encZ`), non-final, payload 02 00 — an
    empty *final* stored deflate block, i.e. the deflate stream ends inside the first frame (F10) -/
def witZF : PFrame := { op := 1, fin := false, key := ⟨0x37, 0xfa, 0x21, 0x3d⟩, payload := [0x02, 0x00] }

/-- … and the final continuation frame with payload 00 -/
def witZMore : List PFrame := [{ op := 0, fin := true, key := ⟨0xa0, 0xb0, 0xc0, 0xd0⟩, payload := [0x00] }]

def witZ_shape : ZShape 1 witZF witZMore :=
  ⟨rfl, by decide, Or.inr ⟨rfl, Tail.last _ rfl rfl (by decide)⟩⟩

/-- the wire bytes towards a client (unmasked: 41 02 02 00 | 80 01 00) and towards a server -/
example : encZ false witZF ++ encAll false witZMore = [0x41, 0x02, 0x02, 0x00, 0x80, 0x01, 0x00] := by decide
example : (encZ true witZF).length = 8 ∧ (encZ true witZF ++ encAll true witZMore).length = 15 := by decide

/-- the decompressor of finding F10: asks once for 4096 raw bytes, then reports the end of the
    deflate stream; the drain that follows asks for 8192 bytes at a time -/
def witZEnv : ZEnv := ⟨[4096], true, 8192⟩

/-- a connection with compression negotiated, reader idle (a pong was handled before), buffer size
    4096; of the wire bytes of `witZF`, `witZMore` followed by `rest` only the first `cut` arrive
    (4 already buffered, the others in one chunk), then the transport ends with `term` -/
def witZConn (isServer : Bool) (rest : Bytes) (cut : Nat) (term : RErr) (together : Bool) : Conn :=
  { w := newW isServer 4096 false true,
    r := { isServer := isServer, nego := true, hlog := [.pong []],
           buf := { size := 4096, buf := ((encZ isServer witZF ++ encAll isServer witZMore ++ rest).take cut).take 4,
                    t := { chunks := [((encZ isServer witZF ++ encAll isServer witZMore ++ rest).take cut).drop 4],
                           term := term, together := together },
                    total := 16 } } }

/-- client reader: the first frame (4 bytes) and the first header byte of the second arrived, then EOF -/
def witZCut : Conn := witZConn false [] 5 .eof false

def witZCut_idle : ReaderIdle witZCut :=
  ⟨rfl, rfl, rfl, ⟨by decide, by decide, by decide, (by intro e h; cases h)⟩, by decide, by decide,
    (by intro id h; cases h), (by intro id h; cases h)⟩

example : witZCut.r.buf.pending = [0x41, 0x02, 0x02, 0x00, 0x80] := by decide

/-- non-vacuity of `compressed_cut_never_complete`: all hypotheses hold for `witZCut`, cut = 5 of 7 -/
example : (∃ e c1, nextReader witZCut = (.err e, c1)) ∨
    (∃ c1 rid, nextReader witZCut = (.msg 1 rid true, c1) ∧
      ∃ raw e c2, zReadToEnd c1 rid witZEnv = ((raw, .failed e), c2)) :=
  compressed_cut_never_complete witZCut witZCut_idle (fun _ => rfl) rfl 1 (Or.inl rfl) witZF witZMore witZ_shape 5
    (by decide) (by decide) (by decide) (by decide) witZEnv (by decide) (by decide)

/-- what actually happens there: NextReader announces the compressed text message; the decompressor
    is handed the two payload bytes and reports the end of the deflate stream; the drain then hits the
    cut header of the second frame: the 1006 unexpected-EOF close error, not completion -/
example : (nextReader witZCut).1 = .msg 1 0 true := by rfl
example : (zReadToEnd (nextReader witZCut).2 0 witZEnv).1 = ([0x02, 0x00], .failed .unexpectedEOF) := by
  decide +kernel

/-- server reader (masked frames, 8 + 7 bytes): the first frame and the first header byte of the
    second arrived, then the transport fails with an error of its own, reported together with the
    last bytes -/
def witZCutS : Conn := witZConn true [] 9 (.transport 7) true

def witZCutS_idle : ReaderIdle witZCutS :=
  ⟨rfl, rfl, rfl, ⟨by decide, by decide, by decide, (by intro e h; cases h)⟩, by decide, by decide,
    (by intro id h; cases h), (by intro id h; cases h)⟩

/-- non-vacuity of `compressed_cut_never_complete`, second instance (server side, transport error,
    decompressor asking for 1 byte and then 4096 bytes, drain of 512) -/
example : (∃ e c1, nextReader witZCutS = (.err e, c1)) ∨
    (∃ c1 rid, nextReader witZCutS = (.msg 1 rid true, c1) ∧
      ∃ raw e c2, zReadToEnd c1 rid ⟨[1, 4096], true, 512⟩ = ((raw, .failed e), c2)) :=
  compressed_cut_never_complete witZCutS witZCutS_idle (fun _ => rfl) rfl 1 (Or.inl rfl) witZF witZMore witZ_shape 9
    (by decide) (by decide) (by decide) (by decide) ⟨[1, 4096], true, 512⟩ (by decide) (by decide)

example : (nextReader witZCutS).1 = .msg 1 0 true := by rfl
example : (zReadToEnd (nextReader witZCutS).2 0 ⟨[1, 4096], true, 512⟩).1 = ([0x02, 0x00], .failed (.transport 7)) := by
  decide +kernel

/-- client reader: the same message arrived whole, followed by one stray byte (the first header byte
    of the next frame), then EOF -/
def witZWhole : Conn := witZConn false [0x81] 8 .eof true

def witZWhole_idle : ReaderIdle witZWhole :=
  ⟨rfl, rfl, rfl, ⟨by decide, by decide, by decide, (by intro e h; cases h)⟩, by decide, by decide,
    (by intro id h; cases h), (by intro id h; cases h)⟩

example : witZWhole.r.buf.pending = [0x41, 0x02, 0x02, 0x00, 0x80, 0x01, 0x00, 0x81] := by decide

/-- non-vacuity of `compressed_whole_complete`, `reqs = [4096]` (the decompressor of F10) -/
example : ∃ c1 rid, nextReader witZWhole = (.msg 1 rid true, c1) ∧
    ∃ raw c2, zReadToEnd c1 rid ⟨[4096], true, 8192⟩ = ((raw, .complete), c2) ∧
      raw <+: witZF.payload ++ dataPayload witZMore ∧ ReaderIdle c2 ∧ c2.r.buf.pending = [0x81] :=
  compressed_whole_complete witZWhole witZWhole_idle rfl 1 (Or.inl rfl) witZF witZMore witZ_shape [0x81]
    (by decide) (Or.inr (by decide)) (by decide) (by decide) [4096] 8192 (by decide) (by decide)

/-- … and `reqs = []`: the decompressor reports the end at once, the whole message is drained -/
example : ∃ c1 rid, nextReader witZWhole = (.msg 1 rid true, c1) ∧
    ∃ raw c2, zReadToEnd c1 rid ⟨[], true, 8192⟩ = ((raw, .complete), c2) ∧
      raw <+: witZF.payload ++ dataPayload witZMore ∧ ReaderIdle c2 ∧ c2.r.buf.pending = [0x81] :=
  compressed_whole_complete witZWhole witZWhole_idle rfl 1 (Or.inl rfl) witZF witZMore witZ_shape [0x81]
    (by decide) (Or.inr (by decide)) (by decide) (by decide) [] 8192 (by simp) (by decide)

/-- what actually happens there -/
example : (nextReader witZWhole).1 = .msg 1 0 true := by rfl
example : (zReadToEnd (nextReader witZWhole).2 0 ⟨[4096], true, 8192⟩).1 = ([0x02, 0x00], .complete) ∧
    (zReadToEnd (nextReader witZWhole).2 0 ⟨[4096], true, 8192⟩).2.r.buf.pending = [0x81] := by
  decide +kernel
example : (zReadToEnd (nextReader witZWhole).2 0 ⟨[], true, 8192⟩).1 = ([], .complete) ∧
    (zReadToEnd (nextReader witZWhole).2 0 ⟨[], true, 8192⟩).2.r.buf.pending = [0x81] := by
  decide +kernel

/-- non-vacuity of `complete_reads_to_end_or_latched`: the state after NextReader on `witZWhole`
    (a message reader is attached), the decompressor of F10; the decompressing reader reports the
    message complete … -/
example : (zReadToEnd (nextReader witZWhole).2 0 witZEnv).2.r.msgReader = none ∨
    ((nextReader witZWhole).2.r.buf.t.together = true ∧
      (zReadToEnd (nextReader witZWhole).2 0 witZEnv).2.r.readErr = some .eof ∧
      (zReadToEnd (nextReader witZWhole).2 0 witZEnv).2.r.remaining ≤ 0 ∧
      (zReadToEnd (nextReader witZWhole).2 0 witZEnv).2.r.final = true) :=
  complete_reads_to_end_or_latched (nextReader witZWhole).2 0 (by rfl) witZEnv [0x02, 0x00]
    (zReadToEnd (nextReader witZWhole).2 0 witZEnv).2 (Prod.ext (by decide +kernel) rfl)

/-- … and it is the first alternative that holds: the message reader is detached -/
example : (zReadToEnd (nextReader witZWhole).2 0 witZEnv).2.r.msgReader = none := by decide +kernel

/-- the second alternative is not redundant: `WS.ZCut.complete_reads_to_end_counterexample`
    (`cxC`: client reader one payload byte before the end of the final frame of a compressed message,
    buffer size 1, the byte arrives together with io.EOF; `cxE` = ⟨[4096], true, 32768⟩) satisfies the
    hypotheses, the message reader stays attached … -/
example : ZCut.cxC.r.msgReader = some 0 ∧ (zReadToEnd ZCut.cxC 0 cxE).1 = ([7], .complete) ∧
    (zReadToEnd ZCut.cxC 0 cxE).2.r.msgReader = some 0 :=
  ⟨complete_reads_to_end_counterexample.1, complete_reads_to_end_counterexample.2.2.2.1,
    complete_reads_to_end_counterexample.2.2.2.2⟩

/-- … so the theorem, instantiated on it, yields the second alternative: io.EOF latched after the last
    byte of the final frame on a `together` transport -/
example : ZCut.cxC.r.buf.t.together = true ∧ (zReadToEnd ZCut.cxC 0 cxE).2.r.readErr = some .eof ∧
    (zReadToEnd ZCut.cxC 0 cxE).2.r.remaining ≤ 0 ∧ (zReadToEnd ZCut.cxC 0 cxE).2.r.final = true := by
  rcases complete_reads_to_end_or_latched ZCut.cxC 0 complete_reads_to_end_counterexample.1 cxE [7]
    (zReadToEnd ZCut.cxC 0 cxE).2 (Prod.ext complete_reads_to_end_counterexample.2.2.2.1 rfl) with h | h
  · rw [complete_reads_to_end_counterexample.2.2.2.2] at h; cases h
  · exact h

section Program
open WS.ReadProgram WS.CutProgram

/-- a server reader facing the whole message `witMsg` ("Hello", 24 wire bytes) and then the first 21
    bytes of the same message again, then EOF together with the last bytes -/
def witTwo : Conn :=
  { w := newW true 4096 false false,
    r := { isServer := true, nego := false,
           buf := { size := 4096, buf := (encAll true witMsg).take 5,
                    t := { chunks := [(encAll true witMsg).drop 5 ++ (encAll true witMsg).take 9, ((encAll true witMsg).take 21).drop 9],
                           term := .eof, together := true },
                    total := 45 } } }

def witTwo_idle : ReaderIdle witTwo :=
  ⟨rfl, rfl, rfl, ⟨by decide, by decide, by decide, (by intro e h; cases h)⟩, by decide, by decide,
    (by intro id h; cases h), (by intro id h; cases h)⟩

/-- a program that reads the first message to its end, opens the second, reads on after the failure and
    asks for yet another message -/
def witProg : List ROp := [.next, .read 9, .read 9, .read 9, .next, .read 9, .read 9, .read 0, .next, .read 3]

/-- non-vacuity of `cut_program_never_complete_fits_partial`: all hypotheses hold -/
example : List.Sublist (completed (runProg witProg witTwo none).1) [(1, dataPayload witMsg)] :=
  cut_program_never_complete_fits_partial witTwo witTwo_idle [(1, witMsg)]
    (by
      intro m hm
      simp only [List.mem_cons, List.mem_nil_iff, or_false] at hm
      subst hm
      exact ⟨Or.inl rfl, witMsg_shape, witMsg_size, Or.inl (Int.le_refl 0)⟩)
    1 (Or.inl rfl) witMsg witMsg_shape witMsg_size 21 witCut_inside (by decide) (Or.inr (by decide)) witProg

/-- what the trace reports there: exactly the first message, complete; the second never -/
example : completed (runProg witProg witTwo none).1 = [(1, [0x48, 0x65, 0x6c, 0x6c, 0x6f])] := by decide +kernel

end Program

end NonVacuity

end WS.Props.C05
