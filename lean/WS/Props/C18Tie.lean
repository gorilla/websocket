import WS.Gen.Skeletons
/-
  C18 — translator tie: the statement text of the functions this property's model transcribes, regenerated
  from /repo by factgen on every run (WS/Gen/Skeletons.lean), equals the text the model was written against.
  A change to one of these functions breaks the obligation below; the check then searches for a failing
  input with the property's oracles (DESIGN §5).
-/
namespace WS.Props.C18Tie
open WS

/-- hostPortNoPort and httpProxyDialer.DialContext in /repo are the modelled ones -/
theorem proxy_as_modelled :
    Gen.stmts_hostPortNoPort =
      ["hostPort = u.Host",
        "hostNoPort = u.Host",
        "if i := strings.LastIndex(u.Host, \":\"); i > strings.LastIndex(u.Host, \"]\") { hostNoPort = hostNoPort[:i] } else { switch u.Scheme { case \"wss\": hostPort += \":443\" case \"https\": hostPort += \":443\" default: hostPort += \":80\" } }",
        "return hostPort, hostNoPort"] ∧
    Gen.stmts_httpProxyDial =
      ["hostPort, _ := hostPortNoPort(hpd.proxyURL)",
        "conn, err := hpd.forwardDial(ctx, network, hostPort)",
        "if err != nil { return nil, err }",
        "connectHeader := make(http.Header)",
        "if user := hpd.proxyURL.User; user != nil { proxyUser := user.Username() if proxyPassword, passwordSet := user.Password(); passwordSet { credential := base64.StdEncoding.EncodeToString([]byte(proxyUser + \":\" + proxyPassword)) connectHeader.Set(\"Proxy-Authorization\", \"Basic \"+credential) } }",
        "connectReq := &http.Request{ Method: http.MethodConnect, URL: &url.URL{Opaque: addr}, Host: addr, Header: connectHeader, }",
        "if err := connectReq.Write(conn); err != nil { conn.Close() return nil, err }",
        "br := bufio.NewReader(conn)",
        "resp, err := http.ReadResponse(br, connectReq)",
        "if err != nil { conn.Close() return nil, err }",
        "br.Reset(bytes.NewReader(nil))",
        "_ = resp.Body.Close()",
        "if resp.StatusCode != http.StatusOK { _ = conn.Close() f := strings.SplitN(resp.Status, \" \", 2) if len(f) < 2 { return nil, errors.New(resp.Status) } return nil, errors.New(f[1]) }",
        "return conn, nil"] := by
  refine ⟨?_, ?_⟩ <;> rfl


end WS.Props.C18Tie
