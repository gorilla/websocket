import WS.Lemmas.Sequences
import WS.Lemmas.Content
import WS.Lemmas.WriterMore
import WS.Lemmas.MaskTrunc
import WS.Lemmas.Witness
/-
  C01 — Message round-trip fidelity: the data transformations that the tests never vary, and the round trip
  through a connected pair as one theorem (`round_trip`, then any number of messages).
  (The two halves, writer → wire and wire → reader, are C02 and C03; the per-message round trip over the
  writer model alone is `WS.Props.C02.message_roundtrip`.)
-/
namespace WS.Props.C01
open WS

/-- mask.go's word-at-a-time algorithm equals RFC 6455 §5.3 byte-wise masking for every slice
    alignment, key, key offset and length, and returns the right next offset -/
theorem mask_words_eq_bytes (k : Key) (pos a : Nat) (b : Bytes) :
    maskBytesGo k pos a b = (maskFrom k pos b, (pos + b.length) % 4) :=
  MaskTrunc.mask_words_eq_bytes k pos a b

/-- masking is an involution: the peer's unmasking restores the payload -/
theorem mask_involutive (k : Key) (p : Nat) (bs : Bytes) : maskFrom k p (maskFrom k p bs) = bs :=
  maskFrom_involutive k p bs

/-- the key offset carries across a split of the payload (frames delivered in several reads) -/
theorem mask_pos_carry (k : Key) (p : Nat) (xs ys : Bytes) :
    maskFrom k p (xs ++ ys) = maskFrom k p xs ++ maskFrom k (p + xs.length) ys :=
  maskFrom_append k p xs ys

/-- truncWriter: for every chunking of the deflate stream, forwarded ++ held = stream and exactly
    min(4, length) bytes are held back -/
theorem trunc_any_chunking (cs : List Bytes) :
    (MaskTrunc.writeAll cs).forwarded ++ (MaskTrunc.writeAll cs).p = cs.flatten ∧
    (MaskTrunc.writeAll cs).p.length = min 4 cs.flatten.length :=
  MaskTrunc.trunc_any_chunking cs

/-- one frame: strict decoding inverts the writer's encoding for every length below 2^63 -/
theorem frame_roundtrip (isServer : Bool) (b0 : Nat) (key : Key) (payload rest : Bytes)
    (hb : b0 < 256) (hl : payload.length < 2 ^ 63) :
    Spec.decodeFrame (Codec.encode isServer b0 key payload ++ rest) = some (Codec.frameOf isServer b0 key payload, rest) :=
  Codec.decode_encode isServer b0 key payload rest hb hl

/-- non-vacuity: a masked 5-byte frame with an extreme key -/
example : Spec.decodeFrame (Codec.encode false 130 ⟨255, 0, 255, 0⟩ [1, 2, 3, 4, 5]) =
    some (Codec.frameOf false 130 ⟨255, 0, 255, 0⟩ [1, 2, 3, 4, 5], []) := by decide

open WS.Content WS.WriterMore in
/-- accepted (control messages): the constructor always makes room for a control frame … -/
theorem newW_fits_control (isServer : Bool) (size : Int) (pool nego : Bool) :
    maxFrameHeaderSize + 125 ≤ (newW isServer size pool nego).wbufLen :=
  WriterMore.newW_fits_control isServer size pool nego

open WS.Content WS.WriterMore in
/-- … so a ping/pong of at most 125 bytes through WriteMessage is accepted and is exactly one control
    frame with that payload, client or server -/
theorem writeMessage_control_roundtrip (s : W) (hi : Idle s) (hcap : maxFrameHeaderSize + 125 ≤ s.wbufLen)
    (t : Nat) (ht : t = 9 ∨ t = 10) (data : Bytes) (hd : data.length ≤ 125) :
    (writeMessage s t data).1 = none ∧ Idle (writeMessage s t data).2 ∧
    wireMessages (writeMessage s t data).2 = wireMessages s ∧
    wireControls (writeMessage s t data).2 = wireControls s ++ [(t, data)] :=
  WriterMore.writeMessage_control_roundtrip s hi hcap t ht data hd

open WS.ReaderDecodes WS.PairRoundtrip in
/-- round_trip (the property's headline, as one theorem): whatever `WriteMessage(t, data)` on one
    connection puts on the wire — any payload below 2^40 bytes, any write buffer size, either role
    (masked or not) — a connection of the opposite role reads as exactly `(t, data)`: NextReader returns
    the type, reading to the end with reads of ANY size through ANY bufio size ≥ 125 and ANY transport
    chunking yields exactly the payload and then end-of-message, no handler is invoked, and the reader
    is idle again with the following bytes untouched -/
theorem round_trip (s : W) (hi : Content.Idle s) (t : Nat) (ht : t = 1 ∨ t = 2) (data : Bytes)
    (hd : data.length < 2 ^ 40)
    (c : Conn) (hc : ReaderIdle c) (hrole : c.r.isServer = !s.isServer) (rest : Bytes)
    (hp : c.r.buf.pending = (writeMessage s t data).2.wire.drop s.wire.length ++ rest)
    (hend : c.r.buf.t.together = false ∨ rest ≠ []) (hlim : c.r.limit ≤ 0) (k : Nat) (hk : 0 < k) :
    ∃ c1 rid, nextReader c = (.msg t rid false, c1) ∧
      ∃ c2, readAll c1 rid k = ((data, none), c2) ∧ ReaderIdle c2 ∧ c2.r.buf.pending = rest ∧
        c2.r.hlog = c.r.hlog :=
  PairRoundtrip.pair_roundtrip s hi t ht data hd c hc hrole rest hp hend hlim k hk

open WS.ReaderDecodes WS.PairRoundtrip in
/-- the bridge between the two sides: the frames WriteMessage appends form one conformant message
    (first frame of type t, continuations, FIN on the last; no control frames) whose payload is data -/
theorem writeMessage_frames (s : W) (hi : Content.Idle s) (t : Nat) (ht : t = 1 ∨ t = 2) (data : Bytes)
    (hd : data.length < 2 ^ 40) :
    ∃ fs : List PFrame, MsgShape t fs ∧ dataPayload fs = data ∧ ctlEvents fs = [] ∧
      (writeMessage s t data).2.wire = s.wire ++ encAll (!s.isServer) fs :=
  PairRoundtrip.writeMessage_frames s hi t ht data hd


open WS.ReaderDecodes WS.PairRoundtrip WS.Sequences WS.ContentRF WS.Content

/-- round_trip for ANY NUMBER of messages ("every data message arrives exactly once, in send order"):
    whatever a sequence of WriteMessage calls on one connection puts on the wire, a connection of the
    opposite role reads (`readMsgs`: NextReader, then reads of any size k to the end, repeated) as
    exactly that list of (type, payload) pairs; no handler is invoked, the following bytes are
    untouched, the writer is idle again. By induction over the list from `round_trip`. -/
theorem round_trip_sequence (s : W) (hi : Content.Idle s) (msgs : List (Nat × Bytes))
    (hm : ∀ m ∈ msgs, (m.1 = 1 ∨ m.1 = 2) ∧ m.2.length < 2 ^ 40)
    (c : Conn) (hc : ReaderIdle c) (hrole : c.r.isServer = !s.isServer) (rest : Bytes)
    (hp : c.r.buf.pending = (writeMsgs s msgs).wire.drop s.wire.length ++ rest)
    (hend : c.r.buf.t.together = false ∨ rest ≠ []) (hlim : c.r.limit ≤ 0) (k : Nat) (hk : 0 < k) :
    ∃ c', readMsgs k msgs.length c = (msgs, c') ∧ ReaderIdle c' ∧ c'.r.buf.pending = rest ∧
      c'.r.hlog = c.r.hlog ∧ Content.Idle (writeMsgs s msgs) :=
  WS.Sequences.round_trip_sequence s hi msgs hm c hc hrole rest hp hend hlim k hk

/-- … with control messages in between ("control messages sent in between do not disturb it"): a
    program of WriteMessage (text / binary) and WriteControl (ping / pong ≤ 125 bytes) calls, ending
    with a data message, is read as exactly its data messages in send order, each once, and the
    reader's handlers are invoked for exactly the control frames, in send order (`ctlOf`). -/
theorem round_trip_sequence_with_controls (s : W) (hi : Content.Idle s) (items : List Item)
    (hok : ∀ it ∈ items, it.ok)
    (hlast : items = [] ∨ ∃ pre t d, items = pre ++ [.data t d])
    (c : Conn) (hc : ReaderIdle c) (hrole : c.r.isServer = !s.isServer) (rest : Bytes)
    (hp : c.r.buf.pending = (writeItems s items).wire.drop s.wire.length ++ rest)
    (hend : c.r.buf.t.together = false ∨ rest ≠ []) (hlim : c.r.limit ≤ 0) (k : Nat) (hk : 0 < k) :
    ∃ c', readMsgs k (dataOf items).length c = (dataOf items, c') ∧ ReaderIdle c' ∧
      c'.r.buf.pending = rest ∧ c'.r.hlog = c.r.hlog ++ ctlOf items ∧
      Content.Idle (writeItems s items) :=
  WS.Sequences.round_trip_sequence_with_controls s hi items hok hlast c hc hrole rest hp hend hlim k hk

/-- the NextWriter round trip with `ReadFrom` (io.Copy into the message writer) among the pieces:
    Write / WriteString of any sizes, ReadFrom of a source that hands out its bytes in reads of any
    sizes — empty reads included — and ends with io.EOF, alone or together with its last bytes,
    pings/pongs in between: one message on the wire whose payload is the concatenation of everything
    written and copied, for every buffer size and either role (uncompressed connections) -/
theorem message_roundtrip_readFrom (s : W) (hi : Idle s) (t : Nat) (ht : t = 1 ∨ t = 2) (ps : List Piece2)
    (hps : ∀ p ∈ ps, p.ok) :
    let s' := run s (messageOps2 s t ps)
    Idle s' ∧
    wireMessages s' = wireMessages s ++ [⟨t, false, (ps.map Piece2.bytes).flatten⟩] ∧
    wireControls s' = wireControls s ++ (ps.map Piece2.ctl).flatten :=
  WS.ContentRF.message_roundtrip_readFrom s hi t ht ps hps

/-- the io.ReaderFrom contract: ReadFrom on the live writer of a data message of a healthy connection
    reports exactly the number of bytes the source handed out, and no error, when the source ends with
    io.EOF; in particular the loop terminates (the model's `.hang` outcome is never reached) -/
theorem readFrom_reports_all_data (s : W) (m : MW) (r : Src) (hm : m.err = none) (hr : r.term = none)
    (hcap : 0 < s.cap) (hb : m.buf.length ≤ s.cap) (hw : s.writeErr = none) (hf : s.faults = [])
    (hft : isControl m.ft = false) :
    (mwReadFrom s m r).1 = (r.chunks.flatten.length, none) :=
  WS.ContentRF.readFrom_reports_all_data s m r hm hr hcap hb hw hf hft


open WS.ReaderDecodes WS.PairRoundtrip in
/-- `round_trip` for a receiver with a read limit: any limit not below the payload length lets the
    message through unchanged (and leaves the limit as it is) -/
theorem round_trip_limited (s : W) (hi : Content.Idle s) (t : Nat) (ht : t = 1 ∨ t = 2) (data : Bytes)
    (hd : data.length < 2 ^ 40)
    (c : Conn) (hc : ReaderIdle c) (hrole : c.r.isServer = !s.isServer) (rest : Bytes)
    (hp : c.r.buf.pending = (writeMessage s t data).2.wire.drop s.wire.length ++ rest)
    (hend : c.r.buf.t.together = false ∨ rest ≠ [])
    (hlim : c.r.limit ≤ 0 ∨ (data.length : Int) ≤ c.r.limit) (k : Nat) (hk : 0 < k) :
    ∃ c1 rid, nextReader c = (.msg t rid false, c1) ∧
      ∃ c2, readAll c1 rid k = ((data, none), c2) ∧ ReaderIdle c2 ∧ c2.r.buf.pending = rest ∧
        c2.r.hlog = c.r.hlog ∧ c2.r.limit = c.r.limit :=
  WS.RoundTripLimit.round_trip_limited s hi t ht data hd c hc hrole rest hp hend hlim k hk

open WS.ReaderDecodes WS.PairRoundtrip WS.Sequences in
/-- any number of messages sent with WriteMessage, each within the receiver's read limit (their total
    may be far above it), arrive exactly once, in send order -/
theorem round_trip_sequence_limited (s : W) (hi : Content.Idle s) (msgs : List (Nat × Bytes))
    (c : Conn) (hc : ReaderIdle c) (hrole : c.r.isServer = !s.isServer)
    (hm : ∀ m ∈ msgs, (m.1 = 1 ∨ m.1 = 2) ∧ m.2.length < 2 ^ 40 ∧ (c.r.limit ≤ 0 ∨ (m.2.length : Int) ≤ c.r.limit))
    (rest : Bytes)
    (hp : c.r.buf.pending = (writeMsgs s msgs).wire.drop s.wire.length ++ rest)
    (hend : c.r.buf.t.together = false ∨ rest ≠ []) (k : Nat) (hk : 0 < k) :
    ∃ c', readMsgs k msgs.length c = (msgs, c') ∧ ReaderIdle c' ∧ c'.r.buf.pending = rest ∧
      c'.r.hlog = c.r.hlog :=
  WS.RoundTripLimit.round_trip_sequence_limited s hi msgs c hc hrole hm rest hp hend k hk

section NonVacuity
set_option linter.defProp false
open WS.Witness

/-- a 70000-byte payload: needs the 64-bit length form -/
def witBig : Bytes := List.replicate 70000 0x61
/-- witness for `frame_roundtrip`: the length bound -/
def witBig_len : witBig.length < 2 ^ 63 := by rw [witBig, List.length_replicate]; decide

/-- non-vacuity of `frame_roundtrip`: both hypotheses hold for a masked FIN+binary frame (b0 = 130) of
    70000 bytes with the RFC 6455 §5.7 key 37 fa 21 3d, followed by the first bytes of a next frame,
    and the theorem applies -/
example : Spec.decodeFrame (Codec.encode false 130 ⟨0x37, 0xfa, 0x21, 0x3d⟩ witBig ++ [0x89, 0x80]) =
    some (Codec.frameOf false 130 ⟨0x37, 0xfa, 0x21, 0x3d⟩ witBig, [0x89, 0x80]) :=
  frame_roundtrip false 130 ⟨0x37, 0xfa, 0x21, 0x3d⟩ witBig [0x89, 0x80] (by decide) witBig_len

/-- the client `witC` (write buffer 4096, two masking keys in the key source) after one text message "Hello" went out -/
def witC1 : W := (writeMessage witC (1 : Nat) [72, 101, 108, 108, 111]).2

/-- witness for `writeMessage_control_roundtrip`: the client is `Idle` again after that message -/
def witC1_idle : Content.Idle witC1 :=
  (Content.writeMessage_roundtrip witC witC_idle 1 (Or.inl rfl) [72, 101, 108, 108, 111] (by decide)).2.1

/-- witness for `writeMessage_control_roundtrip`: the buffer has room for a control frame -/
def witC1_cap : maxFrameHeaderSize + 125 ≤ witC1.wbufLen := by decide +kernel

/-- a 125-byte ping payload -/
def witPing : Bytes := List.replicate 125 0x70
/-- witness for `writeMessage_control_roundtrip`: the payload bound -/
def witPing_len : witPing.length ≤ 125 := by rw [witPing, List.length_replicate]; decide

open WS.Content WS.WriterMore in
/-- non-vacuity of `writeMessage_control_roundtrip`: all hypotheses hold for a client (buffer 4096) that
    already sent one message and a ping of the maximal 125 bytes, and the theorem applies -/
example :
    (writeMessage witC1 (9 : Nat) witPing).1 = none ∧ Idle (writeMessage witC1 (9 : Nat) witPing).2 ∧
    wireMessages (writeMessage witC1 (9 : Nat) witPing).2 = wireMessages witC1 ∧
    wireControls (writeMessage witC1 (9 : Nat) witPing).2 = wireControls witC1 ++ [(9, witPing)] :=
  writeMessage_control_roundtrip witC1 witC1_idle witC1_cap 9 (Or.inl rfl) witPing witPing_len

open WS.ReaderDecodes WS.PairRoundtrip WS.SrcLaw

/-- a 5000-byte binary payload 00 01 02 … (more than one write buffer: two frames) -/
def witData : Bytes := (List.range 5000).map UInt8.ofNat
def witData_len : witData.length = 5000 := by simp [witData]

/-- the two frames `WriteMessage(Binary, witData)` makes of it with a 4096-byte buffer -/
def witFrames : List PFrame :=
  [⟨2, false, ⟨1, 2, 3, 4⟩, witData.take 4096⟩, ⟨0, true, ⟨0x37, 0xfa, 0x21, 0x3d⟩, witData.drop 4096⟩]

def witData_take : (witData.take 4096).length = 4096 := by rw [List.length_take, witData_len]; decide
def witData_drop : (witData.drop 4096).length = 904 := by rw [List.length_drop, witData_len]

def witC1_client : witC1.isServer = false := by decide +kernel

/-- what `writeMessage_wire` asks about the client after "Hello" (a five-byte run, evaluated): room for 4096
    payload bytes per frame, the key source, one key drawn -/
def witC1_state : witC1.cap = 4096 ∧ witC1.keys = [0x37, 0xfa, 0x21, 0x3d, 1, 2, 3, 4] ∧ witC1.keyIdx = 1 := by
  decide +kernel

/-- `writeMessage_wire` for the 5000 bytes: 4096 < 5000 ≤ 2 · 4096, so two chunks; the second and then (the
    source wraps around) the first key. The writer is not evaluated on the 5000 bytes (too deep a recursion
    for the kernel): the frames come from `writeMessage_wire`. -/
def witC1_binary : (writeMessage witC1 (2 : Nat) witData).2.wire = witC1.wire ++ encAll true witFrames := by
  have hf : framesOf witC1.cap witC1.isServer witC1.keys witC1.keyIdx 2 witData = witFrames := by
    obtain ⟨h1, h2, h3⟩ := witC1_state
    rw [h1, h2, h3, witC1_client, framesOf, if_neg Bool.false_ne_true,
      chunks_gt (by decide) (by rw [witData_len]; decide), chunks_le (by rw [witData_drop]; decide)]
    rfl
  have h := writeMessage_wire witC1 witC1_idle 2 (Or.inr rfl) witData
  rwa [hf, witC1_client] at h

/-- evaluated: the frames are a non-final binary frame of 4096 bytes (key 01 02 03 04) and a final
    continuation frame of 904 bytes (the key source wraps around to 37 fa 21 3d) -/
example : (writeMessage witC1 (2 : Nat) witData).2.wire = witC1.wire ++ encAll (!witC1.isServer)
    [⟨2, false, ⟨1, 2, 3, 4⟩, witData.take 4096⟩, ⟨0, true, ⟨0x37, 0xfa, 0x21, 0x3d⟩, witData.drop 4096⟩] := by
  rw [witC1_client]; exact witC1_binary

/-- the bytes `WriteMessage(Binary, witData)` appends to the wire of the client `witC1` (which already
    sent "Hello", so the wire is not empty and the key index is 1) -/
def witWire : Bytes := (writeMessage witC1 (2 : Nat) witData).2.wire.drop witC1.wire.length

def witWire_eq : witWire = encAll true witFrames := by
  rw [witWire, witC1_binary, List.drop_left]

/-- two masked frames: 8 + 4096 and 8 + 904 bytes -/
def witWire_len : witWire.length = 5016 := by
  rw [witWire_eq, witFrames, encAll_cons, encAll_cons, encAll_nil, List.length_append, List.length_append,
    enc_length_eq true _ _ _ witData_take, enc_length_eq true _ _ _ witData_drop]
  decide

/-- evaluated (header and first payload byte of the first frame, its length given by `witData_take`): first
    frame = binary, no FIN, MASK + 16-bit length 4096, second key of the key source -/
example : witWire.take 9 = [0x02, 0xFE, 0x10, 0x00, 1, 2, 3, 4, 0x00 ^^^ 1] := by
  rw [witWire_eq, witFrames, encAll_cons]
  simp only [PFrame.enc, Codec.encode, witData_take]
  decide +kernel

/-- a server-side idle reader (bufio size 4096, no read limit, one ping already handled) whose pending
    bytes are exactly those bytes plus two trailing bytes (the header of a masked ping), delivered in three
    transport chunks: 1000 bytes, 3000 bytes, the remaining 1016 + 2 -/
def witRd : Conn :=
  { w := newW true 4096 false false,
    r := { isServer := true, nego := false, hlog := [.ping [7]],
           buf := { size := 4096, buf := [],
                    t := { chunks := [witWire.take 1000, (witWire.drop 1000).take 3000, witWire.drop 4000 ++ [0x89, 0x80]] },
                    total := 5018 } } }

def witRd_pending : witRd.r.buf.pending = witWire ++ [0x89, 0x80] := by
  rw [pending_mk, show witRd.r.buf.buf = [] from rfl, List.nil_append]
  exact cut3 witWire [0x89, 0x80] 1000 3000

def witRd_idle : ReaderIdle witRd :=
  ⟨rfl, rfl, rfl, ⟨by decide, by decide, by decide +kernel, (by intro e h; cases h)⟩, by decide,
    (by rw [witRd_pending, List.length_append, witWire_len]; decide),
    (by intro id h; cases h), (by intro id h; cases h)⟩

def witRd_round_trip : ∃ c1 rid, nextReader witRd = (.msg 2 rid false, c1) ∧
      ∃ c2, readAll c1 rid 512 = ((witData, none), c2) ∧ ReaderIdle c2 ∧ c2.r.buf.pending = [0x89, 0x80] ∧
        c2.r.hlog = witRd.r.hlog :=
  round_trip witC1 witC1_idle 2 (Or.inr rfl) witData (by rw [witData_len]; decide) witRd witRd_idle (by decide +kernel)
    [0x89, 0x80] witRd_pending (Or.inl rfl) (by decide) 512 (by decide)

/-- non-vacuity of `round_trip` -/
example : ∃ c1 rid, nextReader witRd = (.msg 2 rid false, c1) ∧
      ∃ c2, readAll c1 rid 512 = ((witData, none), c2) ∧ ReaderIdle c2 ∧ c2.r.buf.pending = [0x89, 0x80] ∧
        c2.r.hlog = witRd.r.hlog :=
  witRd_round_trip

/-- NextReader on `witRd`, evaluated on the model (the pending bytes given as the two frames `witFrames`,
    their payload lengths as numerals) -/
def witRd_next :
    (match (nextReader witRd).1 with | .msg t rid z => t == 2 && rid == 0 && !z | _ => false) = true := by
  rw [witRd, witWire_eq, witFrames]
  simp only [encAll_cons, encAll_nil, PFrame.enc, Codec.encode, witData_take, witData_drop]
  decide +kernel

/-- evaluated on the model: NextReader announces a binary message with reader id 0, uncompressed … -/
example : (match (nextReader witRd).1 with | .msg t rid z => t == 2 && rid == 0 && !z | _ => false) = true :=
  witRd_next

/-- … and so, by `round_trip` for that reader, reading it to the end in 512-byte reads returns exactly the
    5000 bytes and then end-of-message (no error), leaving the two trailing bytes pending -/
example : (match readAll (nextReader witRd).2 0 512 with
    | ((out, e), c2) => out == witData && e.isNone && c2.r.buf.pending == [0x89, 0x80]) = true := by
  obtain ⟨c1, rid, h1, c2, h2, _, h3, _⟩ := witRd_round_trip
  have hr := witRd_next
  rw [h1] at hr ⊢
  obtain rfl : rid = 0 := by simpa using hr
  simp [h2, h3]

/-- non-vacuity of `writeMessage_frames`: the same client and message -/
example : ∃ fs : List PFrame, MsgShape 2 fs ∧ dataPayload fs = witData ∧ ctlEvents fs = [] ∧
      (writeMessage witC1 (2 : Nat) witData).2.wire = witC1.wire ++ encAll (!witC1.isServer) fs :=
  writeMessage_frames witC1 witC1_idle 2 (Or.inr rfl) witData (by rw [witData_len]; decide)

/-- a second instance of `writeMessage_frames` / `round_trip`'s writer side: a 300-byte text message from the
    fresh client `witC` (one frame, 16-bit length form) -/
example : ∃ fs : List PFrame, MsgShape 1 fs ∧ dataPayload fs = List.replicate 300 0x41 ∧ ctlEvents fs = [] ∧
      (writeMessage witC (1 : Nat) (List.replicate 300 0x41)).2.wire = witC.wire ++ encAll (!witC.isServer) fs :=
  writeMessage_frames witC witC_idle 1 (Or.inl rfl) _ (by rw [List.length_replicate]; decide)

/-! #### sequences of messages (`round_trip_sequence`, `round_trip_sequence_with_controls`) -/

/-- a client connection whose write buffer was supplied by the caller and has room for 16 payload
    bytes only (30 = maxFrameHeaderSize + 16); three masking keys in the key source -/
def witS : W :=
  { newW false 0 false false (some 30) with keys := [0x37, 0xfa, 0x21, 0x3d, 1, 2, 3, 4, 9, 8, 7, 6] }

example : witS.cap = 16 := by decide

def witS_idle : Content.Idle witS :=
  ⟨rfl, rfl, rfl, (fun m h => by cases h), ⟨by decide, by decide⟩, ⟨[], by decide, rfl⟩, rfl⟩

/-- three messages: text "hello", binary 00 01 … 27 (40 bytes: three frames of 16 + 16 + 8 with
    that buffer), and an empty text message -/
def witMsgs : List (Nat × Bytes) :=
  [(1, [0x68, 0x65, 0x6c, 0x6c, 0x6f]), (2, (List.range 40).map UInt8.ofNat), (1, [])]

def witMsgs_ok : ∀ m ∈ witMsgs, (m.1 = 1 ∨ m.1 = 2) ∧ m.2.length < 2 ^ 40 := by
  intro m hm
  simp only [witMsgs, List.mem_cons, List.not_mem_nil, or_false] at hm
  rcases hm with rfl | rfl | rfl
  · exact ⟨Or.inl rfl, by decide⟩
  · exact ⟨Or.inr rfl, by decide⟩
  · exact ⟨Or.inl rfl, by decide⟩

/-- what the three WriteMessage calls put on the wire -/
def witSeqWire : Bytes := (writeMsgs witS witMsgs).wire.drop witS.wire.length

/-- evaluated: five masked frames, 11 + (22 + 22 + 14) + 6 bytes; the second message starts with a
    non-final binary frame of 16 bytes under the second key, and the wire ends with the empty final
    text frame under the second key again (the key source wrapped around) -/
example : witSeqWire.length = 75 ∧
    witSeqWire.take 11 = [0x81, 0x85, 0x37, 0xfa, 0x21, 0x3d, 0x68 ^^^ 0x37, 0x65 ^^^ 0xfa, 0x6c ^^^ 0x21, 0x6c ^^^ 0x3d, 0x6f ^^^ 0x37] ∧
    (witSeqWire.drop 11).take 7 = [0x02, 0x90, 1, 2, 3, 4, 0 ^^^ 1] ∧
    witSeqWire.drop 69 = [0x81, 0x80, 1, 2, 3, 4] := by decide +kernel

/-- a server-side idle reader (bufio size 4096, no read limit, one pong already handled) whose pending
    bytes are that wire followed by two stray bytes (the header of a masked ping): 9 bytes buffered,
    the rest in two transport chunks of 30 and 36 + 2 bytes -/
def witSeqRd : Conn :=
  { w := newW true 4096 false false,
    r := { isServer := true, nego := false, hlog := [.pong [7]],
           buf := { size := 4096, buf := witSeqWire.take 9,
                    t := { chunks := [(witSeqWire.drop 9).take 30, witSeqWire.drop 39 ++ [0x89, 0x80]] },
                    total := 77 } } }

def witSeqRd_pending : witSeqRd.r.buf.pending = (writeMsgs witS witMsgs).wire.drop witS.wire.length ++ [0x89, 0x80] := by
  decide +kernel

def witSeqRd_idle : ReaderIdle witSeqRd := by decide +kernel

/-- non-vacuity of `round_trip_sequence`: `Content.Idle` for the small-buffer client, the per-message
    hypotheses, `ReaderIdle` for the opposite-role reader, the pending bytes = evaluated wire ++ two
    stray bytes, `hend` and the limit hypothesis hold together; reads of 7 bytes -/
example : ∃ c', readMsgs 7 3 witSeqRd = (witMsgs, c') ∧ ReaderIdle c' ∧ c'.r.buf.pending = [0x89, 0x80] ∧
      c'.r.hlog = witSeqRd.r.hlog ∧ Content.Idle (writeMsgs witS witMsgs) :=
  round_trip_sequence witS witS_idle witMsgs witMsgs_ok witSeqRd witSeqRd_idle (by decide) [0x89, 0x80]
    witSeqRd_pending (Or.inl rfl) (by decide) 7 (by decide)

/-- the reader of `witSeqRd` with a read limit of exactly 40 bytes — the size of the largest of the
    three messages, 45 bytes in all -/
def witSeqRdLim : Conn := { witSeqRd with r := { witSeqRd.r with limit := 40 } }

def witSeqRdLim_idle : ReaderIdle witSeqRdLim :=
  ⟨witSeqRd_idle.noErr, witSeqRd_idle.rem, witSeqRd_idle.fin, witSeqRd_idle.wf, witSeqRd_idle.size, witSeqRd_idle.fuel,
   witSeqRd_idle.hp, witSeqRd_idle.hq⟩

/-- non-vacuity of `round_trip_sequence_limited` (and of `round_trip_limited` inside it): the three
    messages are read in full under the limit of 40 -/
example : ∃ c', readMsgs 7 3 witSeqRdLim = (witMsgs, c') ∧ ReaderIdle c' ∧ c'.r.buf.pending = [0x89, 0x80] ∧
      c'.r.hlog = witSeqRdLim.r.hlog :=
  round_trip_sequence_limited witS witS_idle witMsgs witSeqRdLim witSeqRdLim_idle (by decide)
    (by
      intro m hm
      simp only [witMsgs, List.mem_cons, List.not_mem_nil, or_false] at hm
      rcases hm with rfl | rfl | rfl
      · exact ⟨Or.inl rfl, by decide, Or.inr (by decide)⟩
      · exact ⟨Or.inr rfl, by decide, Or.inr (by decide)⟩
      · exact ⟨Or.inl rfl, by decide, Or.inr (by decide)⟩)
    [0x89, 0x80] witSeqRd_pending (Or.inl rfl) 7 (by decide)

/-- the same instance evaluated directly on the model -/
example : (readMsgs 7 3 witSeqRd).1 = witMsgs ∧ (readMsgs 7 3 witSeqRd).2.r.buf.pending = [0x89, 0x80] ∧
    (readMsgs 7 3 witSeqRd).2.r.hlog = [.pong [7]] := by decide +kernel

/-- a writer program: ping "p1", text "a", pong "q", binary 01 02 03 -/
def witItems : List Item :=
  [.ctl 9 [0x70, 0x31] 5, .data 1 [0x61], .ctl 10 [0x71] 5, .data 2 [1, 2, 3]]

def witItems_ok : ∀ it ∈ witItems, it.ok := by
  intro it h
  simp only [witItems, List.mem_cons, List.not_mem_nil, or_false] at h
  rcases h with rfl | rfl | rfl | rfl
  · exact ⟨Or.inl rfl, by decide⟩
  · exact ⟨Or.inl rfl, by decide⟩
  · exact ⟨Or.inr rfl, by decide⟩
  · exact ⟨Or.inr rfl, by decide⟩

def witItems_last : witItems = [] ∨ ∃ pre t d, witItems = pre ++ [.data t d] :=
  Or.inr ⟨[.ctl 9 [0x70, 0x31] 5, .data 1 [0x61], .ctl 10 [0x71] 5], 2, [1, 2, 3], rfl⟩

/-- what the program puts on the wire of the client `witC1` (write buffer 4096, "Hello" already sent) -/
def witItemsWire : Bytes := (writeItems witC1 witItems).wire.drop witC1.wire.length

/-- evaluated: four masked frames (8 + 7 + 7 + 9 bytes): ping, text, pong, binary -/
example : witItemsWire.length = 31 ∧ witItemsWire.take 2 = [0x89, 0x82] ∧ (witItemsWire.drop 8).take 2 = [0x81, 0x81] ∧
    (witItemsWire.drop 15).take 2 = [0x8A, 0x81] ∧ (witItemsWire.drop 22).take 2 = [0x82, 0x83] := by decide +kernel

/-- a server-side idle reader whose pending bytes are that wire followed by the first byte of a next
    frame: 3 bytes buffered, the rest in chunks of 10 and 18 + 1 bytes -/
def witItemsRd : Conn :=
  { w := newW true 4096 false false,
    r := { isServer := true, nego := false, hlog := [.pong [7]],
           buf := { size := 4096, buf := witItemsWire.take 3,
                    t := { chunks := [(witItemsWire.drop 3).take 10, witItemsWire.drop 13 ++ [0x81]] },
                    total := 32 } } }

def witItemsRd_pending : witItemsRd.r.buf.pending = (writeItems witC1 witItems).wire.drop witC1.wire.length ++ [0x81] := by
  decide +kernel

def witItemsRd_idle : ReaderIdle witItemsRd :=
  ⟨rfl, rfl, rfl, ⟨by decide, by decide +kernel, by decide +kernel, (by intro e h; cases h)⟩, by decide, by decide +kernel,
    (by intro id h; cases h), (by intro id h; cases h)⟩

/-- non-vacuity of `round_trip_sequence_with_controls`: all hypotheses (including `hok` and `hlast`)
    hold together; reads of 2 bytes. Both data messages arrive, the ping and pong handlers ran in
    send order. -/
example : ∃ c', readMsgs 2 (dataOf witItems).length witItemsRd = ([(1, [0x61]), (2, [1, 2, 3])], c') ∧ ReaderIdle c' ∧
      c'.r.buf.pending = [0x81] ∧ c'.r.hlog = [.pong [7]] ++ [.ping [0x70, 0x31], .pong [0x71]] ∧
      Content.Idle (writeItems witC1 witItems) :=
  round_trip_sequence_with_controls witC1 witC1_idle witItems witItems_ok witItems_last witItemsRd witItemsRd_idle
    (by decide +kernel) [0x81] witItemsRd_pending (Or.inl rfl) (by decide) 2 (by decide)

/-- the same instance evaluated directly on the model -/
example : (readMsgs 2 2 witItemsRd).1 = [(1, [0x61]), (2, [1, 2, 3])] ∧
    (readMsgs 2 2 witItemsRd).2.r.hlog = [.pong [7], .ping [0x70, 0x31], .pong [0x71]] := by decide +kernel

/-! #### ReadFrom (`message_roundtrip_readFrom`, `readFrom_reports_all_data`) -/

/-- an io.Reader handing out "cd", then an empty read, then "efg" together with io.EOF -/
def witSrc1 : Src := { chunks := [[0x63, 0x64], [], [0x65, 0x66, 0x67]], term := none, together := true }
/-- an io.Reader handing out "hi" and then, separately, io.EOF -/
def witSrc2 : Src := { chunks := [[0x68, 0x69]], term := none }

/-- the pieces of one text message: Write "ab", io.Copy from `witSrc1`, a ping "pg", io.Copy from `witSrc2` -/
def witPieces : List Piece2 :=
  [.write [0x61, 0x62] false, .readFrom witSrc1, .control 9 [0x70, 0x67] 5, .readFrom witSrc2]

def witPieces_ok : ∀ p ∈ witPieces, p.ok := by
  intro p h
  simp only [witPieces, List.mem_cons, List.not_mem_nil, or_false] at h
  rcases h with rfl | rfl | rfl | rfl
  · exact (by decide : [0x61, 0x62].length < 2 ^ 40)
  · exact ⟨rfl, by decide⟩
  · exact ⟨Or.inl rfl, by decide⟩
  · exact ⟨rfl, by decide⟩

/-- non-vacuity of `message_roundtrip_readFrom`: `Idle` and all `Piece2.ok` hold for the client `witC`;
    the message on the wire is "abcdefghi" and the ping went out as a control frame -/
example :
    let s' := run witC (messageOps2 witC 1 witPieces)
    Idle s' ∧
    wireMessages s' = wireMessages witC ++ [⟨1, false, [0x61, 0x62, 0x63, 0x64, 0x65, 0x66, 0x67, 0x68, 0x69]⟩] ∧
    wireControls s' = wireControls witC ++ [(9, [0x70, 0x67])] :=
  message_roundtrip_readFrom witC witC_idle 1 (Or.inl rfl) witPieces witPieces_ok

/-- evaluated: the wire is the masked ping (first key) followed by ONE final text frame of 9 bytes (second key) -/
example : (run witC (messageOps2 witC 1 witPieces)).wire =
    encAll true [⟨9, true, ⟨0x37, 0xfa, 0x21, 0x3d⟩, [0x70, 0x67]⟩,
                       ⟨1, true, ⟨1, 2, 3, 4⟩, [0x61, 0x62, 0x63, 0x64, 0x65, 0x66, 0x67, 0x68, 0x69]⟩] := by
  decide +kernel

/-- a client connection with room for 8 payload bytes (22 = maxFrameHeaderSize + 8) after
    NextWriter(BinaryMessage) and Write of 3 bytes: the live message writer has 3 buffered bytes -/
def witRF : W :=
  run { newW false 0 false false (some 22) with keys := [0x37, 0xfa, 0x21, 0x3d, 1, 2, 3, 4] }
    [.nextWriter 2 [] [], .write 0 [0xa1, 0xa2, 0xa3] [] false]

example : witRF.cap = 8 ∧ witRF.writer = some 0 ∧ (getMW witRF 0).buf = [0xa1, 0xa2, 0xa3] ∧ (getMW witRF 0).ft = 2 ∧
    witRF.wire = [] := by decide +kernel

/-- a source of 20 bytes in chunks of 7, 6 and 7, then io.EOF -/
def witSrc20 : Src :=
  { chunks := [[0, 1, 2, 3, 4, 5, 6], [7, 8, 9, 10, 11, 12], [13, 14, 15, 16, 17, 18, 19]], term := none }

/-- non-vacuity of `readFrom_reports_all_data`: all seven hypotheses hold; ReadFrom reports 20 -/
example : (mwReadFrom witRF (getMW witRF 0) witSrc20).1 = (20, none) :=
  readFrom_reports_all_data witRF (getMW witRF 0) witSrc20 (by decide +kernel) rfl (by decide +kernel) (by decide +kernel)
    (by decide +kernel) (by decide +kernel) (by decide +kernel)

/-- evaluated: two full non-final frames of 8 bytes went out (binary under the first key, a
    continuation under the second) and the last 7 bytes are in the buffer -/
example : (mwReadFrom witRF (getMW witRF 0) witSrc20).2.1.wire =
      encAll true [⟨2, false, ⟨0x37, 0xfa, 0x21, 0x3d⟩, [0xa1, 0xa2, 0xa3, 0, 1, 2, 3, 4]⟩,
                         ⟨0, false, ⟨1, 2, 3, 4⟩, [5, 6, 7, 8, 9, 10, 11, 12]⟩] ∧
    (mwReadFrom witRF (getMW witRF 0) witSrc20).2.2.buf = [13, 14, 15, 16, 17, 18, 19] := by decide +kernel

end NonVacuity

end WS.Props.C01
