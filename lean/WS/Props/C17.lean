import WS.Lemmas.LineLaw
import WS.Model.Server
import WS.Lemmas.SrcLaw
/-
  C17 — No bytes are lost or reordered at the handshake boundary.
  brNetConn serves the hijacked reader's buffered bytes first and never over-reads; composed with
  the stream law of the connection's own bufio.Reader (C03) the Conn's byte source is
  `buffered ++ socket` on all three paths of Upgrade (reuse / wrap / nothing buffered).
-/
namespace WS.Props.C17
open WS WS.Server

/-- reads of sizes `ks` from a brNetConn: the bytes served from the hijacked buffer and the state -/
def serve (b : BrConn) : List Nat → Bytes × BrConn
  | [] => ([], b)
  | k :: ks =>
    match b.read (k + 1) with
    | (some bs, b') => let (rest, b'') := serve b' ks; (bs ++ rest, b'')
    | (none, b') => ([], b')

/-- brnetconn_stream: whatever the read sizes, the bytes served from the hijacked reader are a prefix
    of what it had buffered, in order, and what remains buffered is exactly the rest: nothing is
    lost, repeated or reordered, and the switch to the socket happens exactly when the buffer is empty -/
theorem brnetconn_stream (buf : Bytes) (hne : buf ≠ []) (ks : List Nat) :
    let (out, b') := serve ⟨some buf⟩ ks
    out ++ (b'.buffered.getD []) = buf ∧ (b'.buffered = none ∨ ∃ r, b'.buffered = some r ∧ r ≠ []) := by
  -- once the hijacked reader is dropped (`buffered = none`) every read goes to the socket
  have hnone : ∀ ks, serve ⟨none⟩ ks = ([], ⟨none⟩) := fun ks => by cases ks <;> rfl
  induction ks generalizing buf with
  | nil => simp [serve, hne]
  | cons k ks ih =>
    -- one read delivers `buf.take n` and leaves `buf.drop n` buffered, where `n = min (k + 1) buf.length`
    simp only [serve, BrConn.read]
    generalize min (k + 1) buf.length = n
    have hsplit := List.take_append_drop n buf
    by_cases hr : (buf.drop n).isEmpty
    · -- the buffer is used up: the remaining reads serve nothing
      rw [if_pos hr, hnone]
      have hd : buf.drop n = [] := by simpa using hr
      rw [hd, List.append_nil] at hsplit
      simp [hsplit]
    · -- the remaining reads are served from `buf.drop n`: induction hypothesis
      rw [if_neg hr]
      have ih' := ih (buf.drop n) (by simpa using hr)
      generalize serve ⟨some (buf.drop n)⟩ ks = r at ih' ⊢
      obtain ⟨out, b'⟩ := r
      exact ⟨by rw [List.append_assoc, ih'.1, hsplit], ih'.2⟩

/-- never over-reads: a Read served from the buffer returns at most what is buffered and at most what
    was asked for -/
theorem brnetconn_no_overread (buf : Bytes) (k : Nat) (bs : Bytes) (b' : BrConn)
    (h : (BrConn.read ⟨some buf⟩ k) = (some bs, b')) : bs.length ≤ k ∧ bs.length ≤ buf.length := by
  simp only [BrConn.read, Prod.mk.injEq, Option.some.injEq] at h
  obtain ⟨h1, _⟩ := h
  subst h1
  simp [List.length_take]
  omega

/-- upgrade_reader_choice: the three paths of Upgrade — reuse the hijacked reader (its buffered bytes
    stay in front), wrap the connection (brNetConn serves them first), or neither when nothing is
    buffered -/
theorem upgrade_reader_choice (rbs : Int) (brSize buffered : Nat) :
    let reuse := rbs == 0 && brSize > 256
    let wrap := !reuse && buffered > 0
    (reuse = true → wrap = false) ∧ (reuse = false ∧ wrap = false → buffered = 0) := by
  simp
  constructor
  · intro h1 h2 h3
    rcases h3 with h3 | h3
    · exact absurd h1 h3
    · omega
  · intro h1 h2
    apply h2
    by_cases hz : rbs = 0
    · right; exact h1 hz
    · left; exact hz

/-- `serve` evaluated: reads of 2, 1 and 8 bytes deliver the five buffered bytes in order -/
example : (serve ⟨some [1, 2, 3, 4, 5]⟩ [1, 0, 7]).1 = [1, 2, 3, 4, 5] := by decide

open WS.SrcLaw WS.LineLaw in
/-- client side: http.ReadResponse consumes the 101 header block line by line from the connection's
    own bufio.Reader; for every chunking and buffer size exactly the header lines are consumed, so the
    first frame starts at the byte after the empty line — bytes glued to the handshake are neither
    lost nor duplicated (with C03's stream law for what follows) -/
theorem client_header_block_consumed_exactly (lines : List Bytes) (hl : ∀ l ∈ lines, (10 : UInt8) ∉ l) (b : Buf) (h : WF b) (hs : 16 ≤ b.size)
    (htot : b.pending.length ≤ b.total)
    (rest : Bytes) (hp : b.pending = block lines rest) :
    let b' := lines.foldl (fun b _ => b.readLine (2 * b.total + 2)) b
    WF b' ∧ b'.pending = rest ∧ Same b b' ∧ b'.total = b.total :=
  LineLaw.client_header_block_consumed_exactly lines hl b h hs htot rest hp

open WS.SrcLaw WS.LineLaw in
theorem readLine_spec (b : Buf) (h : WF b) (hs : 16 ≤ b.size) (line rest : Bytes) (hl : (10 : UInt8) ∉ line)
    (hp : b.pending = line ++ 10 :: rest) (fuel : Nat) (hf : 2 * b.pending.length + 2 ≤ fuel) :
    WF (b.readLine fuel) ∧ (b.readLine fuel).pending = rest ∧ Same b (b.readLine fuel) :=
  LineLaw.readLine_spec b h hs line rest hl hp fuel hf

section NonVacuity
set_option linter.defProp false
open WS.SrcLaw WS.LineLaw

/-- bytes a client glued to its upgrade request, left in the hijacked bufio.Reader: a masked text
    frame "Hello" (RFC 6455 §5.7) -/
def witHij : Bytes := [0x81, 0x85, 0x37, 0xfa, 0x21, 0x3d, 0x7f, 0x9f, 0x4d, 0x51, 0x58]

/-- non-vacuity of `brnetconn_stream`: 11 buffered bytes, reads of 2, 4 and 8 bytes -/
example : let (out, b') := serve ⟨some witHij⟩ [1, 3, 7]
    out ++ (b'.buffered.getD []) = witHij ∧ (b'.buffered = none ∨ ∃ r, b'.buffered = some r ∧ r ≠ []) :=
  brnetconn_stream witHij (by decide) [1, 3, 7]
/-- non-vacuity of `brnetconn_stream`: reads that stop inside the buffer (2 and 4 bytes of 11) -/
example : let (out, b') := serve ⟨some witHij⟩ [1, 3]
    out ++ (b'.buffered.getD []) = witHij ∧ (b'.buffered = none ∨ ∃ r, b'.buffered = some r ∧ r ≠ []) :=
  brnetconn_stream witHij (by decide) [1, 3]
example : serve ⟨some witHij⟩ [1, 3] = ([0x81, 0x85, 0x37, 0xfa, 0x21, 0x3d], ⟨some [0x7f, 0x9f, 0x4d, 0x51, 0x58]⟩) := rfl

/-- non-vacuity of `brnetconn_no_overread`: a 4-byte Read (frame header peek) from the 11 buffered bytes -/
example : ([0x81, 0x85, 0x37, 0xfa] : Bytes).length ≤ 4 ∧ ([0x81, 0x85, 0x37, 0xfa] : Bytes).length ≤ witHij.length :=
  brnetconn_no_overread witHij 4 [0x81, 0x85, 0x37, 0xfa] ⟨some [0x21, 0x3d, 0x7f, 0x9f, 0x4d, 0x51, 0x58]⟩ rfl
/-- non-vacuity of `brnetconn_no_overread`: a 4096-byte Read gets only the 11 buffered bytes -/
example : witHij.length ≤ 4096 ∧ witHij.length ≤ witHij.length :=
  brnetconn_no_overread witHij 4096 witHij ⟨none⟩ rfl

/-- instance of `upgrade_reader_choice`: ReadBufferSize 0, hijacked reader of 4096
    bytes with 11 bytes buffered: reuse, no wrap -/
example : ((0 : Int) == 0 && 4096 > 256) = true ∧ (!((0 : Int) == 0 && 4096 > 256) && 11 > 0) = false := by decide

/-- the header lines of the RFC 6455 sample 101 response, each without its "\n" (the last one is the
    empty line "\r\n") -/
def witLines : List Bytes :=
  [/- 'HTTP/1.1 101 Switching Protocols\r' -/
   [72, 84, 84, 80, 47, 49, 46, 49, 32, 49, 48, 49, 32, 83, 119, 105, 116, 99, 104, 105, 110, 103, 32,
    80, 114, 111, 116, 111, 99, 111, 108, 115, 13],
   /- 'Upgrade: websocket\r' -/
   [85, 112, 103, 114, 97, 100, 101, 58, 32, 119, 101, 98, 115, 111, 99, 107, 101, 116, 13],
   /- 'Connection: Upgrade\r' -/
   [67, 111, 110, 110, 101, 99, 116, 105, 111, 110, 58, 32, 85, 112, 103, 114, 97, 100, 101, 13],
   /- 'Sec-WebSocket-Accept: s3pPLMBiTxaQ9kYGzzhZRbK+xOo=\r' -/
   [83, 101, 99, 45, 87, 101, 98, 83, 111, 99, 107, 101, 116, 45, 65, 99, 99, 101, 112, 116, 58, 32,
    115, 51, 112, 80, 76, 77, 66, 105, 84, 120, 97, 81, 57, 107, 89, 71, 122, 122, 104, 90, 82, 98, 75,
    43, 120, 79, 111, 61, 13],
   /- '\r' -/
   [13]]
/-- the first bytes of the first frame (unmasked text "Hello", truncated), glued to the handshake -/
def witRest : Bytes := [129, 5, 72, 101, 108]
/-- the transport delivers the 134 bytes in four chunks: cut inside the status line, inside the
    Sec-WebSocket-Accept line, and before its "\\r\\n"; the last chunk carries the end of the
    block together with the frame bytes -/
def witChunks : List Bytes :=
  [[72, 84, 84, 80, 47, 49, 46, 49, 32, 49, 48, 49, 32, 83, 119, 105, 116, 99, 104, 105],
   [110, 103, 32, 80, 114, 111, 116, 111, 99, 111, 108, 115, 13, 10, 85, 112, 103, 114, 97, 100, 101,
    58, 32, 119, 101, 98, 115, 111, 99, 107, 101, 116, 13, 10, 67, 111, 110, 110, 101, 99, 116, 105,
    111, 110, 58, 32, 85, 112, 103, 114, 97, 100, 101, 13, 10, 83, 101, 99, 45, 87],
   [101, 98, 83, 111, 99, 107, 101, 116, 45, 65, 99, 99, 101, 112, 116, 58, 32, 115, 51, 112, 80, 76,
    77, 66, 105, 84, 120, 97, 81, 57, 107, 89, 71, 122, 122, 104, 90, 82, 98, 75, 43, 120, 79, 111, 61],
   [13, 10, 13, 10, 129, 5, 72, 101, 108]]

/-- the client connection's own bufio.Reader (4096 bytes) on top of that transport -/
def witBuf : Buf := { size := 4096, t := { chunks := witChunks }, total := 134 }
/-- the same transport under the smallest buffer the theorems allow (16 bytes: every header line but
    the last is longer than the buffer) -/
def witBuf16 : Buf := { size := 16, t := { chunks := witChunks }, total := 134 }

/-- witness for `client_header_block_consumed_exactly`: no header line contains a newline -/
def witLines_nl : ∀ l ∈ witLines, (10 : UInt8) ∉ l := by decide
/-- witness for `client_header_block_consumed_exactly` / `readLine_spec` -/
def witBuf_wf : WF witBuf := ⟨by decide, by decide, by decide, fun e h => nomatch h⟩
def witBuf16_wf : WF witBuf16 := ⟨by decide, by decide, by decide, fun e h => nomatch h⟩
def witBuf_block : witBuf.pending = block witLines witRest := by decide +kernel
def witBuf16_block : witBuf16.pending = block witLines witRest := by decide +kernel

/-- non-vacuity of `client_header_block_consumed_exactly`: 4096-byte reader, five header lines split
    over four transport chunks, frame bytes glued to the last one -/
example : let b' := witLines.foldl (fun b _ => b.readLine (2 * b.total + 2)) witBuf
    WF b' ∧ b'.pending = witRest ∧ Same witBuf b' ∧ b'.total = witBuf.total :=
  client_header_block_consumed_exactly witLines witLines_nl witBuf witBuf_wf (by decide) (by decide +kernel)
    witRest witBuf_block
/-- non-vacuity of `client_header_block_consumed_exactly`: the same with a 16-byte reader -/
example : let b' := witLines.foldl (fun b _ => b.readLine (2 * b.total + 2)) witBuf16
    WF b' ∧ b'.pending = witRest ∧ Same witBuf16 b' ∧ b'.total = witBuf16.total :=
  client_header_block_consumed_exactly witLines witLines_nl witBuf16 witBuf16_wf (by decide) (by decide +kernel)
    witRest witBuf16_block

/-- non-vacuity of `readLine_spec`: the status line of the 101 response is read from `witBuf`; what
    stays pending is the rest of the block and the frame bytes -/
example : WF (witBuf.readLine 270) ∧ (witBuf.readLine 270).pending = block witLines.tail witRest ∧
    Same witBuf (witBuf.readLine 270) :=
  readLine_spec witBuf witBuf_wf (by decide) (witLines.headD []) (block witLines.tail witRest) (by decide)
    (by decide +kernel) 270 (by decide +kernel)

end NonVacuity

end WS.Props.C17
