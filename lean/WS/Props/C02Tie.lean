import WS.Gen.Skeletons
/-
  C02 — translator tie: the statement text of the functions this property's model transcribes, regenerated
  from /repo by factgen on every run (WS/Gen/Skeletons.lean), equals the text the model was written against.
  A change to one of these functions breaks the obligation below; the check then searches for a failing
  input with the property's oracles (DESIGN §5).
-/
namespace WS.Props.C02Tie
open WS

/-- flushFrame and the deflate plumbing (truncWriter.Write, flateWriteWrapper.Write/Close) are the modelled ones -/
theorem flushFrame_as_modelled :
    Gen.stmts_flushFrame =
      ["c := w.c",
        "length := w.pos - maxFrameHeaderSize + len(extra)",
        "if isControl(w.frameType) && (!final || length > maxControlFramePayloadSize) { return w.endMessage(errInvalidControlFrame) }",
        "b0 := byte(w.frameType)",
        "if final { b0 |= finalBit }",
        "if w.compress { b0 |= rsv1Bit }",
        "w.compress = false",
        "b1 := byte(0)",
        "if !c.isServer { b1 |= maskBit }",
        "framePos := 0",
        "if c.isServer { framePos = 4 }",
        "switch { case length >= 65536: c.writeBuf[framePos] = b0 c.writeBuf[framePos+1] = b1 | 127 binary.BigEndian.PutUint64(c.writeBuf[framePos+2:], uint64(length)) case length > 125: framePos += 6 c.writeBuf[framePos] = b0 c.writeBuf[framePos+1] = b1 | 126 binary.BigEndian.PutUint16(c.writeBuf[framePos+2:], uint16(length)) default: framePos += 8 c.writeBuf[framePos] = b0 c.writeBuf[framePos+1] = b1 | byte(length) }",
        "if !c.isServer { key := newMaskKey() copy(c.writeBuf[maxFrameHeaderSize-4:], key[:]) maskBytes(key, 0, c.writeBuf[maxFrameHeaderSize:w.pos]) if len(extra) > 0 { return w.endMessage(c.writeFatal(errors.New(\"websocket: internal error, extra used in client mode\"))) } }",
        "if c.isWriting { panic(\"concurrent write to websocket connection\") }",
        "c.isWriting = true",
        "err := c.write(w.frameType, c.writeDeadline, c.writeBuf[framePos:w.pos], extra)",
        "if !c.isWriting { panic(\"concurrent write to websocket connection\") }",
        "c.isWriting = false",
        "if err != nil { return w.endMessage(err) }",
        "if final { _ = w.endMessage(errWriteClosed) return nil }",
        "w.pos = maxFrameHeaderSize",
        "w.frameType = continuationFrame",
        "return nil"] ∧
    Gen.stmts_truncWrite =
      ["n := 0",
        "if w.n < len(w.p) { n = copy(w.p[w.n:], p) p = p[n:] w.n += n if len(p) == 0 { return n, nil } }",
        "m := len(p)",
        "if m > len(w.p) { m = len(w.p) }",
        "if nn, err := w.w.Write(w.p[:m]); err != nil { return n + nn, err }",
        "copy(w.p[:], w.p[m:])",
        "copy(w.p[len(w.p)-m:], p[len(p)-m:])",
        "nn, err := w.w.Write(p[:len(p)-m])",
        "return n + nn, err"] ∧
    Gen.stmts_flateWrite =
      ["if w.fw == nil { return 0, errWriteClosed }",
        "return w.fw.Write(p)"] ∧
    Gen.stmts_flateClose =
      ["if w.fw == nil { return errWriteClosed }",
        "err1 := w.fw.Flush()",
        "w.p.Put(w.fw)",
        "w.fw = nil",
        "if w.tw.p != [4]byte{0, 0, 0xff, 0xff} { return errors.New(\"websocket: internal error, unexpected bytes at end of flate stream\") }",
        "err2 := w.tw.w.Close()",
        "if err1 != nil { return err1 }",
        "return err2"] :=
  ⟨rfl, rfl, rfl, rfl⟩


/-- newMaskKey (one draw of 4 bytes from the key source per call), isControl and isData are the modelled ones -/
theorem key_source_and_opcode_classes_as_modelled :
    Gen.stmts_newMaskKey =
      ["var k [4]byte",
        "_, _ = io.ReadFull(maskRand, k[:])",
        "return k"] ∧
    Gen.stmts_isControl =
      ["return frameType == CloseMessage || frameType == PingMessage || frameType == PongMessage"] ∧
    Gen.stmts_isData =
      ["return frameType == TextMessage || frameType == BinaryMessage"] :=
  ⟨rfl, rfl, rfl⟩


end WS.Props.C02Tie
