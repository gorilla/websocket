import WS.Model.Client
/-
  C18 — Proxy tunnelling and TLS are applied on every dial path.
  Theorems over the decision logic `Client.dialPlan` (which function makes the first hop, what the
  proxy is asked, where TLS is layered) for the whole configuration matrix; the plan is compared
  with what in-process proxies and TLS backends observe (stream matrix). crypto/tls and the SOCKS5
  client of x/net are exercised, not modelled.
-/
namespace WS.Props.C18
open WS WS.Client

/-- wss_verified_tls: for a wss URL, on every path except a bare custom NetDialTLSContext without
    proxy, the library itself does TLS to the backend (ServerName = URL host, verification unless the
    user's config disables it) — over the proxy tunnel when there is a proxy -/
theorem wss_verified_tls (c : MCfg) (hw : c.wss = true) :
    (dialPlan c).libTLSBackend = true ∨ (c.proxy = .none ∧ c.ndtls = true ∧ (dialPlan c).customTLSBackend = true) := by
  obtain ⟨p, w, nd, ndc, ndtls, cr, ce, sk⟩ := c
  subst hw
  cases p <;> cases ndtls <;> simp [dialPlan]

/-- … and then the dial succeeds only with a certificate valid for the host (or verification disabled
    by the user) -/
theorem wss_success_needs_valid_cert (c : MCfg) (hw : c.wss = true) (hs : (dialPlan c).succeeds = true) :
    c.cert = .ok ∨ (c.skipVerify = true ∧ (dialPlan c).libTLSBackend = true) := by
  -- `succeeds` is the certificate test of whichever side does TLS to the backend, and by `wss_verified_tls` one does
  have hs' : (if (dialPlan c).libTLSBackend then (c.cert == .ok || c.skipVerify)
      else if (dialPlan c).customTLSBackend then c.cert == .ok else true) = true := hs
  cases hl : (dialPlan c).libTLSBackend
  · rcases wss_verified_tls c hw with h | ⟨_, _, hc⟩
    · rw [hl] at h
      cases h
    · rw [hl, hc] at hs'
      exact Or.inl (by simpa using hs')
  · rw [hl] at hs'
    simpa using hs'

/-- ws URLs get no TLS to the backend -/
theorem ws_no_backend_tls (c : MCfg) (hw : c.wss = false) :
    (dialPlan c).libTLSBackend = false ∧ (dialPlan c).customTLSBackend = false := by
  obtain ⟨p, w, nd, ndc, ndtls, cr, ce, sk⟩ := c
  subst hw
  simp [dialPlan]

/-- connect_once / auth_iff_password: an HTTP(S) proxy gets a CONNECT, with Basic credentials exactly
    when the proxy URL carries a password -/
theorem connect_and_auth (c : MCfg) :
    ((dialPlan c).connect = true ↔ (c.proxy = .http ∨ c.proxy = .https)) ∧
    ((dialPlan c).connectAuth = true ↔ ((c.proxy = .http ∨ c.proxy = .https) ∧ (c.cred = .userpass ∨ c.cred = .userempty))) := by
  show ((c.proxy == .http || c.proxy == .https) = true ↔ _) ∧
    (((c.proxy == .http || c.proxy == .https) && (c.cred == .userpass || c.cred == .userempty)) = true ↔ _)
  simp

/-- first_hop_custom: the first hop always goes to the proxy when one is configured, and uses the
    applicable custom dial function: NetDialTLSContext for an https entity, else NetDialContext, else
    NetDial -/
theorem first_hop_custom (c : MCfg) :
    (dialPlan c).firstHopIsProxy = (c.proxy != .none) ∧
    (c.firstHTTPS = true → c.ndtls = true → (dialPlan c).firstFn = .ndtls) ∧
    ((c.firstHTTPS = false ∨ c.ndtls = false) → c.ndc = true → (dialPlan c).firstFn = .ndc) ∧
    ((c.firstHTTPS = false ∨ c.ndtls = false) → c.ndc = false → c.nd = true → (dialPlan c).firstFn = .nd) := by
  -- the field `firstFn` of `dialPlan c`, and the field `firstHopIsProxy` (first conjunct)
  have hf : (dialPlan c).firstFn =
      if c.firstHTTPS && c.ndtls then .ndtls else if c.ndc then .ndc else if c.nd then .nd else .default := rfl
  refine ⟨rfl, ?_, ?_, ?_⟩
  · intro h1 h2
    rw [hf, h1, h2]; rfl
  · intro h1 h2
    rw [hf, Bool.and_eq_false_iff.mpr h1, h2]; rfl
  · intro h1 h2 h3
    rw [hf, Bool.and_eq_false_iff.mpr h1, h2, h3]; rfl

/-- hostPortNoPort: default ports 443 for wss/https and 80 otherwise; an explicit port is kept; a
    bracketed IPv6 literal without port gets the default port -/
theorem hostport_examples :
    hostPortNoPort (strBytes "wss") (strBytes "example.com") = (strBytes "example.com:443", strBytes "example.com") ∧
    hostPortNoPort (strBytes "ws") (strBytes "example.com") = (strBytes "example.com:80", strBytes "example.com") ∧
    hostPortNoPort (strBytes "ws") (strBytes "example.com:8080") = (strBytes "example.com:8080", strBytes "example.com") ∧
    hostPortNoPort (strBytes "wss") (strBytes "[::1]") = (strBytes "[::1]:443", strBytes "[::1]") ∧
    hostPortNoPort (strBytes "https") (strBytes "[::1]:9") = (strBytes "[::1]:9", strBytes "[::1]") := by
  decide +kernel

/-- hostPortNoPort in general: a host without ':' after the last ']' gets the scheme's default port -/
theorem hostport_default (scheme host : Bytes) (h : lastIndexOf host 58 ≤ lastIndexOf host 93) :
    hostPortNoPort scheme host =
      (host ++ (if scheme == strBytes "wss" || scheme == strBytes "https" then strBytes ":443" else strBytes ":80"), host) := by
  unfold hostPortNoPort
  have : ¬ (lastIndexOf host 58 > lastIndexOf host 93) := by omega
  simp [this]

section NonVacuity
set_option linter.defProp false

/-- a wss dial through an https proxy whose URL carries user:password, NetDialContext set, backend
    certificate valid, verification on -/
def witWssHttpsProxy : MCfg :=
  { proxy := .https, wss := true, nd := false, ndc := true, ndtls := false, cred := .userpass,
    cert := .ok, skipVerify := false }

/-- a direct wss dial with a custom NetDialTLSContext (the one path where the library does not do TLS itself) -/
def witWssCustomTLS : MCfg :=
  { proxy := .none, wss := true, nd := false, ndc := false, ndtls := true, cred := .none,
    cert := .ok, skipVerify := false }

/-- a wss dial through a SOCKS5 proxy to a backend with an untrusted certificate, InsecureSkipVerify set -/
def witWssSocksSkip : MCfg :=
  { proxy := .socks5, wss := true, nd := true, ndc := false, ndtls := false, cred := .user,
    cert := .untrusted, skipVerify := true }

/-- a plain ws dial through an http proxy with credentials -/
def witWsHttpProxy : MCfg :=
  { proxy := .http, wss := false, nd := false, ndc := false, ndtls := true, cred := .userpass,
    cert := .other, skipVerify := false }

/-- non-vacuity of `wss_verified_tls`: wss through an https proxy with userpass credentials; the left
    disjunct (library TLS over the tunnel) is the one that holds -/
example : (dialPlan witWssHttpsProxy).libTLSBackend = true ∨
    (witWssHttpsProxy.proxy = .none ∧ witWssHttpsProxy.ndtls = true ∧ (dialPlan witWssHttpsProxy).customTLSBackend = true) :=
  wss_verified_tls witWssHttpsProxy rfl
/-- the witness of `wss_verified_tls` is the realistic path: CONNECT with Basic credentials, TLS to the proxy and TLS to the backend -/
example : (dialPlan witWssHttpsProxy).libTLSBackend = true ∧ (dialPlan witWssHttpsProxy).connect = true ∧
    (dialPlan witWssHttpsProxy).connectAuth = true ∧ (dialPlan witWssHttpsProxy).libTLSFirstHop = true := by decide

/-- non-vacuity of `wss_verified_tls`, right disjunct: direct wss with a custom NetDialTLSContext -/
example : (dialPlan witWssCustomTLS).libTLSBackend = true ∨
    (witWssCustomTLS.proxy = .none ∧ witWssCustomTLS.ndtls = true ∧ (dialPlan witWssCustomTLS).customTLSBackend = true) :=
  wss_verified_tls witWssCustomTLS rfl
/-- for the second witness of `wss_verified_tls` the left disjunct is false, so the right one is really needed -/
example : (dialPlan witWssCustomTLS).libTLSBackend = false ∧ (dialPlan witWssCustomTLS).customTLSBackend = true := by decide

/-- witness for `wss_success_needs_valid_cert`: the https-proxy dial succeeds -/
def witWssHttpsProxy_succeeds : (dialPlan witWssHttpsProxy).succeeds = true := by decide
/-- non-vacuity of `wss_success_needs_valid_cert`: both hypotheses hold for the wss / https-proxy /
    valid-certificate dial (left disjunct) -/
example : witWssHttpsProxy.cert = .ok ∨ (witWssHttpsProxy.skipVerify = true ∧ (dialPlan witWssHttpsProxy).libTLSBackend = true) :=
  wss_success_needs_valid_cert witWssHttpsProxy rfl witWssHttpsProxy_succeeds

/-- witness for `wss_success_needs_valid_cert`: the SOCKS5 dial with InsecureSkipVerify succeeds although the certificate is untrusted -/
def witWssSocksSkip_succeeds : (dialPlan witWssSocksSkip).succeeds = true := by decide
/-- non-vacuity of `wss_success_needs_valid_cert`, right disjunct: untrusted certificate, verification
    disabled by the user, library TLS over the SOCKS5 tunnel -/
example : witWssSocksSkip.cert = .ok ∨ (witWssSocksSkip.skipVerify = true ∧ (dialPlan witWssSocksSkip).libTLSBackend = true) :=
  wss_success_needs_valid_cert witWssSocksSkip rfl witWssSocksSkip_succeeds
/-- for the second witness of `wss_success_needs_valid_cert` the left disjunct is false -/
example : witWssSocksSkip.cert ≠ .ok := by decide
/-- the hypothesis `succeeds` of `wss_success_needs_valid_cert` is not automatic: the same dial with verification on fails -/
example : (dialPlan { witWssSocksSkip with skipVerify := false }).succeeds = false := by decide

/-- non-vacuity of `ws_no_backend_tls`: a ws dial through an http proxy (with a NetDialTLSContext set, which must not be used for the backend) -/
example : (dialPlan witWsHttpProxy).libTLSBackend = false ∧ (dialPlan witWsHttpProxy).customTLSBackend = false :=
  ws_no_backend_tls witWsHttpProxy rfl

/-- witness for `hostport_default`: "example.com" has no ':' (last index -1) and no ']' (last index -1) -/
def witHost_noPort : lastIndexOf (strBytes "example.com") 58 ≤ lastIndexOf (strBytes "example.com") 93 := by decide +kernel
/-- non-vacuity of `hostport_default`: wss://example.com gets port 443 -/
example : hostPortNoPort (strBytes "wss") (strBytes "example.com") =
    (strBytes "example.com" ++ (if strBytes "wss" == strBytes "wss" || strBytes "wss" == strBytes "https" then strBytes ":443" else strBytes ":80"),
     strBytes "example.com") :=
  hostport_default (strBytes "wss") (strBytes "example.com") witHost_noPort

/-- witness for `hostport_default`: a bracketed IPv6 literal without port: last ':' at 6, ']' at 7 -/
def witHost_v6 : lastIndexOf (strBytes "[2001::1]") 58 ≤ lastIndexOf (strBytes "[2001::1]") 93 := by decide +kernel
/-- non-vacuity of `hostport_default`: ws://[2001::1] gets port 80 -/
example : hostPortNoPort (strBytes "ws") (strBytes "[2001::1]") =
    (strBytes "[2001::1]" ++ (if strBytes "ws" == strBytes "wss" || strBytes "ws" == strBytes "https" then strBytes ":443" else strBytes ":80"),
     strBytes "[2001::1]") :=
  hostport_default (strBytes "ws") (strBytes "[2001::1]") witHost_v6
/-- the hypothesis of `hostport_default` is not automatic: it fails for a host with an explicit port -/
example : ¬ (lastIndexOf (strBytes "example.com:8080") 58 ≤ lastIndexOf (strBytes "example.com:8080") 93) := by decide +kernel

end NonVacuity

end WS.Props.C18
