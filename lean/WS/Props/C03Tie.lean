import WS.Gen.Skeletons
/-
  C03 — translator tie: the statement text of the functions this property's model transcribes, regenerated
  from /repo by factgen on every run (WS/Gen/Skeletons.lean), equals the text the model was written against.
  A change to one of these functions breaks the obligation below; the check then searches for a failing
  input with the property's oracles (DESIGN §5).
-/
namespace WS.Props.C03Tie
open WS

/-- today's advanceFrame, NextReader, messageReader.Read/Close and ReadMessage are the modelled ones -/
theorem read_path_as_modelled :
    Gen.stmts_advanceFrame =
      ["if c.readRemaining > 0 { if _, err := io.CopyN(io.Discard, c.br, c.readRemaining); err != nil { return noFrame, err } }",
        "var errors []string",
        "p, err := c.read(2)",
        "if err != nil { return noFrame, err }",
        "frameType := int(p[0] & 0xf)",
        "final := p[0]&finalBit != 0",
        "rsv1 := p[0]&rsv1Bit != 0",
        "rsv2 := p[0]&rsv2Bit != 0",
        "rsv3 := p[0]&rsv3Bit != 0",
        "mask := p[1]&maskBit != 0",
        "_ = c.setReadRemaining(int64(p[1] & 0x7f))",
        "c.readDecompress = false",
        "if rsv1 { if c.newDecompressionReader != nil { c.readDecompress = true } else { errors = append(errors, \"RSV1 set\") } }",
        "if rsv2 { errors = append(errors, \"RSV2 set\") }",
        "if rsv3 { errors = append(errors, \"RSV3 set\") }",
        "switch frameType { case CloseMessage, PingMessage, PongMessage: if c.readRemaining > maxControlFramePayloadSize { errors = append(errors, \"len > 125 for control\") } if !final { errors = append(errors, \"FIN not set on control\") } case TextMessage, BinaryMessage: if !c.readFinal { errors = append(errors, \"data before FIN\") } c.readFinal = final case continuationFrame: if c.readFinal { errors = append(errors, \"continuation after FIN\") } c.readFinal = final default: errors = append(errors, \"bad opcode \"+strconv.Itoa(frameType)) }",
        "if mask != c.isServer { errors = append(errors, \"bad MASK\") }",
        "if len(errors) > 0 { return noFrame, c.handleProtocolError(strings.Join(errors, \", \")) }",
        "switch c.readRemaining { case 126: p, err := c.read(2) if err != nil { return noFrame, err } if err := c.setReadRemaining(int64(binary.BigEndian.Uint16(p))); err != nil { return noFrame, err } case 127: p, err := c.read(8) if err != nil { return noFrame, err } if err := c.setReadRemaining(int64(binary.BigEndian.Uint64(p))); err != nil { _ = c.WriteControl(CloseMessage, FormatCloseMessage(CloseMessageTooBig, \"\"), time.Now().Add(writeWait)) return noFrame, err } }",
        "if mask { c.readMaskPos = 0 p, err := c.read(len(c.readMaskKey)) if err != nil { return noFrame, err } copy(c.readMaskKey[:], p) }",
        "if frameType == continuationFrame || frameType == TextMessage || frameType == BinaryMessage { if frameType != continuationFrame { c.readLength = 0 } c.readLength += c.readRemaining if c.readLength < 0 { _ = c.WriteControl(CloseMessage, FormatCloseMessage(CloseMessageTooBig, \"\"), time.Now().Add(writeWait)) return noFrame, ErrReadLimit } if c.readLimit > 0 && c.readLength > c.readLimit { _ = c.WriteControl(CloseMessage, FormatCloseMessage(CloseMessageTooBig, \"\"), time.Now().Add(writeWait)) return noFrame, ErrReadLimit } return frameType, nil }",
        "var payload []byte",
        "if c.readRemaining > 0 { payload, err = c.read(int(c.readRemaining)) _ = c.setReadRemaining(0) if err != nil { return noFrame, err } if c.isServer { maskBytes(c.readMaskKey, 0, payload) } }",
        "switch frameType { case PongMessage: if err := c.handlePong(string(payload)); err != nil { return noFrame, err } case PingMessage: if err := c.handlePing(string(payload)); err != nil { return noFrame, err } case CloseMessage: closeCode := CloseNoStatusReceived closeText := \"\" if len(payload) >= 2 { closeCode = int(binary.BigEndian.Uint16(payload)) if !isValidReceivedCloseCode(closeCode) { return noFrame, c.handleProtocolError(\"bad close code \" + strconv.Itoa(closeCode)) } closeText = string(payload[2:]) if !utf8.ValidString(closeText) { return noFrame, c.handleProtocolError(\"invalid utf8 payload in close frame\") } } if err := c.handleClose(closeCode, closeText); err != nil { return noFrame, err } return noFrame, &CloseError{Code: closeCode, Text: closeText} }",
        "return frameType, nil"] ∧
    Gen.stmts_NextReader =
      ["if c.reader != nil { c.reader.Close() c.reader = nil }",
        "c.messageReader = nil",
        "c.readLength = 0",
        "for c.readErr == nil { frameType, err := c.advanceFrame() if err != nil { c.readErr = err break } if frameType == TextMessage || frameType == BinaryMessage { c.messageReader = &messageReader{c} c.reader = c.messageReader if c.readDecompress { c.reader = c.newDecompressionReader(c.reader) } return frameType, c.reader, nil } }",
        "c.readErrCount++",
        "if c.readErrCount >= 1000 { panic(\"repeated read on failed websocket connection\") }",
        "return noFrame, nil, c.readErr"] ∧
    Gen.stmts_messageReaderRead =
      ["c := r.c",
        "if c.messageReader != r { return 0, io.EOF }",
        "for c.readErr == nil { if c.readRemaining > 0 { if int64(len(b)) > c.readRemaining { b = b[:c.readRemaining] } n, err := c.br.Read(b) c.readErr = err if c.isServer { c.readMaskPos = maskBytes(c.readMaskKey, c.readMaskPos, b[:n]) } rem := c.readRemaining rem -= int64(n) _ = c.setReadRemaining(rem) if (c.readRemaining > 0 || !c.readFinal) && c.readErr == io.EOF { c.readErr = errUnexpectedEOF } return n, c.readErr } if c.readFinal { c.messageReader = nil return 0, io.EOF } frameType, err := c.advanceFrame() switch { case err != nil: c.readErr = err case frameType == TextMessage || frameType == BinaryMessage: c.readErr = errors.New(\"websocket: internal error, unexpected text or binary in Reader\") } }",
        "err := c.readErr",
        "if err == io.EOF && c.messageReader == r { err = errUnexpectedEOF }",
        "return 0, err"] ∧
    Gen.stmts_readerClose =
      ["return nil"] ∧
    Gen.stmts_ReadMessage =
      ["var r io.Reader",
        "messageType, r, err = c.NextReader()",
        "if err != nil { return messageType, nil, err }",
        "p, err = io.ReadAll(r)",
        "return messageType, p, err"] :=
  ⟨rfl, rfl, rfl, rfl, rfl⟩


/-- today's Conn.read (Peek + Discard: the byte source of every header), joinReader.Read / JoinMessages and decompressNoContextTakeover are the modelled ones -/
theorem join_and_source_as_modelled :
    Gen.stmts_connRead =
      ["p, err := c.br.Peek(n)",
        "if err == io.EOF { err = errUnexpectedEOF }",
        "_, _ = c.br.Discard(len(p))",
        "return p, err"] ∧
    Gen.stmts_joinRead =
      ["if r.r == nil { var err error _, r.r, err = r.c.NextReader() if err != nil { return 0, err } if r.term != \"\" { r.r = io.MultiReader(r.r, strings.NewReader(r.term)) } }",
        "n, err := r.r.Read(p)",
        "if err == io.EOF { err = nil r.r = nil }",
        "return n, err"] ∧
    Gen.stmts_JoinMessages =
      ["return &joinReader{c: c, term: term}"] ∧
    Gen.stmts_decompressNCT =
      ["const tail = \"\\x00\\x00\\xff\\xff\" + \"\\x01\\x00\\x00\\xff\\xff\"",
        "fr, _ := flateReaderPool.Get().(io.ReadCloser)",
        "mr := io.MultiReader(r, strings.NewReader(tail))",
        "if err := fr.(flate.Resetter).Reset(mr, nil); err != nil { fr = flate.NewReader(mr) }",
        "return &flateReadWrapper{fr: fr, src: mr}"] ∧
    Gen.stmts_ReadJSON =
      ["_, r, err := c.NextReader()",
        "if err != nil { return err }",
        "err = json.NewDecoder(r).Decode(v)",
        "if err == io.EOF { err = io.ErrUnexpectedEOF }",
        "return err"] :=
  ⟨rfl, rfl, rfl, rfl, rfl⟩


end WS.Props.C03Tie
