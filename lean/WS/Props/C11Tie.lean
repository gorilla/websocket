import WS.Gen.Skeletons
/-
  C11 — translator tie: the statement text of the functions this property's model transcribes, regenerated
  from /repo by factgen on every run (WS/Gen/Skeletons.lean), equals the text the model was written against.
  A change to one of these functions breaks the obligation below; the check then searches for a failing
  input with the property's oracles (DESIGN §5).
-/
namespace WS.Props.C11Tie
open WS

/-- Conn.Close in /repo touches only the transport and SetWriteDeadline only records the deadline -/
theorem close_and_deadline_as_modelled :
    Gen.stmts_connClose =
      ["return c.conn.Close()"] ∧
    Gen.stmts_SetWriteDeadline =
      ["c.writeDeadline = t",
        "return nil"] :=
  ⟨rfl, rfl⟩

end WS.Props.C11Tie
