import WS.Gen.Skeletons
/-
  C04 — translator tie: the statement text of the functions this property's model transcribes, regenerated
  from /repo by factgen on every run (WS/Gen/Skeletons.lean), equals the text the model was written against.
  A change to one of these functions breaks the obligation below; the check then searches for a failing
  input with the property's oracles (DESIGN §5).
-/
namespace WS.Props.C04Tie
open WS

/-- today's handleProtocolError and FormatCloseMessage are the modelled ones -/
theorem protocol_error_as_modelled :
    Gen.stmts_handleProtocolError =
      ["data := FormatCloseMessage(CloseProtocolError, message)",
        "if len(data) > maxControlFramePayloadSize { data = data[:maxControlFramePayloadSize] }",
        "_ = c.WriteControl(CloseMessage, data, time.Now().Add(writeWait))",
        "return errors.New(\"websocket: \" + message)"] ∧
    Gen.stmts_FormatCloseMessage =
      ["if closeCode == CloseNoStatusReceived { return []byte{} }",
        "buf := make([]byte, 2+len(text))",
        "binary.BigEndian.PutUint16(buf, uint16(closeCode))",
        "copy(buf[2:], text)",
        "return buf"] :=
  ⟨rfl, rfl⟩


end WS.Props.C04Tie
