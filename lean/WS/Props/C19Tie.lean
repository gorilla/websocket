import WS.Gen.Skeletons
/-
  C19 — translator tie: the statement text of the functions this property's model transcribes, regenerated
  from /repo by factgen on every run (WS/Gen/Skeletons.lean), equals the text the model was written against.
  A change to one of these functions breaks the obligation below; the check then searches for a failing
  input with the property's oracles (DESIGN §5).
-/
namespace WS.Props.C19Tie
open WS

/-- WritePreparedMessage and PreparedMessage.frame in /repo are the modelled ones -/
theorem prepared_as_modelled :
    Gen.stmts_WritePreparedMessage =
      ["frameType, frameData, err := pm.frame(prepareKey{ isServer: c.isServer, compress: c.newCompressionWriter != nil && c.enableWriteCompression && isData(pm.messageType), compressionLevel: c.compressionLevel, })",
        "if err != nil { return err }",
        "if isData(pm.messageType) && c.writer != nil { c.writer.Close() c.writer = nil }",
        "if c.isWriting { panic(\"concurrent write to websocket connection\") }",
        "c.isWriting = true",
        "err = c.write(frameType, c.writeDeadline, frameData, nil)",
        "if !c.isWriting { panic(\"concurrent write to websocket connection\") }",
        "c.isWriting = false",
        "return err"] ∧
    Gen.stmts_preparedFrame =
      ["pm.mu.Lock()",
        "frame, ok := pm.frames[key]",
        "if !ok { frame = &preparedFrame{} pm.frames[key] = frame }",
        "pm.mu.Unlock()",
        "var err error",
        "frame.once.Do(func() { mu := make(chan struct{}, 1) mu <- struct{}{} var nc prepareConn c := &Conn{ conn: &nc, mu: mu, isServer: key.isServer, compressionLevel: key.compressionLevel, enableWriteCompression: true, writeBuf: make([]byte, defaultWriteBufferSize+maxFrameHeaderSize), } if key.compress { c.newCompressionWriter = compressNoContextTakeover } err = c.WriteMessage(pm.messageType, pm.data) frame.data = nc.buf.Bytes() })",
        "return pm.messageType, frame.data, err"] :=
  ⟨rfl, rfl⟩


/-- NewPreparedMessage in /repo is the modelled one -/
theorem new_prepared_as_modelled :
    Gen.stmts_NewPreparedMessage =
      ["pm := &PreparedMessage{ messageType: messageType, frames: make(map[prepareKey]*preparedFrame), data: data, }",
        "_, frameData, err := pm.frame(prepareKey{isServer: true, compress: false})",
        "if err != nil { return nil, err }",
        "pm.data = frameData[len(frameData)-len(data):]",
        "return pm, nil"] :=
  rfl

end WS.Props.C19Tie
