import WS.Lemmas.ViolProgram
import WS.Lemmas.AuditGaps
import WS.Lemmas.HdrLogic
import WS.Lemmas.ReaderRejects
import WS.Gen.Skeletons
import WS.Lemmas.ReaderLift
import WS.Lemmas.ReaderMore
import WS.Lemmas.Witness
/-
  C04 — Framing violations are rejected fail-stop and never reach the application.
-/
namespace WS.Props.C04
open WS WS.HdrLogic WS.SrcLaw WS.ReaderRejects

/-- the reader's header check reports an error exactly for the violations the property lists, for
    every header over the full alphabet, either role, negotiated or not, idle or mid-message -/
theorem violates_iff_model_error (isServer nego final : Bool) (h : Hdr) :
    headerErrors isServer nego final h = [] ↔ ¬ Violates isServer nego (!final) h :=
  headerErrors_nil_iff isServer nego final h

/-- the accepted close codes are exactly 1000–1003, 1007–1013 and 3000–4999 (generated table) -/
theorem closecode_spec (c : Nat) :
    isValidReceivedCloseCode c = true ↔ ((1000 ≤ c ∧ c ≤ 1003) ∨ (1007 ≤ c ∧ c ≤ 1013) ∨ (3000 ≤ c ∧ c ≤ 4999)) :=
  HdrLogic.closecode_spec c

/-- the check list recognised in today's advanceFrame is the one the model implements -/
theorem header_checks_as_modelled :
    Gen.headerChecks =
      [("rsv1 && !(c.newDecompressionReader != nil)", "\"RSV1 set\""),
       ("rsv2", "\"RSV2 set\""),
       ("rsv3", "\"RSV3 set\""),
       ("switch frameType case CloseMessage,PingMessage,PongMessage && c.readRemaining > maxControlFramePayloadSize", "\"len > 125 for control\""),
       ("switch frameType case CloseMessage,PingMessage,PongMessage && !final", "\"FIN not set on control\""),
       ("switch frameType case TextMessage,BinaryMessage && !c.readFinal", "\"data before FIN\""),
       ("switch frameType case continuationFrame && c.readFinal", "\"continuation after FIN\""),
       ("switch frameType default", "\"bad opcode \"+strconv.Itoa(frameType)"),
       ("mask != c.isServer", "\"bad MASK\"")] := rfl

/-- C04 (state machine): at any frame boundary — idle or inside a fragmented message, either role,
    negotiated or not, any source chunking — a header that violates the framing rules makes
    advanceFrame fail with a protocol error; no handler runs, the frame's payload is never looked
    at, and exactly one close frame with status 1002 is written -/
theorem header_violation_rejected (c : Conn) (hc : AtBoundary c) (hw : WHealthy c.w) (b0 b1 : UInt8) (rest : Bytes)
    (hp : c.r.buf.pending = b0 :: b1 :: rest)
    (hv : Violates c.r.isServer c.r.nego (!c.r.final) (parseHdr b0 b1)) :
    ∃ msg c', advanceFrame c = (.error (.protocol msg), c') ∧
      c'.r.hlog = c.r.hlog ∧ c'.r.buf.pending = rest ∧
      c'.w.wire = c.w.wire ++ closeFrameBytes c.w ((closePayload 1002 (strBytes msg)).take 125) ∧
      c'.w.writeErr = some .closeSent :=
  ReaderRejects.header_violation_rejected c hc hw b0 b1 rest hp hv

/-- a 64-bit length with the top bit set: ErrReadLimit before any payload, a 1009 (not a 1002) close -/
theorem topbit_length_rejected (c : Conn) (hc : AtBoundary c) (hw : WHealthy c.w) (b0 b1 : UInt8) (ext rest : Bytes)
    (hp : c.r.buf.pending = b0 :: b1 :: ext ++ rest) (hext : ext.length = 8)
    (hok : ¬ Violates c.r.isServer c.r.nego (!c.r.final) (parseHdr b0 b1))
    (h127 : (parseHdr b0 b1).len7 = 127) (htop : 2 ^ 63 ≤ beVal ext) :
    ∃ c', advanceFrame c = (.error .readLimit, c') ∧ c'.r.hlog = c.r.hlog ∧ c'.r.buf.pending = rest ∧
      c'.w.wire = c.w.wire ++ closeFrameBytes c.w (closePayload 1009 []) ∧ c'.w.writeErr = some .closeSent :=
  ReaderRejects.topbit_length_rejected c hc hw b0 b1 ext rest hp hext hok h127 htop

/-- every later read fails with the same error, runs no handler, writes and consumes nothing -/
theorem nextReader_sticky (c : Conn) (e : RErr) (he : c.r.readErr = some e) (hn : c.r.errCount + 1 < 1000) :
    ∃ c', nextReader c = (.err e, c') ∧ c'.r.readErr = some e ∧ c'.w = c.w ∧ c'.r.hlog = c.r.hlog ∧
      c'.r.buf = c.r.buf ∧ c'.r.errCount = c.r.errCount + 1 :=
  ReaderRejects.nextReader_sticky c e he hn

/-- … up to the documented panic of the 1000th call on a failed connection -/
theorem nextReader_panics_at_1000 (c : Conn) (e : RErr) (he : c.r.readErr = some e) (hn : 1000 ≤ c.r.errCount + 1) :
    ∃ c', nextReader c = (.panic, c') :=
  ReaderRejects.nextReader_panics_at_1000 c e he hn

/-- nothing further is delivered through a message reader either -/
theorem mrRead_after_error (c : Conn) (e : RErr) (he : c.r.readErr = some e) (rid k : Nat) :
    ((mrRead c rid k).1).1 = [] ∧ ((mrRead c rid k).1).2.isSome ∧ (mrRead c rid k).2.w = c.w :=
  ReaderRejects.mrRead_after_error c e he rid k

/-- non-vacuity: RSV2 on a text frame to an idle server reader is a violation, and the model flags it -/
example : headerErrors true false true (parseHdr 0xA1 0x80) = ["RSV2 set"] := by decide

open WS.Codec WS.ReaderDecodes WS.ReaderLift
/-- fail-stop at the API (reader idle, any conformant history behind it): the NextReader call that meets
    a violating frame returns the protocol error (or, on what would be the 1000th failed call, the
    repeated-read panic), records it, invokes no handler, consumes nothing beyond the 2 header bytes,
    and writes exactly one 1002 close frame -/
theorem nextReader_violation (c : Conn) (hc : ReaderIdle c) (hw : WHealthy c.w) (b0 b1 : UInt8) (rest : Bytes)
    (hp : c.r.buf.pending = b0 :: b1 :: rest)
    (hv : Violates c.r.isServer c.r.nego false (parseHdr b0 b1)) :
    ∃ msg c', nextReader c = (if c.r.errCount + 1 ≥ 1000 then NRRes.panic else .err (.protocol msg), c') ∧
      c'.r.readErr = some (.protocol msg) ∧
      c'.r.hlog = c.r.hlog ∧ c'.r.buf.pending = rest ∧
      c'.w.wire = c.w.wire ++ closeFrameBytes c.w ((closePayload 1002 (strBytes msg)).take 125) ∧
      c'.w.writeErr = some .closeSent :=
  ReaderLift.nextReader_violation_total c hc hw b0 b1 rest hp hv

/-- fail-stop inside a fragmented message: the Read that meets the violating frame returns the error
    with zero bytes — e.g. a new text/binary frame where a continuation is due -/
theorem read_violation_mid_message (c : Conn) (rid : Nat) (hc : MidMessage c rid) (hw : WHealthy c.w) (b0 b1 : UInt8) (rest : Bytes)
    (hp : c.r.buf.pending = b0 :: b1 :: rest)
    (hv : Violates c.r.isServer c.r.nego true (parseHdr b0 b1)) (k : Nat) (hk : 0 < k) :
    ∃ msg c', mrRead c rid k = (([], some (.protocol msg)), c') ∧ c'.r.readErr = some (.protocol msg) ∧
      c'.r.hlog = c.r.hlog ∧
      c'.w.wire = c.w.wire ++ closeFrameBytes c.w ((closePayload 1002 (strBytes msg)).take 125) :=
  ReaderLift.read_violation_mid_message c rid hc hw b0 b1 rest hp hv k hk

open WS.ReaderMore in
/-- on reachable states (failed-call counter 0 while no error is latched) there is no panic branch -/
theorem nextReader_violation_reachable (c : Conn) (hc : ReaderIdle c) (hi : CountInv c) (hw : WHealthy c.w) (b0 b1 : UInt8) (rest : Bytes)
    (hp : c.r.buf.pending = b0 :: b1 :: rest)
    (hv : Violates c.r.isServer c.r.nego false (parseHdr b0 b1)) :
    ∃ msg c', nextReader c = (.err (.protocol msg), c') ∧ c'.r.readErr = some (.protocol msg) ∧
      c'.r.hlog = c.r.hlog ∧ c'.r.buf.pending = rest ∧
      c'.w.wire = c.w.wire ++ closeFrameBytes c.w ((closePayload 1002 (strBytes msg)).take 125) ∧
      c'.w.writeErr = some .closeSent :=
  ReaderMore.nextReader_violation_reach c hc hi hw b0 b1 rest hp hv

open WS.Codec WS.ReaderDecodes WS.RoleGeneric WS.AuditGaps in
/-- close frames: a status code a peer may not send is a protocol violation — handler not run, protocol error,
    1002 close frame written (either role) -/
theorem bad_close_code_rejected (c : Conn) (hc : AtBoundary c) (hw : WHealthy c.w)
    (key : Key) (code : Nat) (reason rest : Bytes)
    (hcode : isValidReceivedCloseCode code = false) (hc16 : code < 65536) (hl : reason.length ≤ 123)
    (hp : c.r.buf.pending = PFrame.enc c.r.isServer ⟨8, true, key, beBytes 2 code ++ reason⟩ ++ rest) :
    ∃ msg c', advanceFrame c = (.error (.protocol msg), c') ∧ c'.r.hlog = c.r.hlog ∧
      c'.w.wire = c.w.wire ++ closeFrameBytes c.w ((closePayload 1002 (strBytes msg)).take 125) ∧
      c'.w.writeErr = some .closeSent :=
  AuditGaps.bad_close_code_rejected c hc hw key code reason rest hcode hc16 hl hp

open WS.Codec WS.ReaderDecodes WS.RoleGeneric WS.AuditGaps in
/-- close frames: a reason that is not UTF-8 likewise -/
theorem bad_close_utf8_rejected (c : Conn) (hc : AtBoundary c) (hw : WHealthy c.w)
    (key : Key) (code : Nat) (reason rest : Bytes)
    (hcode : isValidReceivedCloseCode code = true) (hc16 : code < 65536) (hutf : Spec.validUtf8 reason = false)
    (hl : reason.length ≤ 123)
    (hp : c.r.buf.pending = PFrame.enc c.r.isServer ⟨8, true, key, beBytes 2 code ++ reason⟩ ++ rest) :
    ∃ msg c', advanceFrame c = (.error (.protocol msg), c') ∧ c'.r.hlog = c.r.hlog ∧
      c'.w.wire = c.w.wire ++ closeFrameBytes c.w ((closePayload 1002 (strBytes msg)).take 125) ∧
      c'.w.writeErr = some .closeSent :=
  AuditGaps.bad_close_utf8_rejected c hc hw key code reason rest hcode hc16 hutf hl hp


open WS.Codec WS.ReaderDecodes WS.ReadProgram WS.CutProgram in
/-- C04 for EVERY read program (`runProg`, C03.any_read_program), delivery clause: whole conformant
    messages, then a frame whose header violates framing at a message boundary (any of the violations of
    `Violates`), then ANY bytes; whatever sequence of NextReader / Read(k) calls the application makes —
    also after the error —, with or without a healthy writer: the messages its trace reports as complete
    (`C05`'s `completed`) form a sublist of the whole messages, in order. Nothing from the violating frame
    or after it is ever delivered as a message, and everything delivered is byte-identical.
    PARTIAL with respect to the full statement `violation_program` (kept, commented, in
    WS/Lemmas/ViolProgram.lean; not refuted): proved when every whole message is within the read limit, and
    stated here for the delivery conjunct alone; `violation_program_fits_partial` below has both. -/
theorem violation_program_fits_completed_partial (c : Conn) (hc : ReaderIdle c) (msgs : List (Nat × List PFrame))
    (hm : ∀ m ∈ msgs, (m.1 = 1 ∨ m.1 = 2) ∧ MsgShape m.1 m.2 ∧ (dataPayload m.2).length < 2 ^ 62 ∧
      (c.r.limit ≤ 0 ∨ ((dataPayload m.2).length : Int) ≤ c.r.limit))
    (b0 b1 : UInt8) (tail : Bytes)
    (hv : Violates c.r.isServer c.r.nego false (parseHdr b0 b1))
    (hp : c.r.buf.pending = (msgs.map (fun m => encAll c.r.isServer m.2)).flatten ++ b0 :: b1 :: tail)
    (ops : List ROp) :
    List.Sublist (completed (runProg ops c none).1) (msgs.map (fun m => (m.1, dataPayload m.2))) :=
  WS.ViolProgram.violation_program_fits_completed_partial c hc msgs hm b0 b1 tail hv hp ops

open WS.Codec WS.ReaderDecodes WS.ReadProgram WS.CutProgram in
/-- the full statement `violation_program` under the one remaining restriction (every whole message
    within the read limit): BOTH conjuncts — the messages reported complete are a sublist of the whole
    messages, AND the handlers have seen only (a prefix of) the control frames of the whole messages, in
    wire order: nothing from the violating frame or after it is delivered or passed to a handler,
    whatever the application calls and in whatever order -/
theorem violation_program_fits_partial (c : Conn) (hc : ReaderIdle c) (msgs : List (Nat × List PFrame))
    (hm : ∀ m ∈ msgs, (m.1 = 1 ∨ m.1 = 2) ∧ MsgShape m.1 m.2 ∧ (dataPayload m.2).length < 2 ^ 62 ∧
      (c.r.limit ≤ 0 ∨ ((dataPayload m.2).length : Int) ≤ c.r.limit))
    (b0 b1 : UInt8) (tail : Bytes)
    (hv : Violates c.r.isServer c.r.nego false (parseHdr b0 b1))
    (hp : c.r.buf.pending = (msgs.map (fun m => encAll c.r.isServer m.2)).flatten ++ b0 :: b1 :: tail)
    (ops : List ROp) :
    List.Sublist (completed (runProg ops c none).1) (msgs.map (fun m => (m.1, dataPayload m.2))) ∧
    (runProg ops c none).2.r.hlog <+: c.r.hlog ++ (msgs.map (fun m => ctlEvents m.2)).flatten :=
  ⟨WS.ViolProgram.violation_program_fits_completed_partial c hc msgs hm b0 b1 tail hv hp ops,
   WS.ViolHlog.violation_program_hlog_fits_partial c hc msgs hm b0 b1 tail hv hp ops⟩

section NonVacuity
set_option linter.defProp false
open WS WS.HdrLogic WS.SrcLaw WS.ReaderRejects WS.Codec WS.ReaderDecodes WS.ReaderLift WS.ReaderMore WS.Witness

/-- a client connection (4096-byte buffers, two masking keys in the key source) whose reader is idle
    between messages after having handled one pong; pending on the source (partly buffered, partly
    still in two transport chunks): a final text frame with RSV2 set carrying "abc", then a ping -/
def witIdle : Conn :=
  { w := { newW false 4096 false false with keys := [1, 2, 3, 4, 5, 6, 7, 8] },
    r := { isServer := false, nego := false, hlog := [.pong [7]],
           buf := { size := 4096, buf := [0xA1, 0x03],
                    t := { chunks := [[0x61, 0x62], [0x63, 0x89, 0x00]] }, total := 7 } } }

def witIdle_wf : WF witIdle.r.buf := ⟨by decide, by decide, by decide, (by intro e h; cases h)⟩
def witIdle_atBoundary : AtBoundary witIdle := ⟨rfl, rfl, witIdle_wf, by decide⟩
def witIdle_readerIdle : ReaderIdle witIdle :=
  ⟨rfl, rfl, rfl, witIdle_wf, by decide, by decide, (by intro id h; cases h), (by intro id h; cases h)⟩
def witIdle_healthy : WHealthy witIdle.w := ⟨rfl, rfl⟩
def witIdle_pending : witIdle.r.buf.pending = 0xA1 :: 0x03 :: [0x61, 0x62, 0x63, 0x89, 0x00] := by decide
def witIdle_violates : Violates witIdle.r.isServer witIdle.r.nego (!witIdle.r.final) (parseHdr 0xA1 0x03) :=
  Or.inl (by decide)
def witIdle_countInv : CountInv witIdle := fun _ => rfl

/-- non-vacuity of `header_violation_rejected` (idle reader): all hypotheses hold for `witIdle`
    (RSV2 on a text frame), and the theorem applies -/
example : ∃ msg c', advanceFrame witIdle = (.error (.protocol msg), c') ∧
      c'.r.hlog = [.pong [7]] ∧ c'.r.buf.pending = [0x61, 0x62, 0x63, 0x89, 0x00] ∧
      c'.w.wire = witIdle.w.wire ++ closeFrameBytes witIdle.w ((closePayload 1002 (strBytes msg)).take 125) ∧
      c'.w.writeErr = some .closeSent :=
  header_violation_rejected witIdle witIdle_atBoundary witIdle_healthy 0xA1 0x03 _ witIdle_pending witIdle_violates

/-- non-vacuity of `nextReader_violation`: `ReaderIdle`, `WHealthy`, the pending bytes and `Violates`
    hold together for `witIdle` -/
example : ∃ msg c', nextReader witIdle = (if witIdle.r.errCount + 1 ≥ 1000 then NRRes.panic else .err (.protocol msg), c') ∧
      c'.r.readErr = some (.protocol msg) ∧
      c'.r.hlog = witIdle.r.hlog ∧ c'.r.buf.pending = [0x61, 0x62, 0x63, 0x89, 0x00] ∧
      c'.w.wire = witIdle.w.wire ++ closeFrameBytes witIdle.w ((closePayload 1002 (strBytes msg)).take 125) ∧
      c'.w.writeErr = some .closeSent :=
  nextReader_violation witIdle witIdle_readerIdle witIdle_healthy 0xA1 0x03 _ witIdle_pending witIdle_violates

/-- non-vacuity of `nextReader_violation_reachable`: additionally `CountInv witIdle` -/
example : ∃ msg c', nextReader witIdle = (.err (.protocol msg), c') ∧ c'.r.readErr = some (.protocol msg) ∧
      c'.r.hlog = witIdle.r.hlog ∧ c'.r.buf.pending = [0x61, 0x62, 0x63, 0x89, 0x00] ∧
      c'.w.wire = witIdle.w.wire ++ closeFrameBytes witIdle.w ((closePayload 1002 (strBytes msg)).take 125) ∧
      c'.w.writeErr = some .closeSent :=
  nextReader_violation_reachable witIdle witIdle_readerIdle witIdle_countInv witIdle_healthy 0xA1 0x03 _
    witIdle_pending witIdle_violates

/-- the concrete outcome on `witIdle`, evaluated: the error names the violation and the reader's
    state is as the theorems say -/
example : (nextReader witIdle).2.r.readErr = some (.protocol "RSV2 set") ∧ (nextReader witIdle).2.r.hlog = [.pong [7]] := by
  decide

/-- a server connection in the middle of a fragmented binary message (message reader 3 is current,
    5 payload bytes counted so far, the non-final first frame fully delivered); the peer now starts
    a NEW masked text frame "hi" where a continuation is due, followed by further bytes -/
def witMid : Conn :=
  { w := newW true 4096 false false,
    r := { isServer := true, nego := false, final := false, length := 5, msgReader := some 3, nextId := 4,
           maskKey := ⟨9, 9, 9, 9⟩, maskPos := 1,
           buf := { size := 4096, buf := [0x81, 0x82, 1, 2, 3, 4, 0x69],
                    t := { chunks := [[0x6B, 0x80, 0x80]], term := .transport 5 }, total := 10 } } }

def witMid_wf : WF witMid.r.buf := ⟨by decide, by decide, by decide, (by intro e h; cases h)⟩
def witMid_mid : MidMessage witMid 3 := ⟨rfl, rfl, rfl, rfl, witMid_wf, by decide, by decide⟩
def witMid_atBoundary : AtBoundary witMid := by decide
def witMid_pending : witMid.r.buf.pending = 0x81 :: 0x82 :: [1, 2, 3, 4, 0x69, 0x6B, 0x80, 0x80] := by decide
def witMid_violates : Violates witMid.r.isServer witMid.r.nego true (parseHdr 0x81 0x82) :=
  Or.inr (Or.inr (Or.inr (Or.inr (Or.inr (Or.inr (Or.inr (Or.inl ⟨Or.inl (by decide), rfl⟩)))))))

/-- non-vacuity of `read_violation_mid_message`: `MidMessage`, `WHealthy`, pending bytes, `Violates`
    (a new text frame inside an unfinished message) hold together for `witMid`; Read of 512 bytes -/
example : ∃ msg c', mrRead witMid 3 512 = (([], some (.protocol msg)), c') ∧ c'.r.readErr = some (.protocol msg) ∧
      c'.r.hlog = witMid.r.hlog ∧
      c'.w.wire = witMid.w.wire ++ closeFrameBytes witMid.w ((closePayload 1002 (strBytes msg)).take 125) :=
  read_violation_mid_message witMid 3 witMid_mid ⟨rfl, rfl⟩ 0x81 0x82 _ witMid_pending witMid_violates 512 (by decide)

/-- non-vacuity of `header_violation_rejected` inside a fragmented message (`final = false`) -/
example : ∃ msg c', advanceFrame witMid = (.error (.protocol msg), c') ∧
      c'.r.hlog = witMid.r.hlog ∧ c'.r.buf.pending = [1, 2, 3, 4, 0x69, 0x6B, 0x80, 0x80] ∧
      c'.w.wire = witMid.w.wire ++ closeFrameBytes witMid.w ((closePayload 1002 (strBytes msg)).take 125) ∧
      c'.w.writeErr = some .closeSent :=
  header_violation_rejected witMid witMid_atBoundary ⟨rfl, rfl⟩ 0x81 0x82 _ witMid_pending
    (by rw [show witMid.r.final = false from rfl]; exact witMid_violates)

example : (mrRead witMid 3 512).1 = ([], some (.protocol "data before FIN")) := by decide

/-- an idle client reader facing a binary frame whose 64-bit length field has the top bit set
    (0x8000000000000010), one more byte behind it -/
def witTop : Conn :=
  { w := { newW false 4096 false false with keys := [1, 2, 3, 4] },
    r := { isServer := false, nego := false,
           buf := { size := 4096, buf := [], t := { chunks := [[0x82, 0x7F, 0x80, 0, 0], [0, 0, 0, 0, 0x10, 0xAA]] }, total := 11 } } }

def witTop_wf : WF witTop.r.buf := ⟨by decide, by decide, by decide, (by intro e h; cases h)⟩
def witTop_atBoundary : AtBoundary witTop := by decide

/-- non-vacuity of `topbit_length_rejected`: all eight hypotheses hold for `witTop` -/
example : ∃ c', advanceFrame witTop = (.error .readLimit, c') ∧ c'.r.hlog = witTop.r.hlog ∧ c'.r.buf.pending = [0xAA] ∧
      c'.w.wire = witTop.w.wire ++ closeFrameBytes witTop.w (closePayload 1009 []) ∧ c'.w.writeErr = some .closeSent :=
  topbit_length_rejected witTop witTop_atBoundary ⟨rfl, rfl⟩ 0x82 0x7F [0x80, 0, 0, 0, 0, 0, 0, 0x10] [0xAA]
    (by decide) rfl
    (by rw [← violates_iff_model_error]; decide) (by decide) (by decide)

/-- a client connection whose reader failed with a protocol error two calls ago (a message reader
    had been handed out before) and which still has unread bytes buffered -/
def witFailed (n : Nat) : Conn :=
  { w := { newW false 4096 false false with writeErr := some .closeSent, wire := [0x88, 0x80, 0, 0, 0, 0] },
    r := { isServer := false, nego := false, readErr := some (.protocol "RSV2 set"), errCount := n,
           msgReader := some 0, nextId := 1, hlog := [.ping [1]],
           buf := { size := 4096, buf := [0x61, 0x62, 0x63], total := 5 } } }

/-- non-vacuity of `nextReader_sticky`: second failed call -/
example : ∃ c', nextReader (witFailed 1) = (.err (.protocol "RSV2 set"), c') ∧ c'.r.readErr = some (.protocol "RSV2 set") ∧
      c'.w = (witFailed 1).w ∧ c'.r.hlog = (witFailed 1).r.hlog ∧
      c'.r.buf = (witFailed 1).r.buf ∧ c'.r.errCount = (witFailed 1).r.errCount + 1 :=
  nextReader_sticky (witFailed 1) _ rfl (by decide)

/-- non-vacuity of `nextReader_panics_at_1000`: 999 failed calls before this one -/
example : ∃ c', nextReader (witFailed 999) = (.panic, c') :=
  nextReader_panics_at_1000 (witFailed 999) (.protocol "RSV2 set") rfl (by decide)

/-- non-vacuity of `mrRead_after_error`: Read(512) on the message reader handed out earlier -/
example : ((mrRead (witFailed 1) 0 512).1).1 = [] ∧ ((mrRead (witFailed 1) 0 512).1).2.isSome ∧
    (mrRead (witFailed 1) 0 512).2.w = (witFailed 1).w :=
  mrRead_after_error (witFailed 1) (.protocol "RSV2 set") rfl 0 512

/-- instances of `violates_iff_model_error` / `closecode_spec` (no hypotheses): a masked ping of
    126 bytes to a server, and close code 1005 -/
example : headerErrors true false true (parseHdr 0x89 0xFE) = ["len > 125 for control"] ∧
    isValidReceivedCloseCode 1005 = false ∧ isValidReceivedCloseCode 3000 = true := by decide

/-- a SERVER connection (default handlers), reader idle after one ping; pending: a masked close frame with the
    status 1005 (which may never appear on the wire) and reason "x", key a0 b0 c0 d0, split over buffer
    and transport, then one stray byte -/
def witSrvBadClose : Conn :=
  { w := newW true 4096 false false,
    r := { isServer := true, nego := false, hlog := [.ping [0x70]],
           buf := { size := 4096, buf := (PFrame.enc true ⟨8, true, ⟨0xa0, 0xb0, 0xc0, 0xd0⟩, beBytes 2 1005 ++ [0x78]⟩).take 3,
                    t := { chunks := [(PFrame.enc true ⟨8, true, ⟨0xa0, 0xb0, 0xc0, 0xd0⟩, beBytes 2 1005 ++ [0x78]⟩).drop 3 ++ [0xAA]] },
                    total := 10 } } }

def witSrvBadClose_atBoundary : AtBoundary witSrvBadClose :=
  ⟨rfl, rfl, ⟨by decide, by decide, by decide, (by intro e h; cases h)⟩, by decide⟩

/-- the bytes really are a masked close frame: header 88 83, key, (03 ED 78) XOR key -/
example : witSrvBadClose.r.buf.pending =
    [0x88, 0x83, 0xa0, 0xb0, 0xc0, 0xd0, 0x03 ^^^ 0xa0, 0xED ^^^ 0xb0, 0x78 ^^^ 0xc0, 0xAA] := by decide

/-- non-vacuity of `bad_close_code_rejected` (server reader): all hypotheses hold for `witSrvBadClose`,
    status 1005, reason "x", masked with a non-zero key -/
example : ∃ msg c', advanceFrame witSrvBadClose = (.error (.protocol msg), c') ∧ c'.r.hlog = witSrvBadClose.r.hlog ∧
      c'.w.wire = witSrvBadClose.w.wire ++ closeFrameBytes witSrvBadClose.w ((closePayload 1002 (strBytes msg)).take 125) ∧
      c'.w.writeErr = some .closeSent :=
  bad_close_code_rejected witSrvBadClose witSrvBadClose_atBoundary ⟨rfl, rfl⟩ ⟨0xa0, 0xb0, 0xc0, 0xd0⟩ 1005 [0x78] [0xAA]
    (by decide) (by decide) (by decide) (by decide)

/-- evaluated: the close handler did not run (the log still holds only the earlier ping), a protocol error
    is returned, and the server's (unmasked) close frame carries 1002 -/
example : (advanceFrame witSrvBadClose).2.r.hlog = [.ping [0x70]] ∧
    (advanceFrame witSrvBadClose).2.w.wire = 0x88 :: 21 :: 0x03 :: 0xEA :: strBytes "bad close code 1005" ∧
    (advanceFrame witSrvBadClose).2.w.writeErr = some .closeSent := by decide +kernel

/-- a CLIENT connection in the middle of a fragmented message; pending: an (unmasked) close frame with the
    status 999 and reason "no", then a ping header -/
def witCliBadClose : Conn :=
  { w := { newW false 4096 false false with keys := [1, 2, 3, 4, 5, 6, 7, 8] },
    r := { isServer := false, nego := false, final := false, length := 3, msgReader := some 0, nextId := 1,
           hlog := [.pong [9]],
           buf := { size := 4096, buf := [0x88, 0x04, 0x03],
                    t := { chunks := [[0xE7, 0x6e], [0x6f, 0x89, 0x00]] }, total := 8 } } }

def witCliBadClose_atBoundary : AtBoundary witCliBadClose :=
  ⟨rfl, rfl, ⟨by decide, by decide, by decide, (by intro e h; cases h)⟩, by decide⟩

/-- non-vacuity of `bad_close_code_rejected` (client reader, mid-message): status 999, reason "no" -/
example : ∃ msg c', advanceFrame witCliBadClose = (.error (.protocol msg), c') ∧ c'.r.hlog = witCliBadClose.r.hlog ∧
      c'.w.wire = witCliBadClose.w.wire ++ closeFrameBytes witCliBadClose.w ((closePayload 1002 (strBytes msg)).take 125) ∧
      c'.w.writeErr = some .closeSent :=
  bad_close_code_rejected witCliBadClose witCliBadClose_atBoundary ⟨rfl, rfl⟩ ⟨0, 0, 0, 0⟩ 999 [0x6e, 0x6f] [0x89, 0x00]
    (by decide) (by decide) (by decide) (by decide)

/-- a SERVER connection, reader idle; pending: a masked close frame with the accepted status 1000 but the
    reason bytes ff fe (not UTF-8), key 37 fa 21 3d, then two further bytes -/
def witSrvBadUtf8 : Conn :=
  { w := newW true 4096 false false,
    r := { isServer := true, nego := false, hlog := [.ping [0x70]],
           buf := { size := 4096, buf := (PFrame.enc true ⟨8, true, ⟨0x37, 0xfa, 0x21, 0x3d⟩, beBytes 2 1000 ++ [0xff, 0xfe]⟩).take 5,
                    t := { chunks := [(PFrame.enc true ⟨8, true, ⟨0x37, 0xfa, 0x21, 0x3d⟩, beBytes 2 1000 ++ [0xff, 0xfe]⟩).drop 5, [0x89, 0x80]] },
                    total := 12 } } }

def witSrvBadUtf8_atBoundary : AtBoundary witSrvBadUtf8 :=
  ⟨rfl, rfl, ⟨by decide, by decide, by decide, (by intro e h; cases h)⟩, by decide⟩

example : witSrvBadUtf8.r.buf.pending =
    [0x88, 0x84, 0x37, 0xfa, 0x21, 0x3d, 0x03 ^^^ 0x37, 0xE8 ^^^ 0xfa, 0xff ^^^ 0x21, 0xfe ^^^ 0x3d, 0x89, 0x80] := by decide

/-- non-vacuity of `bad_close_utf8_rejected`: all hypotheses hold for `witSrvBadUtf8`, status 1000,
    reason ff fe -/
example : ∃ msg c', advanceFrame witSrvBadUtf8 = (.error (.protocol msg), c') ∧ c'.r.hlog = witSrvBadUtf8.r.hlog ∧
      c'.w.wire = witSrvBadUtf8.w.wire ++ closeFrameBytes witSrvBadUtf8.w ((closePayload 1002 (strBytes msg)).take 125) ∧
      c'.w.writeErr = some .closeSent :=
  bad_close_utf8_rejected witSrvBadUtf8 witSrvBadUtf8_atBoundary ⟨rfl, rfl⟩ ⟨0x37, 0xfa, 0x21, 0x3d⟩ 1000 [0xff, 0xfe] [0x89, 0x80]
    (by decide) (by decide) (by decide) (by decide) (by decide)

/-- evaluated through NextReader (which latches what advanceFrame returned): which protocol errors these are -/
example : (nextReader witSrvBadClose).2.r.readErr = some (.protocol "bad close code 1005") ∧
    (nextReader witCliBadClose).2.r.readErr = some (.protocol "bad close code 999") ∧
    (nextReader witSrvBadUtf8).2.r.readErr = some (.protocol "invalid utf8 payload in close frame") := by decide +kernel

section Program
open WS.ReadProgram WS.CutProgram

/-- a text message "Hi" from a server, unfragmented -/
def witHi : List PFrame := [{ op := 1, fin := true, key := default, payload := [0x48, 0x69] }]

def witHi_shape : MsgShape 1 witHi := MsgShape.single _ rfl rfl (by decide)

/-- an idle client reader facing "Hi", then a frame with RSV2 set claiming 3 bytes, then a perfectly
    well-formed text frame "ok" that must never be delivered -/
def witViolAfter : Conn :=
  { w := { newW false 4096 false false with keys := [1, 2, 3, 4] },
    r := { isServer := false, nego := false,
           buf := { size := 4096, buf := [0x81, 0x02, 0x48],
                    t := { chunks := [[0x69, 0xA1, 0x03, 0x61], [0x62, 0x63, 0x81, 0x02, 0x6f, 0x6b]] }, total := 15 } } }

def witViolAfter_idle : ReaderIdle witViolAfter :=
  ⟨rfl, rfl, rfl, ⟨by decide, by decide, by decide, (by intro e h; cases h)⟩, by decide, by decide,
    (by intro id h; cases h), (by intro id h; cases h)⟩

def witViolProg : List ROp := [.next, .read 0, .read 7, .read 7, .next, .read 7, .next, .read 7]

/-- non-vacuity of `violation_program_fits_completed_partial`: all hypotheses hold -/
example : List.Sublist (completed (runProg witViolProg witViolAfter none).1) [(1, dataPayload witHi)] :=
  violation_program_fits_completed_partial witViolAfter witViolAfter_idle [(1, witHi)]
    (by
      intro m hm
      simp only [List.mem_cons, List.mem_nil_iff, or_false] at hm
      subst hm
      exact ⟨Or.inl rfl, witHi_shape, by decide, Or.inl (by decide)⟩)
    0xA1 0x03 [0x61, 0x62, 0x63, 0x81, 0x02, 0x6f, 0x6b]
    (Or.inl (by decide)) (by decide) witViolProg

/-- non-vacuity of `violation_program_fits_partial` (same witness): both conjuncts -/
example : List.Sublist (completed (runProg witViolProg witViolAfter none).1) [(1, dataPayload witHi)] ∧
    (runProg witViolProg witViolAfter none).2.r.hlog <+: witViolAfter.r.hlog ++ [] := by
  have h := violation_program_fits_partial witViolAfter witViolAfter_idle [(1, witHi)]
    (by
      intro m hm
      simp only [List.mem_cons, List.mem_nil_iff, or_false] at hm
      subst hm
      exact ⟨Or.inl rfl, witHi_shape, by decide, Or.inl (by decide)⟩)
    0xA1 0x03 [0x61, 0x62, 0x63, 0x81, 0x02, 0x6f, 0x6b]
    (Or.inl (by decide)) (by decide) witViolProg
  have e : (([(1, witHi)] : List (Nat × List PFrame)).map (fun m => ctlEvents m.2)).flatten = [] := by decide
  rw [e] at h
  exact h

/-- what the trace reports: "Hi" and nothing else — not the well-formed "ok" behind the violation -/
example : completed (runProg witViolProg witViolAfter none).1 = [(1, [0x48, 0x69])] := by decide +kernel

end Program

end NonVacuity

end WS.Props.C04
