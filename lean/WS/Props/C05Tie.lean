import WS.Gen.Skeletons
/-
  C05 — translator tie: the statement text of the functions this property's model transcribes, regenerated
  from /repo by factgen on every run (WS/Gen/Skeletons.lean), equals the text the model was written against.
  A change to one of these functions breaks the obligation below; the check then searches for a failing
  input with the property's oracles (DESIGN §5).
-/
namespace WS.Props.C05Tie
open WS

/-- messageReader.Read, with the repair of F1, is the modelled one -/
theorem reader_read_as_modelled :
    Gen.stmts_messageReaderRead =
      ["c := r.c",
        "if c.messageReader != r { return 0, io.EOF }",
        "for c.readErr == nil { if c.readRemaining > 0 { if int64(len(b)) > c.readRemaining { b = b[:c.readRemaining] } n, err := c.br.Read(b) c.readErr = err if c.isServer { c.readMaskPos = maskBytes(c.readMaskKey, c.readMaskPos, b[:n]) } rem := c.readRemaining rem -= int64(n) _ = c.setReadRemaining(rem) if (c.readRemaining > 0 || !c.readFinal) && c.readErr == io.EOF { c.readErr = errUnexpectedEOF } return n, c.readErr } if c.readFinal { c.messageReader = nil return 0, io.EOF } frameType, err := c.advanceFrame() switch { case err != nil: c.readErr = err case frameType == TextMessage || frameType == BinaryMessage: c.readErr = errors.New(\"websocket: internal error, unexpected text or binary in Reader\") } }",
        "err := c.readErr",
        "if err == io.EOF && c.messageReader == r { err = errUnexpectedEOF }",
        "return 0, err"] := rfl


/-- today's Conn.read — Peek(n), io.EOF mapped to the abnormal-closure error, Discard — is the modelled one (Buf.take + mapEOF) -/
theorem conn_read_as_modelled :
    Gen.stmts_connRead =
      ["p, err := c.br.Peek(n)",
        "if err == io.EOF { err = errUnexpectedEOF }",
        "_, _ = c.br.Discard(len(p))",
        "return p, err"] := rfl


end WS.Props.C05Tie
