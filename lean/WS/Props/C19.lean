import WS.Lemmas.PreparedSend
import WS.Lemmas.PreparedLogic
/-
  C19 — A PreparedMessage equals WriteMessage on every connection it is sent to.
-/
namespace WS.Props.C19
open WS WS.Content WS.PreparedLogic

/-- write_prepared_uses_live_key: the framing variant is chosen from the connection's role and its
    compression settings at the time of the call -/
theorem write_prepared_uses_live_key (s : W) (pm : PM) :
    prepKey s pm = ⟨s.isServer, s.nego && s.enableWC && isData pm.t, s.level⟩ :=
  PreparedLogic.key_is_live s pm

/-- an uncompressed image is by construction what WriteMessage writes on a fresh connection of that role -/
theorem render_is_writeMessage (k : PKey) (t : Int) (data keys : Bytes) (ki : Nat) :
    (renderPlain k t data keys ki).2.1 = (writeMessage (prepConn k keys ki) t data).2.wire :=
  PreparedLogic.render_is_writeMessage k t data keys ki

/-- prepared_equiv: the image decodes to exactly one message with the type and payload given at creation, for every payload size (larger than the internal 4096-byte buffer included) and either role -/
theorem prepared_equiv (isServer : Bool) (level : Int) (t : Nat) (ht : t = 1 ∨ t = 2) (data keys : Bytes) (ki : Nat)
    (hd : data.length < 2 ^ 40) :
    let r := renderPlain ⟨isServer, false, level⟩ t data keys ki
    r.1 = none ∧
    Spec.messages (Spec.decodePrefixAux r.2.1.length r.2.1) = [⟨t, false, data⟩] :=
  PreparedLogic.prepared_equiv_plain isServer level t ht data keys ki hd

/-- a cache hit sends the cached image in one transport write under the connection's deadline (so prepared close / ping obey C09 / C10 like direct ones); for a data message the writer the application left open is closed first, as in NextWriter / WriteMessage (`dnp`, `fullp`: the flate answers for that implicit close) -/
theorem cached_image_sent (s : W) (pm : PM) (img : Bytes) (dnp : List Bytes) (fullp : Bytes)
    (h : pm.lookup (prepKey s pm) = some img) :
    writePrepared s pm none dnp fullp =
      ((writePreparedImage s pm.t img dnp fullp).1, (writePreparedImage s pm.t img dnp fullp).2, pm) :=
  PreparedLogic.cached_image_sent s pm img dnp fullp h

/-- cache_sound: sending never changes an entry already cached, nor the type or payload fixed at creation (caller_mutation_irrelevant: the model keeps its own copy, as NewPreparedMessage does) -/
theorem cache_sound (s : W) (pm : PM) (env : Option (Bytes × Bytes)) (dnp : List Bytes) (fullp : Bytes)
    (k : PKey) (img : Bytes) (h : pm.lookup k = some img) :
    (writePrepared s pm env dnp fullp).2.2.lookup k = some img ∧ (writePrepared s pm env dnp fullp).2.2.t = pm.t ∧
    (writePrepared s pm env dnp fullp).2.2.data = pm.data :=
  PreparedLogic.cache_monotone s pm env dnp fullp k img h

/-- an entry added for a key is the rendering for exactly that key, never another key's image -/
theorem cache_adds_own_key (s : W) (pm : PM) (env : Option (Bytes × Bytes)) (dnp : List Bytes) (fullp : Bytes)
    (hmiss : pm.lookup (prepKey s pm) = none) (hplain : (prepKey s pm).compress = false) :
    (writePrepared s pm env dnp fullp).2.2.cache =
      pm.cache ++ [(prepKey s pm, (renderPlain (prepKey s pm) pm.t pm.data s.keys s.keyIdx).2.1)] :=
  PreparedLogic.cache_adds_own_key s pm env dnp fullp hmiss hplain

/-- a compressed image is cached only if it decodes to one complete well-formed compressed message of the right type whose payload is the deflate stream minus its tail -/
theorem compressed_image_checked (k : PKey) (t : Int) (full keys : Bytes) (ki : Nat) (img : Bytes)
    (h : imageOk k t full keys ki img = true) :
    ∃ fs, Spec.decodeStream img = some fs ∧ Spec.WellFormed ⟨!k.isServer, true⟩ fs ∧
      Spec.messages fs = [⟨t.toNat, true, full.take (full.length - 4)⟩] :=
  PreparedLogic.compressed_image_checked k t full keys ki img h

open WS.Content WS.PreparedSend in
/-- prepared_equiv at the connection (the property's headline): a prepared text / binary message sent
    on a connection between messages — either role, any buffer size, variant cached or rendered now —
    is accepted and the wire gains exactly one complete message with the type and payload given at
    creation, which is what `C02.writeMessage_roundtrip` says WriteMessage sends -/
theorem prepared_data_roundtrip (s : W) (hi : Idle s) (pm : PM) (hv : PMValid pm) (t : Nat) (ht : t = 1 ∨ t = 2)
    (hpt : pm.t = (t : Int)) (hd : pm.data.length < 2 ^ 40) (hplain : (prepKey s pm).compress = false) :
    (writePrepared s pm none).1 = none ∧ Idle (writePrepared s pm none).2.1 ∧
    wireMessages (writePrepared s pm none).2.1 = wireMessages s ++ [⟨t, false, pm.data⟩] ∧
    wireControls (writePrepared s pm none).2.1 = wireControls s :=
  PreparedSend.prepared_data_roundtrip s hi pm hv t ht hpt hd hplain

open WS.Content WS.PreparedSend in
/-- prepared ping / pong: exactly one control frame with the payload given at creation -/
theorem prepared_control_roundtrip (s : W) (hi : Idle s) (pm : PM) (hv : PMValid pm) (t : Nat) (ht : t = 9 ∨ t = 10)
    (hpt : pm.t = (t : Int)) (hd : pm.data.length ≤ 125) :
    (writePrepared s pm none).1 = none ∧ Idle (writePrepared s pm none).2.1 ∧
    wireMessages (writePrepared s pm none).2.1 = wireMessages s ∧
    wireControls (writePrepared s pm none).2.1 = wireControls s ++ [(t, pm.data)] :=
  PreparedSend.prepared_control_roundtrip s hi pm hv t ht hpt hd

open WS.PreparedSend in
/-- the cache invariant the two theorems above assume is established by NewPreparedMessage … -/
theorem newPrepared_valid (t : Int) (data keys : Bytes) (ki : Nat) (pm : PM)
    (h : (newPrepared t data keys ki).1 = .ok pm) : PMValid pm ∧ pm.t = t ∧ pm.data = data :=
  PreparedSend.newPrepared_valid t data keys ki pm h

open WS.PreparedSend in
/-- … and preserved by every send of a data message (any connection, any environment answers) … -/
theorem cache_valid_preserved_data (s : W) (pm : PM) (env : Option (Bytes × Bytes)) (dnp : List Bytes) (fullp : Bytes)
    (h : PMValid pm) (t : Nat) (ht : t = 1 ∨ t = 2) (hpt : pm.t = (t : Int)) (hd : pm.data.length < 2 ^ 40) :
    PMValid (writePrepared s pm env dnp fullp).2.2 :=
  PreparedSend.writePrepared_valid_data s pm env dnp fullp h t ht hpt hd

open WS.PreparedSend in
/-- … and of a ping / pong -/
theorem cache_valid_preserved_control (s : W) (pm : PM) (env : Option (Bytes × Bytes)) (dnp : List Bytes) (fullp : Bytes)
    (h : PMValid pm) (t : Nat) (ht : t = 9 ∨ t = 10) (hpt : pm.t = (t : Int)) (hd : pm.data.length ≤ 125) :
    PMValid (writePrepared s pm env dnp fullp).2.2 :=
  PreparedSend.writePrepared_valid_control s pm env dnp fullp h t ht hpt hd


section NonVacuity
set_option linter.defProp false

/-- two masking keys in the process-wide key source -/
def witKeys : Bytes := [0x37, 0xfa, 0x21, 0x3d, 0x11, 0x22, 0x33, 0x44]
/-- "Hello" -/
def witHello : Bytes := [0x48, 0x65, 0x6c, 0x6c, 0x6f]
/-- a client connection, write buffer 4096, no compression -/
def witC : W := { newW false 4096 false false with keys := witKeys }
/-- what NewPreparedMessage(TextMessage, "Hello") returns: one entry, the plain server frame -/
def witPM0 : PM :=
  { t := 1, data := witHello, cache := [(⟨true, false, 0⟩, [0x81, 0x05, 0x48, 0x65, 0x6c, 0x6c, 0x6f])] }
/-- … it really is the cache `newPrepared` builds -/
def witPM0_new : (match (newPrepared 1 witHello witKeys 0).1 with
    | .ok pm => pm.cache == witPM0.cache | .error _ => false) = true := by
  decide +kernel
/-- the prepared message and the connection after it was sent once on `witC` (cache miss → rendered) -/
def witPM1 : PM := (writePrepared witC witPM0 none).2.2
def witC1 : W := (writePrepared witC witPM0 none).2.1
/-- the masked client frame rendered for `witC`'s key with the first masking key -/
def witImgC : Bytes := [0x81, 0x85, 0x37, 0xfa, 0x21, 0x3d, 127, 159, 77, 81, 88]

/-- witness for `cached_image_sent`: the second send on the same connection is a cache hit -/
def witPM1_hit : witPM1.lookup (prepKey witC1 witPM1) = some witImgC := by decide +kernel

/-- non-vacuity of `cached_image_sent`: the hypothesis holds for a prepared "Hello" that was already
    sent once on a client connection (buffer 4096) — the cache was filled by running `writePrepared` —
    and the theorem applies to the second send -/
example : writePrepared witC1 witPM1 none =
    ((writePreparedImage witC1 witPM1.t witImgC).1, (writePreparedImage witC1 witPM1.t witImgC).2, witPM1) :=
  cached_image_sent witC1 witPM1 witImgC [] [] witPM1_hit

/-- witness for `cache_sound`: the server entry made at creation -/
def witPM0_srv : witPM0.lookup ⟨true, false, 0⟩ = some [0x81, 0x05, 0x48, 0x65, 0x6c, 0x6c, 0x6f] := by
  decide +kernel

/-- non-vacuity of `cache_sound`: the entry made at creation survives a send on a client connection
    (which is a miss for the client's key and adds a second entry) -/
example : (writePrepared witC witPM0 none).2.2.lookup ⟨true, false, 0⟩ = some [0x81, 0x05, 0x48, 0x65, 0x6c, 0x6c, 0x6f] ∧
    (writePrepared witC witPM0 none).2.2.t = witPM0.t ∧ (writePrepared witC witPM0 none).2.2.data = witPM0.data :=
  cache_sound witC witPM0 none [] [] ⟨true, false, 0⟩ _ witPM0_srv

/-- witnesses for `cache_adds_own_key`: the client's key (client, plain, level 1) is not cached yet and is uncompressed -/
def witPM0_miss : witPM0.lookup (prepKey witC witPM0) = none := by decide +kernel
def witPM0_plain : (prepKey witC witPM0).compress = false := by decide +kernel

/-- non-vacuity of `cache_adds_own_key`: both hypotheses hold for the first send of the fresh prepared
    message on the client connection, and the theorem applies -/
example : (writePrepared witC witPM0 none).2.2.cache =
    witPM0.cache ++ [(prepKey witC witPM0,
      (renderPlain (prepKey witC witPM0) witPM0.t witPM0.data witC.keys witC.keyIdx).2.1)] :=
  cache_adds_own_key witC witPM0 none [] [] witPM0_miss witPM0_plain

/-- the RFC 7692 §7.2.3.1 deflate stream of "Hello" with its 00 00 ff ff tail -/
def witFull : Bytes := [0xf2, 0x48, 0xcd, 0xc9, 0xc9, 0x07, 0x00, 0x00, 0x00, 0xff, 0xff]
/-- the compressed client image: FIN+RSV1 text frame, masked with the first key, 7 payload bytes -/
def witImgZ : Bytes := [0xc1, 0x87, 0x37, 0xfa, 0x21, 0x3d, 197, 178, 236, 244, 254, 253, 33]
/-- witness for `compressed_image_checked`: that image passes the validation for key (client, compress, level 1) -/
def witImgZ_ok : imageOk ⟨false, true, 1⟩ 1 witFull witKeys 0 witImgZ = true := by decide +kernel

/-- non-vacuity of `compressed_image_checked`: `imageOk` holds for a real compressed client image of
    "Hello", and the theorem applies -/
example : ∃ fs, Spec.decodeStream witImgZ = some fs ∧ Spec.WellFormed ⟨!false, true⟩ fs ∧
      Spec.messages fs = [⟨(1 : Int).toNat, true, witFull.take (witFull.length - 4)⟩] :=
  compressed_image_checked ⟨false, true, 1⟩ 1 witFull witKeys 0 witImgZ witImgZ_ok

/-- a client connection (buffer 4096) with permessage-deflate negotiated: its key is the compressed one,
    and `writePrepared` accepts and caches exactly that validated image -/
def witCZ : W := { newW false 4096 false true with keys := witKeys }
example : prepKey witCZ witPM0 = ⟨false, true, 1⟩ ∧
    (writePrepared witCZ witPM0 (some (witImgZ, witFull))).1 = none ∧
    (writePrepared witCZ witPM0 (some (witImgZ, witFull))).2.2.lookup ⟨false, true, 1⟩ = some witImgZ := by
  decide +kernel

/-- a payload larger than the private connection's 4096-byte buffer -/
def witBig : Bytes := List.replicate 5000 0x41

/-- non-vacuity of `prepared_equiv`: a 5000-byte text message rendered for a client key (two frames) -/
example :
    let r := renderPlain ⟨false, false, 1⟩ (1 : Nat) witBig witKeys 0
    r.1 = none ∧
    Spec.messages (Spec.decodePrefixAux r.2.1.length r.2.1) = [⟨1, false, witBig⟩] :=
  prepared_equiv false 1 1 (Or.inl rfl) witBig witKeys 0 (by rw [witBig, List.length_replicate]; decide)

/-- … and for the server key used at creation with the 5-byte payload -/
example :
    let r := renderPlain ⟨true, false, 0⟩ (1 : Nat) witHello witKeys 0
    r.1 = none ∧
    Spec.messages (Spec.decodePrefixAux r.2.1.length r.2.1) = [⟨1, false, witHello⟩] :=
  prepared_equiv true 0 1 (Or.inl rfl) witHello witKeys 0 (by decide)


/-! #### the connection-level theorems (`prepared_*_roundtrip`, `newPrepared_valid`, `cache_valid_preserved_*`) -/

open WS.PreparedSend

/-- a 300-byte binary payload -/
def witData300 : Bytes := List.replicate 300 0x42
def witData300_len : witData300.length < 2 ^ 40 := by rw [witData300, List.length_replicate]; decide

/-- what NewPreparedMessage(BinaryMessage, <300 bytes>) returns: the plain server frame 82 7e 01 2c … -/
def witPMb : PM :=
  { t := 2, data := witData300,
    cache := [(⟨true, false, 0⟩, (renderPlain ⟨true, false, 0⟩ 2 witData300 witKeys 0).2.1)] }

/-- witness for `newPrepared_valid`: `newPrepared 2 <300 bytes>` succeeds and returns `witPMb` -/
def witPMb_new : (newPrepared 2 witData300 witKeys 0).1 = .ok witPMb :=
  newPrepared_ok ⟨(prepared_equiv true 0 2 (Or.inr rfl) witData300 witKeys 0 witData300_len).1, rfl⟩

/-- non-vacuity of `newPrepared_valid`: the hypothesis holds for the 300-byte binary message, and the theorem applies -/
example : PMValid witPMb ∧ witPMb.t = 2 ∧ witPMb.data = witData300 :=
  newPrepared_valid 2 witData300 witKeys 0 witPMb witPMb_new
def witPMb_valid : PMValid witPMb := (newPrepared_valid 2 witData300 witKeys 0 witPMb witPMb_new).1

/-- the cached image is the unmasked server frame: 82 7e 01 2c + 300 bytes -/
example : (witPMb.lookup ⟨true, false, 0⟩).map (fun i => (i.take 5, i.length)) = some ([0x82, 0x7e, 0x01, 0x2c, 0x42], 304) := by
  decide +kernel

/-- the freshly constructed client `witC` is `Idle` -/
def witC_idle : Idle witC :=
  ⟨rfl, rfl, rfl, (fun m h => by cases h), ⟨by decide, by decide⟩, ⟨[], by decide, rfl⟩, rfl⟩
/-- the client after one text message "Hello" went out (first masking key used) -/
def witCm : W := (writeMessage witC 1 witHello).2
/-- witness for `prepared_data_roundtrip` / `prepared_control_roundtrip`: that client is `Idle` again -/
def witCm_idle : Idle witCm :=
  (writeMessage_roundtrip witC witC_idle 1 (Or.inl rfl) witHello (by decide)).2.1
/-- witness: the client's key is an uncompressed one -/
def witCm_plain : (prepKey witCm witPMb).compress = false := by decide +kernel

/-- non-vacuity of `prepared_data_roundtrip`: all hypotheses hold for the 300-byte binary prepared message
    sent on a client connection (buffer 4096) that has already sent one message, and the theorem applies -/
example : (writePrepared witCm witPMb none).1 = none ∧ Idle (writePrepared witCm witPMb none).2.1 ∧
    wireMessages (writePrepared witCm witPMb none).2.1 = wireMessages witCm ++ [⟨2, false, witData300⟩] ∧
    wireControls (writePrepared witCm witPMb none).2.1 = wireControls witCm :=
  prepared_data_roundtrip witCm witCm_idle witPMb witPMb_valid 2 (Or.inr rfl) rfl witData300_len witCm_plain

/-- … this send is a cache miss: the variant is rendered now, masked with the connection's next key
    (11 22 33 44 — the first one went into the "Hello" frame, 11 bytes), and added to the cache -/
example : witPMb.lookup (prepKey witCm witPMb) = none ∧
    witCm.wire.length = 11 ∧
    ((writePrepared witCm witPMb none).2.1.wire.drop 11).take 9 = [0x82, 0xfe, 0x01, 0x2c, 0x11, 0x22, 0x33, 0x44, 0x53] ∧
    (writePrepared witCm witPMb none).2.1.wire.length = 11 + 308 ∧
    (writePrepared witCm witPMb none).2.2.cache.length = 2 := by decide +kernel

/-- a server connection (buffer 4096) with compression level 0 (the level NewPreparedMessage's own entry is
    keyed with), after it sent one message -/
def witS0 : W := { newW true 4096 false false with level := 0 }
def witS0_idle : Idle witS0 :=
  ⟨rfl, rfl, rfl, (fun m h => by cases h), ⟨by decide, by decide⟩, ⟨[], by decide, rfl⟩, rfl⟩
def witSm : W := (writeMessage witS0 1 witHello).2
def witSm_idle : Idle witSm :=
  (writeMessage_roundtrip witS0 witS0_idle 1 (Or.inl rfl) witHello (by decide)).2.1
def witSm_plain : (prepKey witSm witPMb).compress = false := by decide +kernel

/-- non-vacuity of `prepared_data_roundtrip`, second instance: the same prepared message on that server … -/
example : (writePrepared witSm witPMb none).1 = none ∧ Idle (writePrepared witSm witPMb none).2.1 ∧
    wireMessages (writePrepared witSm witPMb none).2.1 = wireMessages witSm ++ [⟨2, false, witData300⟩] ∧
    wireControls (writePrepared witSm witPMb none).2.1 = wireControls witSm :=
  prepared_data_roundtrip witSm witSm_idle witPMb witPMb_valid 2 (Or.inr rfl) rfl witData300_len witSm_plain

/-- … where it is a cache hit: the entry made at creation is sent as it is and the cache does not grow -/
example : (witPMb.lookup (prepKey witSm witPMb)).isSome ∧
    witSm.wire.length = 7 ∧
    ((writePrepared witSm witPMb none).2.1.wire.drop 7).take 5 = [0x82, 0x7e, 0x01, 0x2c, 0x42] ∧
    (writePrepared witSm witPMb none).2.1.wire.length = 7 + 304 ∧
    (writePrepared witSm witPMb none).2.2.cache.length = 1 := by decide +kernel

/-- a prepared ping with the 5-byte payload "Hello", as NewPreparedMessage(PingMessage, "Hello") returns it -/
def witPMp : PM :=
  { t := 9, data := witHello, cache := [(⟨true, false, 0⟩, [0x89, 0x05, 0x48, 0x65, 0x6c, 0x6c, 0x6f])] }
/-- witness for `newPrepared_valid`: `newPrepared 9 "Hello"` returns exactly `witPMp` -/
def witPMp_new : (newPrepared 9 witHello witKeys 0).1 = .ok witPMp := newPrepared_ok (by decide +kernel)

/-- non-vacuity of `newPrepared_valid`, second instance: the prepared ping -/
example : PMValid witPMp ∧ witPMp.t = 9 ∧ witPMp.data = witHello :=
  newPrepared_valid 9 witHello witKeys 0 witPMp witPMp_new
def witPMp_valid : PMValid witPMp := (newPrepared_valid 9 witHello witKeys 0 witPMp witPMp_new).1

/-- non-vacuity of `prepared_control_roundtrip`: all hypotheses hold for the prepared 5-byte ping sent on the
    client (buffer 4096) that has already sent one message, and the theorem applies -/
example : (writePrepared witCm witPMp none).1 = none ∧ Idle (writePrepared witCm witPMp none).2.1 ∧
    wireMessages (writePrepared witCm witPMp none).2.1 = wireMessages witCm ∧
    wireControls (writePrepared witCm witPMp none).2.1 = wireControls witCm ++ [(9, witHello)] :=
  prepared_control_roundtrip witCm witCm_idle witPMp witPMp_valid 9 (Or.inl rfl) rfl (by decide)

/-- … the wire gains the masked ping frame 89 85 11 22 33 44 … -/
example : (writePrepared witCm witPMp none).2.1.wire.drop 11 =
    [0x89, 0x85, 0x11, 0x22, 0x33, 0x44, 0x59, 0x47, 0x5f, 0x28, 0x7e] := by decide +kernel

/-- non-vacuity of `cache_valid_preserved_data`: the cache of the 300-byte message after the send on the
    client (which added the client variant) is still valid … -/
example : PMValid (writePrepared witCm witPMb none [] []).2.2 :=
  cache_valid_preserved_data witCm witPMb none [] [] witPMb_valid 2 (Or.inr rfl) rfl witData300_len

/-- `witPM0` (prepared text "Hello") is what `newPrepared` returns, hence valid -/
def witPM0_new' : (newPrepared 1 witHello witKeys 0).1 = .ok witPM0 := newPrepared_ok (by decide +kernel)
def witPM0_valid : PMValid witPM0 := (newPrepared_valid 1 witHello witKeys 0 witPM0 witPM0_new').1

/-- … and, second instance of `cache_valid_preserved_data`, so is the cache of "Hello" after the send on the
    compressing client `witCZ`, where the environment supplied the compressed image (a third entry kind) -/
example : PMValid (writePrepared witCZ witPM0 (some (witImgZ, witFull)) [] []).2.2 :=
  cache_valid_preserved_data witCZ witPM0 (some (witImgZ, witFull)) [] [] witPM0_valid 1 (Or.inl rfl) rfl (by decide)

/-- non-vacuity of `cache_valid_preserved_control`: the prepared ping after the send on the client
    (cache: server entry + the client variant just rendered) -/
example : PMValid (writePrepared witCm witPMp none [] []).2.2 :=
  cache_valid_preserved_control witCm witPMp none [] [] witPMp_valid 9 (Or.inl rfl) rfl (by decide)
example : (writePrepared witCm witPMp none [] []).2.2.cache.length = 2 := by decide +kernel

end NonVacuity

end WS.Props.C19
