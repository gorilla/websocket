import WS.Gen.Skeletons
/-
  C09 — translator tie: the statement text of the functions this property's model transcribes, regenerated
  from /repo by factgen on every run (WS/Gen/Skeletons.lean), equals the text the model was written against.
  A change to one of these functions breaks the obligation below; the check then searches for a failing
  input with the property's oracles (DESIGN §5).
-/
namespace WS.Props.C09Tie
open WS

/-- Conn.write, WriteControl and writeFatal in /repo are the modelled ones (statement text; the lock skeletons are write_wellLocked / writeControl_wellLocked) -/
theorem write_sites_as_modelled :
    Gen.stmts_connWrite =
      ["<-c.mu",
        "defer func() { c.mu <- struct{}{} }()",
        "c.writeErrMu.Lock()",
        "err := c.writeErr",
        "c.writeErrMu.Unlock()",
        "if err != nil { return err }",
        "if err := c.conn.SetWriteDeadline(deadline); err != nil { return c.writeFatal(err) }",
        "if len(buf1) == 0 { _, err = c.conn.Write(buf0) } else { err = c.writeBufs(buf0, buf1) }",
        "if err != nil { return c.writeFatal(err) }",
        "if frameType == CloseMessage { _ = c.writeFatal(ErrCloseSent) }",
        "return nil"] ∧
    Gen.stmts_WriteControl =
      ["if !isControl(messageType) { return errBadWriteOpCode }",
        "if len(data) > maxControlFramePayloadSize { return errInvalidControlFrame }",
        "b0 := byte(messageType) | finalBit",
        "b1 := byte(len(data))",
        "if !c.isServer { b1 |= maskBit }",
        "buf := make([]byte, 0, maxFrameHeaderSize+maxControlFramePayloadSize)",
        "buf = append(buf, b0, b1)",
        "if c.isServer { buf = append(buf, data...) } else { key := newMaskKey() buf = append(buf, key[:]...) buf = append(buf, data...) maskBytes(key, 0, buf[6:]) }",
        "if deadline.IsZero() { <-c.mu } else { d := time.Until(deadline) if d < 0 { return errWriteTimeout } select { case <-c.mu: default: timer := time.NewTimer(d) select { case <-c.mu: timer.Stop() case <-timer.C: return errWriteTimeout } } }",
        "defer func() { c.mu <- struct{}{} }()",
        "c.writeErrMu.Lock()",
        "err := c.writeErr",
        "c.writeErrMu.Unlock()",
        "if err != nil { return err }",
        "if err := c.conn.SetWriteDeadline(deadline); err != nil { return c.writeFatal(err) }",
        "if _, err = c.conn.Write(buf); err != nil { return c.writeFatal(err) }",
        "if messageType == CloseMessage { _ = c.writeFatal(ErrCloseSent) }",
        "return err"] ∧
    Gen.stmts_writeFatal =
      ["c.writeErrMu.Lock()",
        "if c.writeErr == nil { c.writeErr = err }",
        "c.writeErrMu.Unlock()",
        "return err"] :=
  ⟨rfl, rfl, rfl⟩

end WS.Props.C09Tie
