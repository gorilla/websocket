import WS.Lemmas.HttpLogic
import WS.Gen.Skeletons
import WS.Gen.Tables
import WS.Lemmas.Robust
import WS.Lemmas.RequestLogic
/-
  C12 — Server handshake: upgrade iff the request is a valid opening handshake; correct 101.
-/
namespace WS.Props.C12
open WS WS.Http WS.Server WS.Client WS.HttpLogic

/-- upgrade_iff: Upgrade succeeds exactly when every condition of the chain holds -/
theorem upgrade_iff (u : UCfg) (r : Req) (rh : RespHdr) (oh : Option Bytes) (hj : Hijack) :
    (∃ a, upgrade u r rh oh hj = .ok a) ↔
      (tokenListContainsValue (r.values "Connection") (strBytes "upgrade") = true ∧
       tokenListContainsValue (r.values "Upgrade") (strBytes "websocket") = true ∧
       r.method = strBytes "GET" ∧
       tokenListContainsValue (r.values "Sec-Websocket-Version") (strBytes "13") = true ∧
       rh.has "Sec-Websocket-Extensions" = false ∧
       (match u.checkOrigin with | some b => b | none => checkSameOrigin r oh) = true ∧
       isValidChallengeKey (r.get "Sec-Websocket-Key") = true ∧
       hj.ok = true) :=
  HttpLogic.upgrade_ok_iff u r rh oh hj

/-- reject_status: 403 exactly for the origin, 426 exactly for a missing Upgrade token (and then the Connection token was present) -/
theorem reject_status (u : UCfg) (r : Req) (rh : RespHdr) (oh : Option Bytes) (hj : Hijack) (e : Reject)
    (h : upgrade u r rh oh hj = .error e) :
    (e.status = 403 ↔ e = .origin) ∧ (e.status = 426 ↔ e = .noUpgradeWebsocket) ∧
    (e = .noUpgradeWebsocket → tokenListContainsValue (r.values "Connection") (strBytes "upgrade") = true ∧
        tokenListContainsValue (r.values "Upgrade") (strBytes "websocket") = false) ∧
    (e = .origin → (match u.checkOrigin with | some b => b | none => checkSameOrigin r oh) = false) :=
  HttpLogic.reject_status u r rh oh hj e h

/-- deflate_announced_iff: compression is on (and announced) iff the server enabled it and the client offered an extension named permessage-deflate -/
theorem deflate_announced_iff (u : UCfg) (r : Req) (rh : RespHdr) (oh : Option Bytes) (hj : Hijack) (b : Bytes) (a : Accepted)
    (h : upgrade u r rh oh hj = .ok (b, a)) :
    a.compress = (u.enableCompression &&
      (parseExtensions (r.values "Sec-Websocket-Extensions")).any (fun e => e.name == strBytes "permessage-deflate")) :=
  HttpLogic.deflate_announced_iff u r rh oh hj b a h

/-- the selected subprotocol was offered by the client and is supported by the server -/
theorem subprotocol_offered_and_supported (u : UCfg) (r : Req) (rh : RespHdr) (server : List Bytes) (hs : u.subprotocols = some server)
    (hne : selectSubprotocol u r rh ≠ []) :
    selectSubprotocol u r rh ∈ server ∧ selectSubprotocol u r rh ∈ subprotocols (r.get "Sec-Websocket-Protocol") :=
  HttpLogic.subprotocol_offered_and_supported u r rh server hs hne

/-- no_injection: whatever bytes the application supplies as header values or as subprotocol, the 101 has exactly the expected number of lines -/
theorem no_injection (accept sub : Bytes) (compress : Bool) (rh : RespHdr)
    (ha : ∀ b ∈ accept, b ≠ 13)
    (hk : ∀ l, rh = some l → ∀ p ∈ l, ∀ b ∈ p.1, b ≠ 13) :
    (splitCRLF (response101 accept sub compress rh) []).length =
      4 + (if sub.isEmpty then 0 else 1) + (if compress then 1 else 0) + rhLines rh + 2 :=
  HttpLogic.no_injection accept sub compress rh ha hk

/-- the accept token cannot break a line -/
theorem base64_no_crlf (xs : Bytes) : ∀ b ∈ Spec.base64 xs, b ≠ 13 ∧ b ≠ 10 :=
  HttpLogic.base64_no_crlf xs

theorem scrub_no_ctl (v : Bytes) : ∀ b ∈ scrub v, 31 < b.toNat :=
  HttpLogic.scrub_no_ctl v

/-- accept_digest: the Accept value is base64(SHA-1(key ++ GUID)) with the GUID found in today's
    source; checked in the kernel on the example of RFC 6455 §1.3 -/
theorem accept_digest_rfc_vector :
    Spec.acceptKey Gen.keyGUID (strBytes "dGhlIHNhbXBsZSBub25jZQ==") = strBytes "s3pPLMBiTxaQ9kYGzzhZRbK+xOo=" :=
  HttpLogic.accept_rfc_vector

/-- the rejection chain recognised in today's Upgrade is the modelled one, in this order -/
theorem upgrade_chain_as_modelled :
    Gen.upgradeChain =
      ["!tokenListContainsValue(r.Header, \"Connection\", \"upgrade\") => http.StatusBadRequest",
       "!tokenListContainsValue(r.Header, \"Upgrade\", \"websocket\") => http.StatusUpgradeRequired",
       "r.Method != http.MethodGet => http.StatusMethodNotAllowed",
       "!tokenListContainsValue(r.Header, \"Sec-Websocket-Version\", \"13\") => http.StatusBadRequest",
       "_, ok := responseHeader[\"Sec-Websocket-Extensions\"]; ok => http.StatusInternalServerError",
       "!checkOrigin(r) => http.StatusForbidden",
       "!isValidChallengeKey(challengeKey) => http.StatusBadRequest",
       "err != nil => http.StatusInternalServerError"] := rfl

open WS.Robust
/-- contains_sound (arbitrary byte strings): if the list scanner says a header line contains the
    token, then some comma-separated element of the line, trimmed of SP/HT, is a token that equals it
    under ASCII folding — "websockets" or "xupgrade" can never pass -/
theorem contains_sound (s v : Bytes) (h : lineContains s v = true) :
    ∃ e ∈ elements s, e ≠ [] ∧ (∀ b ∈ e, isTokenOctet b = true) ∧ equalASCIIFold e v = true :=
  Robust.contains_sound s v h

/-- contains_complete (well-formed 1#token lists): the scanner finds the token whenever an element
    equals it -/
theorem contains_complete (s v : Bytes)
    (hwf : ∀ e ∈ elements s, e ≠ [] ∧ ∀ b ∈ e, isTokenOctet b = true)
    (h : ∃ e ∈ elements s, equalASCIIFold e v = true) :
    lineContains s v = true :=
  Robust.contains_complete s v hwf h

/-- the exact lines of the 101 response (no application response header): status line, Upgrade,
    Connection, Accept, optional scrubbed subprotocol, optional extension announcement -/
theorem response101_lines (accept sub : Bytes) (compress : Bool)
    (ha : ∀ b ∈ accept, b ≠ 13) :
    splitCRLF (response101 accept sub compress none) [] =
      [strBytes "HTTP/1.1 101 Switching Protocols", strBytes "Upgrade: websocket", strBytes "Connection: Upgrade",
       strBytes "Sec-WebSocket-Accept: " ++ accept] ++
      (if sub.isEmpty then [] else [strBytes "Sec-WebSocket-Protocol: " ++ scrub sub]) ++
      (if compress then [strBytes "Sec-WebSocket-Extensions: permessage-deflate; server_no_context_takeover; client_no_context_takeover"] else []) ++
      [[], []] :=
  RequestLogic.response101_lines accept sub compress ha

/-- no hijack on failure: a request that is refused for any reason other than the Hijack call itself
    is refused whatever Hijack would have answered — the decision is taken before the connection is
    taken over (in the model the hijack outcome `hj` is an environment answer consulted only after
    every check has passed), so a refused handshake leaves the connection with net/http -/
theorem rejected_before_hijack (u : UCfg) (r : Req) (rh : RespHdr) (oh : Option Bytes) (hj hj' : Hijack) (e : Reject)
    (h : upgrade u r rh oh hj = .error e) (he : e ≠ .hijack) :
    upgrade u r rh oh hj' = .error e := by
  rcases (upgrade_eq_error ..).mp h with h | ⟨_, _, h⟩
  · exact (upgrade_eq_error ..).mpr (Or.inl h)
  · exact absurd h he

/-- … and a failing Hijack is reported as such (500), never as an upgrade -/
theorem hijack_failure_rejected (u : UCfg) (r : Req) (rh : RespHdr) (oh : Option Bytes) (hj : Hijack) (hf : hj.ok = false) :
    ∀ a, upgrade u r rh oh hj ≠ .ok a := by
  intro a h
  have := ((upgrade_eq_ok ..).mp h).2.1
  rw [hf] at this
  cases this

/-- error precedence (what the status of a request with several faults names): with the `upgrade` token
    in Connection and no `websocket` token in Upgrade the answer is 426, whatever else is wrong with
    the request (method, version, key, origin, hijack) -/
theorem missing_upgrade_token_is_426 (u : UCfg) (r : Req) (rh : RespHdr) (oh : Option Bytes) (hj : Hijack)
    (hc : tokenListContainsValue (r.values "Connection") (strBytes "upgrade") = true)
    (hu : tokenListContainsValue (r.values "Upgrade") (strBytes "websocket") = false) :
    upgrade u r rh oh hj = .error .noUpgradeWebsocket ∧ Reject.noUpgradeWebsocket.status = 426 := by
  exact ⟨(upgrade_eq_error ..).mpr (Or.inl ((refusal_noUpgradeWebsocket ..).mpr ⟨hc, hu⟩)), rfl⟩

/-- … and without the `upgrade` token in Connection it is 400, whatever else is wrong -/
theorem missing_connection_token_is_400 (u : UCfg) (r : Req) (rh : RespHdr) (oh : Option Bytes) (hj : Hijack)
    (hc : tokenListContainsValue (r.values "Connection") (strBytes "upgrade") = false) :
    upgrade u r rh oh hj = .error .noConnectionUpgrade ∧ Reject.noConnectionUpgrade.status = 400 := by
  exact ⟨(upgrade_eq_error ..).mpr (Or.inl ((refusal_noConnectionUpgrade ..).mpr hc)), rfl⟩

section NonVacuity
set_option linter.defProp false

/-- the opening handshake of RFC 6455 §1.3 as a browser sends it: GET, Connection: keep-alive, Upgrade;
    Upgrade: websocket; version 13; the sample key; Origin = the site itself; two subprotocols and a
    permessage-deflate offer (r.Header has canonical keys) -/
def witReq : Req :=
  { method := strBytes "GET", host := strBytes "server.example.com",
    hdr := [(strBytes "Connection", [strBytes "keep-alive, Upgrade"]),
            (strBytes "Upgrade", [strBytes "websocket"]),
            (strBytes "Sec-Websocket-Version", [strBytes "13"]),
            (strBytes "Sec-Websocket-Key", [strBytes "dGhlIHNhbXBsZSBub25jZQ=="]),
            (strBytes "Origin", [strBytes "http://server.example.com"]),
            (strBytes "Sec-Websocket-Protocol", [strBytes "superchat, chat"]),
            (strBytes "Sec-Websocket-Extensions", [strBytes "permessage-deflate; client_max_window_bits"])] }

/-- an Upgrader with two subprotocols, compression enabled, default origin policy, 4096-byte buffers -/
def witU : UCfg :=
  { subprotocols := some [strBytes "chat", strBytes "superchat"], enableCompression := true, checkOrigin := none,
    readBufferSize := 4096, writeBufferSize := 4096, pool := false, handshakeTimeout := true }

/-- url.Parse(origin).Host of `witReq` -/
def witOh : Option Bytes := some (strBytes "server.example.com")

/-- a successful Hijack with net/http's 4096-byte bufio pair, nothing buffered -/
def witHj : Hijack := { ok := true, brSize := 4096, buffered := 0, availLen := 4096 }

/-- the Accept value of the RFC sample key -/
def witAccept : Bytes := strBytes "s3pPLMBiTxaQ9kYGzzhZRbK+xOo="

/-- witness for `upgrade_iff`: the eight conditions of the chain hold for the RFC sample request -/
def witReq_chain :
    tokenListContainsValue (witReq.values "Connection") (strBytes "upgrade") = true ∧
    tokenListContainsValue (witReq.values "Upgrade") (strBytes "websocket") = true ∧
    witReq.method = strBytes "GET" ∧
    tokenListContainsValue (witReq.values "Sec-Websocket-Version") (strBytes "13") = true ∧
    RespHdr.has none "Sec-Websocket-Extensions" = false ∧
    (match witU.checkOrigin with | some b => b | none => checkSameOrigin witReq witOh) = true ∧
    isValidChallengeKey (witReq.get "Sec-Websocket-Key") = true ∧
    witHj.ok = true := by
  refine ⟨?_, ?_, ?_, ?_, ?_, ?_, ?_, ?_⟩ <;> decide +kernel

/-- non-vacuity of `upgrade_iff` (right to left): the right-hand side is satisfiable by a realistic
    request, and hence `upgrade` = .ok -/
def witReq_ok : ∃ a, upgrade witU witReq none witOh witHj = .ok a :=
  (upgrade_iff witU witReq none witOh witHj).2 witReq_chain
/-- non-vacuity of `upgrade_iff`: the existence statement itself -/
example : ∃ a, upgrade witU witReq none witOh witHj = .ok a := witReq_ok

/-- witness for `subprotocol_offered_and_supported`: the server supports ["chat", "superchat"], the
    client offers "superchat, chat"; the client's first choice is selected -/
def witSub_selected : selectSubprotocol witU witReq none = strBytes "superchat" := by decide +kernel

/-- non-vacuity of `upgrade_iff`, concretely: `upgrade` answers the RFC sample request with the 101
    of the RFC (Accept s3pPLMBiTxaQ9kYGzzhZRbK+xOo=, via `accept_digest_rfc_vector`), subprotocol
    "superchat" and the permessage-deflate announcement -/
def witReq_ok_bytes :
    ∃ a, upgrade witU witReq none witOh witHj = .ok (response101 witAccept (strBytes "superchat") true none, a) := by
  have hk : witReq.get "Sec-Websocket-Key" = strBytes "dGhlIHNhbXBsZSBub25jZQ==" := by decide +kernel
  have hc : (witU.enableCompression &&
      (parseExtensions (witReq.values "Sec-Websocket-Extensions")).any (fun e => e.name == strBytes "permessage-deflate")) = true := by
    decide +kernel
  have hb : (accepted witU witReq none witHj).1 = response101 witAccept (strBytes "superchat") true none := by
    rw [accepted_bytes, hk, witSub_selected, hc, accept_digest_rfc_vector]
    rfl
  obtain ⟨p, hp⟩ := witReq_ok
  exact ⟨_, by rw [hp, ((upgrade_eq_ok ..).mp hp).2.2, ← hb]⟩

/-- an `Except` value that evaluates to `.error e` is `.error e` (lets the kernel run `upgrade` up to the rejection) -/
def witErrOf {α : Type} (x : Except Reject α) (e : Reject)
    (h : (match x with | .error e' => decide (e' = e) | .ok _ => false) = true) : x = .error e := by
  cases x with
  | error e' => simpa using h
  | ok a => simp at h

/-- the same handshake sent by a page of another site -/
def witReqCross : Req :=
  { witReq with hdr := [(strBytes "Connection", [strBytes "keep-alive, Upgrade"]),
            (strBytes "Upgrade", [strBytes "websocket"]),
            (strBytes "Sec-Websocket-Version", [strBytes "13"]),
            (strBytes "Sec-Websocket-Key", [strBytes "dGhlIHNhbXBsZSBub25jZQ=="]),
            (strBytes "Origin", [strBytes "https://evil.example.org"])] }

/-- witness for `reject_status`: the cross-origin request is rejected for its origin -/
def witReqCross_rejected : upgrade witU witReqCross none (some (strBytes "evil.example.org")) witHj = .error .origin :=
  witErrOf _ _ (by decide +kernel)
/-- non-vacuity of `reject_status` (403): the hypothesis holds with `e = .origin`, and the theorem applies -/
example : Reject.origin.status = 403 ∧
    (match witU.checkOrigin with | some b => b | none => checkSameOrigin witReqCross (some (strBytes "evil.example.org"))) = false :=
  have h := reject_status witU witReqCross none (some (strBytes "evil.example.org")) witHj .origin witReqCross_rejected
  ⟨h.1.2 rfl, h.2.2.2 rfl⟩

/-- an HTTP/1.1 upgrade attempt to another protocol: Connection: Upgrade but Upgrade: h2c -/
def witReqH2c : Req :=
  { method := strBytes "GET", host := strBytes "server.example.com",
    hdr := [(strBytes "Connection", [strBytes "Upgrade, HTTP2-Settings"]),
            (strBytes "Upgrade", [strBytes "h2c"]),
            (strBytes "Http2-Settings", [strBytes "AAMAAABkAAQAAP__"])] }

/-- witness for `reject_status`: the h2c request is rejected for the missing websocket token -/
def witReqH2c_rejected : upgrade witU witReqH2c none none witHj = .error .noUpgradeWebsocket :=
  witErrOf _ _ (by decide +kernel)
/-- non-vacuity of `reject_status` (426): the hypothesis holds with `e = .noUpgradeWebsocket`, and the theorem applies -/
example : Reject.noUpgradeWebsocket.status = 426 ∧
    tokenListContainsValue (witReqH2c.values "Connection") (strBytes "upgrade") = true ∧
    tokenListContainsValue (witReqH2c.values "Upgrade") (strBytes "websocket") = false :=
  have h := reject_status witU witReqH2c none none witHj .noUpgradeWebsocket witReqH2c_rejected
  ⟨h.2.1.2 rfl, h.2.2.1 rfl⟩

/-- non-vacuity of `deflate_announced_iff`: the hypothesis `upgrade … = .ok (b, a)` is satisfiable (by
    `witReq_ok`), and for that result the theorem says compression is on: the server enabled it and the
    client offered permessage-deflate -/
example : ∃ b a, upgrade witU witReq none witOh witHj = .ok (b, a) ∧ a.compress = true := by
  obtain ⟨⟨b, a⟩, h⟩ := witReq_ok
  refine ⟨b, a, h, ?_⟩
  rw [deflate_announced_iff witU witReq none witOh witHj b a h]
  decide +kernel

/-- non-vacuity of `deflate_announced_iff` (negative side): same request, compression not enabled on the server -/
example : ∃ b a, upgrade { witU with enableCompression := false } witReq none witOh witHj = .ok (b, a) ∧ a.compress = false := by
  obtain ⟨⟨b, a⟩, h⟩ := (upgrade_iff { witU with enableCompression := false } witReq none witOh witHj).2 witReq_chain
  refine ⟨b, a, h, ?_⟩
  rw [deflate_announced_iff _ witReq none witOh witHj b a h]
  decide +kernel

/-- non-vacuity of `subprotocol_offered_and_supported`: both hypotheses hold, and the theorem applies -/
example : selectSubprotocol witU witReq none ∈ [strBytes "chat", strBytes "superchat"] ∧
    selectSubprotocol witU witReq none ∈ subprotocols (witReq.get "Sec-Websocket-Protocol") :=
  subprotocol_offered_and_supported witU witReq none [strBytes "chat", strBytes "superchat"] rfl
    (by rw [witSub_selected]; decide +kernel)

/-- witness for `no_injection` / `response101_lines`: no CR in the Accept value -/
def witAccept_noCR : ∀ b ∈ witAccept, b ≠ 13 := by decide +kernel

/-- an application response header with two entries (three values) -/
def witRh : RespHdr :=
  some [(strBytes "Set-Cookie", [strBytes "session=abc123; HttpOnly", strBytes "theme=dark"]),
        (strBytes "X-Request-Id", [strBytes "42"])]
/-- witness for `no_injection`: no CR in the header names -/
def witRh_noCR : ∀ l, witRh = some l → ∀ p ∈ l, ∀ b ∈ p.1, b ≠ 13 := by
  intro l h
  cases h
  decide +kernel

/-- non-vacuity of `no_injection`: Accept of the RFC sample, subprotocol "superchat", compression on,
    two application headers with three values: 4 + 1 + 1 + 3 + 2 lines -/
example : (splitCRLF (response101 witAccept (strBytes "superchat") true witRh) []).length =
    4 + (if (strBytes "superchat").isEmpty then 0 else 1) + (if true then 1 else 0) + rhLines witRh + 2 :=
  no_injection witAccept (strBytes "superchat") true witRh witAccept_noCR witRh_noCR
/-- an application header value and a subprotocol that try to inject a line -/
def witRhEvil : RespHdr := some [(strBytes "X-App", [strBytes "a\r\nSet-Cookie: evil=1"])]
/-- witness for `no_injection`: no CR in the header name of `witRhEvil` (the value is full of them) -/
def witRhEvil_noCR : ∀ l, witRhEvil = some l → ∀ p ∈ l, ∀ b ∈ p.1, b ≠ 13 := by
  intro l h
  cases h
  decide +kernel
/-- non-vacuity of `no_injection` with values that try to inject: a header value with CR LF and a
    subprotocol with CR LF satisfy the hypotheses and still give the expected number of lines -/
example : (splitCRLF (response101 witAccept (strBytes "chat\r\nX-Evil: 1") false witRhEvil) []).length =
    4 + (if (strBytes "chat\r\nX-Evil: 1").isEmpty then 0 else 1) + (if false then 1 else 0) + rhLines witRhEvil + 2 :=
  no_injection witAccept _ false witRhEvil witAccept_noCR witRhEvil_noCR

/-- witness for `contains_sound`: a browser's Connection header contains the token "upgrade" -/
def witLine_contains : lineContains (strBytes "keep-alive, Upgrade") (strBytes "upgrade") = true := by decide +kernel
/-- non-vacuity of `contains_sound`: the hypothesis holds for "keep-alive, Upgrade", and the theorem applies -/
example : ∃ e ∈ elements (strBytes "keep-alive, Upgrade"), e ≠ [] ∧ (∀ b ∈ e, isTokenOctet b = true) ∧
    equalASCIIFold e (strBytes "upgrade") = true :=
  contains_sound _ _ witLine_contains

/-- witness for `contains_complete`: "keep-alive, Upgrade" is a well-formed 1#token list -/
def witLine_wf : ∀ e ∈ elements (strBytes "keep-alive, Upgrade"), e ≠ [] ∧ ∀ b ∈ e, isTokenOctet b = true := by decide +kernel
/-- witness for `contains_complete`: its second element equals "upgrade" under ASCII folding -/
def witLine_elem : ∃ e ∈ elements (strBytes "keep-alive, Upgrade"), equalASCIIFold e (strBytes "upgrade") = true :=
  ⟨strBytes "Upgrade", by decide +kernel, by decide +kernel⟩
/-- non-vacuity of `contains_complete`: both hypotheses hold for "keep-alive, Upgrade" / "upgrade", and the theorem applies -/
example : lineContains (strBytes "keep-alive, Upgrade") (strBytes "upgrade") = true :=
  contains_complete _ _ witLine_wf witLine_elem

/-- non-vacuity of `response101_lines`: the 101 for the RFC sample with subprotocol and compression -/
example : splitCRLF (response101 witAccept (strBytes "superchat") true none) [] =
      [strBytes "HTTP/1.1 101 Switching Protocols", strBytes "Upgrade: websocket", strBytes "Connection: Upgrade",
       strBytes "Sec-WebSocket-Accept: " ++ witAccept] ++
      (if (strBytes "superchat").isEmpty then [] else [strBytes "Sec-WebSocket-Protocol: " ++ scrub (strBytes "superchat")]) ++
      (if true then [strBytes "Sec-WebSocket-Extensions: permessage-deflate; server_no_context_takeover; client_no_context_takeover"] else []) ++
      [[], []] :=
  response101_lines witAccept (strBytes "superchat") true witAccept_noCR

/-- rejected_before_hijack on the cross-origin request: refused with 403 whether or not Hijack would work -/
example : upgrade witU witReqCross none (some (strBytes "evil.example.org")) { witHj with ok := false } = .error .origin :=
  rejected_before_hijack _ _ _ _ witHj _ _ witReqCross_rejected (by decide)

/-- hijack_failure_rejected on the good request -/
example : ∀ a, upgrade witU witReq none witOh { witHj with ok := false } ≠ .ok a :=
  hijack_failure_rejected _ _ _ _ _ rfl

/-- missing_upgrade_token_is_426 on the h2c request with a POST method on top (two faults) -/
example : upgrade witU { witReqH2c with method := strBytes "POST" } none none witHj = .error .noUpgradeWebsocket :=
  (missing_upgrade_token_is_426 _ _ _ _ _ (by decide +kernel) (by decide +kernel)).1

end NonVacuity

end WS.Props.C12
