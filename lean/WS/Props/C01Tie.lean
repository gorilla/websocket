import WS.Gen.Skeletons
/-
  C01 — translator tie: the statement text of the functions this property's model transcribes, regenerated
  from /repo by factgen on every run (WS/Gen/Skeletons.lean), equals the text the model was written against.
  A change to one of these functions breaks the obligation below; the check then searches for a failing
  input with the property's oracles (DESIGN §5).
-/
namespace WS.Props.C01Tie
open WS

/-- the message writer (ncopy, Write, WriteString, ReadFrom, Close), NextWriter, WriteMessage and the constructor are the ones the model transcribes -/
theorem writer_path_as_modelled :
    Gen.stmts_ncopy =
      ["n := len(w.c.writeBuf) - w.pos",
        "if n <= 0 { if err := w.flushFrame(false, nil); err != nil { return 0, err } n = len(w.c.writeBuf) - w.pos }",
        "if n > max { n = max }",
        "return n, nil"] ∧
    Gen.stmts_mwWrite =
      ["if w.err != nil { return 0, w.err }",
        "if len(p) > 2*len(w.c.writeBuf) && w.c.isServer { err := w.flushFrame(false, p) if err != nil { return 0, err } return len(p), nil }",
        "nn := len(p)",
        "for len(p) > 0 { n, err := w.ncopy(len(p)) if err != nil { return 0, err } copy(w.c.writeBuf[w.pos:], p[:n]) w.pos += n p = p[n:] }",
        "return nn, nil"] ∧
    Gen.stmts_mwWriteString =
      ["if w.err != nil { return 0, w.err }",
        "nn := len(p)",
        "for len(p) > 0 { n, err := w.ncopy(len(p)) if err != nil { return 0, err } copy(w.c.writeBuf[w.pos:], p[:n]) w.pos += n p = p[n:] }",
        "return nn, nil"] ∧
    Gen.stmts_mwReadFrom =
      ["if w.err != nil { return 0, w.err }",
        "for { if w.pos == len(w.c.writeBuf) { err = w.flushFrame(false, nil) if err != nil { break } } var n int n, err = r.Read(w.c.writeBuf[w.pos:]) w.pos += n nn += int64(n) if err != nil { if err == io.EOF { err = nil } break } }",
        "return nn, err"] ∧
    Gen.stmts_mwClose =
      ["if w.err != nil { return w.err }",
        "return w.flushFrame(true, nil)"] ∧
    Gen.stmts_NextWriter =
      ["var mw messageWriter",
        "if err := c.beginMessage(&mw, messageType); err != nil { return nil, err }",
        "c.writer = &mw",
        "if c.newCompressionWriter != nil && c.enableWriteCompression && isData(messageType) { w := c.newCompressionWriter(c.writer, c.compressionLevel) mw.compress = true c.writer = w }",
        "return c.writer, nil"] ∧
    Gen.stmts_WriteMessage =
      ["if c.isServer && (c.newCompressionWriter == nil || !c.enableWriteCompression) { var mw messageWriter if err := c.beginMessage(&mw, messageType); err != nil { return err } n := copy(c.writeBuf[mw.pos:], data) mw.pos += n data = data[n:] return mw.flushFrame(true, data) }",
        "w, err := c.NextWriter(messageType)",
        "if err != nil { return err }",
        "if _, err = w.Write(data); err != nil { return err }",
        "return w.Close()"] ∧
    Gen.stmts_newConn =
      ["if br == nil { if readBufferSize == 0 { readBufferSize = defaultReadBufferSize } else if readBufferSize < maxControlFramePayloadSize { readBufferSize = maxControlFramePayloadSize } br = bufio.NewReaderSize(conn, readBufferSize) }",
        "if writeBufferSize <= 0 { writeBufferSize = defaultWriteBufferSize } else if writeBufferSize < maxControlFramePayloadSize { writeBufferSize = maxControlFramePayloadSize }",
        "writeBufferSize += maxFrameHeaderSize",
        "if writeBuf == nil && writeBufferPool == nil { writeBuf = make([]byte, writeBufferSize) }",
        "mu := make(chan struct{}, 1)",
        "mu <- struct{}{}",
        "c := &Conn{ isServer: isServer, br: br, conn: conn, mu: mu, readFinal: true, writeBuf: writeBuf, writePool: writeBufferPool, writeBufSize: writeBufferSize, enableWriteCompression: true, compressionLevel: defaultCompressionLevel, }",
        "c.SetCloseHandler(nil)",
        "c.SetPingHandler(nil)",
        "c.SetPongHandler(nil)",
        "return c"] :=
  ⟨rfl, rfl, rfl, rfl, rfl, rfl, rfl, rfl⟩


/-- maskBytes in /repo (word-at-a-time) is the one C01.mask_words_eq_bytes is about -/
theorem maskBytes_as_modelled :
    Gen.stmts_maskBytes =
      ["if len(b) < 2*wordSize { for i := range b { b[i] ^= key[pos&3] pos++ } return pos & 3 }",
        "if n := int(uintptr(unsafe.Pointer(&b[0]))) % wordSize; n != 0 { n = wordSize - n for i := range b[:n] { b[i] ^= key[pos&3] pos++ } b = b[n:] }",
        "// Create aligned word size key. var k [wordSize]byte",
        "for i := range k { k[i] = key[(pos+i)&3] }",
        "kw := *(*uintptr)(unsafe.Pointer(&k))",
        "n := (len(b) / wordSize) * wordSize",
        "for i := 0; i < n; i += wordSize { *(*uintptr)(unsafe.Pointer(uintptr(unsafe.Pointer(&b[0])) + uintptr(i))) ^= kw }",
        "b = b[n:]",
        "for i := range b { b[i] ^= key[pos&3] pos++ }",
        "return pos & 3"] := rfl


/-- WriteJSON / ReadJSON (thin wrappers around NextWriter / NextReader) and the functions that put compress/flate around the message writer / reader are the modelled ones -/
theorem json_and_deflate_plumbing_as_modelled :
    Gen.stmts_WriteJSON =
      ["w, err := c.NextWriter(TextMessage)",
        "if err != nil { return err }",
        "err1 := json.NewEncoder(w).Encode(v)",
        "err2 := w.Close()",
        "if err1 != nil { return err1 }",
        "return err2"] ∧
    Gen.stmts_ReadJSON =
      ["_, r, err := c.NextReader()",
        "if err != nil { return err }",
        "err = json.NewDecoder(r).Decode(v)",
        "if err == io.EOF { err = io.ErrUnexpectedEOF }",
        "return err"] ∧
    Gen.stmts_compressNCT =
      ["p := &flateWriterPools[level-minCompressionLevel]",
        "tw := &truncWriter{w: w}",
        "fw, _ := p.Get().(*flate.Writer)",
        "if fw == nil { fw, _ = flate.NewWriter(tw, level) } else { fw.Reset(tw) }",
        "return &flateWriteWrapper{fw: fw, tw: tw, p: p}"] ∧
    Gen.stmts_decompressNCT =
      ["const tail = \"\\x00\\x00\\xff\\xff\" + \"\\x01\\x00\\x00\\xff\\xff\"",
        "fr, _ := flateReaderPool.Get().(io.ReadCloser)",
        "mr := io.MultiReader(r, strings.NewReader(tail))",
        "if err := fr.(flate.Resetter).Reset(mr, nil); err != nil { fr = flate.NewReader(mr) }",
        "return &flateReadWrapper{fr: fr, src: mr}"] :=
  ⟨rfl, rfl, rfl, rfl⟩


end WS.Props.C01Tie
