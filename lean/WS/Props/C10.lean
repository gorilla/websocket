import WS.Lemmas.AuditGaps
import WS.Lemmas.WireInv
import WS.Lemmas.WriterExtras
/-
  C10 — Write failures are fail-stop; bad requests write nothing; deadlines are applied.
-/
namespace WS.Props.C10
open WS WS.WireInv

/-- fail-stop: once any transport call has failed (or a close was sent) the sticky error is set, and
    from then on no operation of the write API reaches the transport or changes the error (the statement of
    `C09.seq_nothing_after_close`, read here for a fault instead of a close) -/
theorem fault_failstop (s : W) (ops : List Op) (h : s.writeErr.isSome) :
    (run s ops).wire = s.wire ∧ (run s ops).tcalls = s.tcalls ∧ (run s ops).writeErr = s.writeErr :=
  run_failstop s ops h

/-- … and every later message-level write, including Close of a writer opened before, fails (the statement of
    `C09.seq_requests_fail`) -/
theorem later_writes_fail (s : W) (h : s.writeErr.isSome) :
    (∀ t dnp fullp, ∃ e, (nextWriter s t dnp fullp).1 = .error e) ∧
    (∀ t data dnp fullp dn full, (writeMessage s t data dnp fullp dn full).1.isSome) ∧
    (∀ enc dnp fullp dn full, (writeJSON s enc dnp fullp dn full).1.isSome) ∧
    (∀ t data d, (writeControl s t data d).1.isSome) ∧
    (∀ t img dnp fullp, (writePreparedImage s t img dnp fullp).1.isSome) ∧
    (∀ hd dn full, (hClose s hd dn full).1.isSome) :=
  requests_fail_of_err s h

/-- for every program, every fault script (error, timeout, short write at any transport call) and
    every environment answer: the bytes the transport accepted are whole frames followed by at
    most one incomplete write, and an incomplete write exists only if the sticky error is set -/
theorem wire_frames_then_partial (s0 : W) (h0 : Fresh s0) (ops : List Op) (hops : ∀ op ∈ ops, OpOK s0.isServer op) :
    Decomposes s0.isServer (run s0 ops).wire ((run s0 ops).writeErr.isNone) :=
  wire_decomposes s0 h0 ops hops

/-- invalid requests are harmless: a bad message type or an oversized control payload given to
    WriteControl changes nothing at all -/
theorem invalid_control_request_harmless (s : W) (t : Int) (data : Bytes) (d : Int) :
    (isControl t = false → writeControl s t data d = (some .badOpcode, s)) ∧
    (isControl t = true → 125 < data.length → writeControl s t data d = (some .invalidControl, s)) :=
  ⟨WriterExtras.writeControl_badType s t data d, WriterExtras.writeControl_tooLong s t data d⟩

/-- a bad message type given to NextWriter / WriteMessage: an error, and the only effect is the
    implicit close of a previously open writer (which belongs to that earlier message) -/
theorem invalid_type_request_harmless (s : W) (t : Int) (data : Bytes) (dnp : List Bytes) (fullp : Bytes) (dn : List Bytes) (full : Bytes)
    (ht : isControl t = false ∧ isData t = false) :
    (nextWriter s t dnp fullp).1 = .error .badOpcode ∧ (nextWriter s t dnp fullp).2 = closePrev s dnp fullp ∧
    (writeMessage s t data dnp fullp dn full).1 = some .badOpcode ∧
    (writeMessage s t data dnp fullp dn full).2 = closePrev s dnp fullp :=
  ⟨(WriterExtras.nextWriter_badType s t dnp fullp ht).1, (WriterExtras.nextWriter_badType s t dnp fullp ht).2,
   (WriterExtras.writeMessage_badType s t data dnp fullp dn full ht).1, (WriterExtras.writeMessage_badType s t data dnp fullp dn full ht).2⟩

/-- a control message over 125 bytes, or one that would need a second frame, is refused before any
    byte is produced: no transport call, sticky error untouched -/
theorem fragmented_control_harmless (s : W) (m : MW) (final : Bool) (extra : Bytes)
    (hc : isControl m.ft = true) (hbad : final = false ∨ 125 < m.buf.length + extra.length) :
    (flushFrame s m final extra).1 = some .invalidControl ∧ (flushFrame s m final extra).2.1.core = s.core :=
  WriterExtras.flushFrame_invalidControl s m final extra hc hbad

/-- deadlines are applied: every frame a message writer flushes goes out as `SetWriteDeadline d`
    followed only by Write calls, with d the value last given to SetWriteDeadline … -/
theorem deadline_applied_frames (s : W) (m : MW) (final : Bool) (extra : Bytes) :
    ∃ evs, (frameWrite s m final extra).2.log = s.log ++ evs ∧
      (evs = [] ∨ ∃ f, evs.head? = some (.swd s.deadline f)) ∧
      (∀ e ∈ evs.drop 1, ∃ b n f, e = .wr b n f) :=
  WriterExtras.frameWrite_deadline s m final extra

/-- … and WriteControl writes under its own deadline argument, zero included -/
theorem deadline_applied_control (s : W) (t : Int) (data : Bytes) (d : Int) :
    ∃ evs, (writeControl s t data d).2.log = s.log ++ evs ∧
      (evs = [] ∨ ∃ f, evs.head? = some (.swd d f)) ∧
      (∀ e ∈ evs.drop 1, ∃ b n f, e = .wr b n f) :=
  WriterExtras.writeControl_deadline s t data d

/-- non-vacuity: a short write at the second transport call leaves a strict prefix and sets the error -/
example :
    let s0 : W := { newW true 16 false false with faults := [(1, .short 3 7)] }
    (writeMessage s0 2 [9, 9, 9, 9, 9]).2.wire = [130, 5, 9] ∧ (writeMessage s0 2 [9, 9, 9, 9, 9]).2.writeErr = some (.transport 7) := by
  decide

open WS.Codec WS.ReaderDecodes WS.RoleGeneric WS.AuditGaps in
/-- fault ⇒ sticky: whatever makes a frame write fail — the sticky error, a failing SetWriteDeadline, a failing
    or short transport write — the connection's sticky write error is set afterwards … -/
theorem connWrite_error_is_sticky (s : W) (ft d : Int) (b0 b1 : Bytes) (h : (connWrite s ft d b0 b1).1.isSome) :
    (connWrite s ft d b0 b1).2.writeErr.isSome :=
  AuditGaps.connWrite_error_is_sticky s ft d b0 b1 h

open WS.Codec WS.ReaderDecodes WS.RoleGeneric WS.AuditGaps in
/-- … and on a connection that was healthy it is exactly the error that was returned -/
theorem connWrite_error_latched (s : W) (ft d : Int) (b0 b1 : Bytes) (e : WErr) (hs : s.writeErr = none)
    (h : (connWrite s ft d b0 b1).1 = some e) : (connWrite s ft d b0 b1).2.writeErr = some e :=
  AuditGaps.connWrite_error_latched s ft d b0 b1 e hs h


section NonVacuity
set_option linter.defProp false


/-- a client connection, write buffer 4096, two masking keys, and a fault script: the 4th transport
    call (the Write of the second frame) accepts 3 bytes and then fails with error 7 -/
def witF : W := { newW false 4096 false false with keys := [0x37, 0xfa, 0x21, 0x3d, 1, 2, 3, 4], faults := [(3, .short 3 7)] }

/-- witness for `wire_frames_then_partial`: the constructor state is `Fresh` -/
def witF_fresh : Fresh witF := ⟨rfl, rfl, rfl, rfl, rfl, by decide, by decide⟩

/-- WriteControl(ping "hi"); NextWriter(text); Write "Hello"; Close — hits the fault; WriteMessage(binary);
    WriteControl(pong) -/
def witFOps : List Op :=
  [.writeControl 9 [104, 105] 0, .nextWriter 1 [] [], .write 0 [72, 101, 108, 108, 111] [] false,
   .close 0 [] [], .writeMessage 2 [1, 2, 3] [] [] [] [], .writeControl 10 [104, 105] 0]

/-- witness for `wire_frames_then_partial`: every operation satisfies the size conditions -/
def witFOps_ok : ∀ op ∈ witFOps, OpOK witF.isServer op := by
  intro op h
  simp [witFOps] at h
  rcases h with rfl | rfl | rfl | rfl | rfl | rfl <;> simp [OpOK]

/-- non-vacuity of `wire_frames_then_partial`: all hypotheses hold for a client (buffer 4096) with a short
    write at the 4th transport call running a six-operation program, and the theorem applies -/
example : Decomposes false (run witF witFOps).wire ((run witF witFOps).writeErr.isNone) :=
  wire_frames_then_partial witF witF_fresh witFOps witFOps_ok

/-- … and on that run (witness of `wire_frames_then_partial`) the wire is the whole ping frame followed by 3 bytes of the text frame; the error is sticky -/
example : (run witF witFOps).wire = [137, 130, 55, 250, 33, 61, 95, 147, 129, 133, 1] ∧
    (run witF witFOps).writeErr = some (.transport 7) := by decide +kernel

/-- the connection after the failed Close: sticky error set, a partial frame on the wire -/
def witFailed : W := run witF (witFOps.take 4)

/-- witness for `fault_failstop`, `later_writes_fail`: the sticky error is set -/
def witFailed_err : witFailed.writeErr.isSome := by decide +kernel

/-- non-vacuity of `fault_failstop`: the hypothesis holds for the failed client, and the theorem applies to
    a program of three further operations -/
example : (run witFailed (witFOps.drop 3)).wire = witFailed.wire ∧ (run witFailed (witFOps.drop 3)).tcalls = witFailed.tcalls ∧
    (run witFailed (witFOps.drop 3)).writeErr = witFailed.writeErr :=
  fault_failstop witFailed (witFOps.drop 3) witFailed_err

/-- non-vacuity of `later_writes_fail`: the hypothesis holds for the failed client, and the theorem applies
    (e.g. a later WriteMessage fails) -/
example : (writeMessage witFailed 2 [1, 2, 3] [] [] [] []).1.isSome :=
  (later_writes_fail witFailed witFailed_err).2.1 2 [1, 2, 3] [] [] [] []

/-- a healthy client with a text message writer open (3 bytes buffered) -/
def witOpen : W := run { witF with faults := [] } (witFOps.take 3)

/-- … it really has writer 0 open and no error (state used for `invalid_type_request_harmless`) -/
example : witOpen.writer = some 0 ∧ witOpen.writeErr = none := by decide +kernel

/-- instances of `invalid_control_request_harmless` (no hypotheses; both premises of its conclusion are
    satisfiable): WriteControl with a data type, and with a 126-byte ping -/
example : writeControl witOpen 1 [104, 105] 0 = (some .badOpcode, witOpen) :=
  (invalid_control_request_harmless witOpen 1 [104, 105] 0).1 (by decide)
/-- instance of `invalid_control_request_harmless`: a 126-byte ping is refused, nothing changes -/
example : writeControl witOpen 9 (List.replicate 126 0) 0 = (some .invalidControl, witOpen) :=
  (invalid_control_request_harmless witOpen 9 (List.replicate 126 0) 0).2 (by decide) (by rw [List.length_replicate]; decide)

/-- non-vacuity of `invalid_type_request_harmless`: message type 7 is neither control nor data; applied to
    the client with an open writer -/
example :
    (nextWriter witOpen 7 [] []).1 = .error .badOpcode ∧ (nextWriter witOpen 7 [] []).2 = closePrev witOpen [] [] ∧
    (writeMessage witOpen 7 [1, 2, 3] [] [] [] []).1 = some .badOpcode ∧
    (writeMessage witOpen 7 [1, 2, 3] [] [] [] []).2 = closePrev witOpen [] [] :=
  invalid_type_request_harmless witOpen 7 [1, 2, 3] [] [] [] [] (by decide)

/-- a ping message writer holding 100 bytes -/
def witPingMW : MW := { ft := 9, buf := List.replicate 100 0 }

/-- non-vacuity of `fragmented_control_harmless` (payload too long: 100 buffered + 30 extra > 125) -/
example : (flushFrame witOpen witPingMW true (List.replicate 30 0)).1 = some .invalidControl ∧
    (flushFrame witOpen witPingMW true (List.replicate 30 0)).2.1.core = witOpen.core :=
  fragmented_control_harmless witOpen witPingMW true (List.replicate 30 0) (by decide) (Or.inr (by decide))

/-- non-vacuity of `fragmented_control_harmless` (a non-final control frame) -/
example : (flushFrame witOpen witPingMW false []).1 = some .invalidControl ∧
    (flushFrame witOpen witPingMW false []).2.1.core = witOpen.core :=
  fragmented_control_harmless witOpen witPingMW false [] (by decide) (Or.inl rfl)

/-! `connWrite_error_is_sticky`, `connWrite_error_latched`: one frame write that fails -/

/-- a healthy client (buffer 4096) whose transport fails the very first call — the SetWriteDeadline of the
    first frame — with error 41 -/
def witSwdFault : W :=
  { newW false 4096 false false with keys := [0x37, 0xfa, 0x21, 0x3d, 1, 2, 3, 4], faults := [(0, .fail 41)] }
/-- the masked ping "hi" as WriteControl would build it there -/
def witPingFrame : Bytes := controlFrame false 9 [104, 105] (newKey witSwdFault).1
example : witPingFrame = [0x89, 0x82, 0x37, 0xfa, 0x21, 0x3d, 104 ^^^ 0x37, 105 ^^^ 0xfa] := by decide

/-- witness: Conn.write(ping, deadline 5) returns the transport's error 41 -/
def witSwdFault_fails : (connWrite witSwdFault 9 5 witPingFrame []).1 = some (.transport 41) := by decide

/-- non-vacuity of `connWrite_error_is_sticky` (failing SetWriteDeadline) -/
example : (connWrite witSwdFault 9 5 witPingFrame []).2.writeErr.isSome :=
  connWrite_error_is_sticky witSwdFault 9 5 witPingFrame [] (by rw [witSwdFault_fails]; rfl)
/-- non-vacuity of `connWrite_error_latched` (failing SetWriteDeadline): the connection was healthy, error 41 is
    returned, and exactly it is latched -/
example : (connWrite witSwdFault 9 5 witPingFrame []).2.writeErr = some (.transport 41) :=
  connWrite_error_latched witSwdFault 9 5 witPingFrame [] (.transport 41) rfl witSwdFault_fails
/-- evaluated: nothing reached the wire, one transport call was made (the failed SetWriteDeadline(5)) -/
example : (connWrite witSwdFault 9 5 witPingFrame []).2.wire = [] ∧ (connWrite witSwdFault 9 5 witPingFrame []).2.tcalls = 1 ∧
    (connWrite witSwdFault 9 5 witPingFrame []).2.log = [.swd 5 (some 41)] := by decide

/-- the client `witF` after its ping went out (two transport calls made, still healthy); the next Write — the
    4th transport call — is scripted to accept 3 bytes and fail with error 7 -/
def witF1 : W := run witF (witFOps.take 1)
example : witF1.writeErr = none ∧ witF1.tcalls = 2 ∧ witF1.wire.length = 8 := by decide +kernel
/-- a masked text frame "Hello" (second key) in two buffers: header + key, masked payload -/
def witTextHdr : Bytes := [0x81, 0x85, 1, 2, 3, 4]
def witTextBody : Bytes := [72 ^^^ 1, 101 ^^^ 2, 108 ^^^ 3, 108 ^^^ 4, 111 ^^^ 1]

/-- witness: the short Write makes Conn.write return error 7 -/
def witF1_fails : (connWrite witF1 1 0 witTextHdr witTextBody).1 = some (.transport 7) := by decide +kernel

/-- non-vacuity of `connWrite_error_is_sticky` (short transport write, data frame, two buffers) -/
example : (connWrite witF1 1 0 witTextHdr witTextBody).2.writeErr.isSome :=
  connWrite_error_is_sticky witF1 1 0 witTextHdr witTextBody (by rw [witF1_fails]; rfl)
/-- non-vacuity of `connWrite_error_latched` (short transport write) -/
example : (connWrite witF1 1 0 witTextHdr witTextBody).2.writeErr = some (.transport 7) :=
  connWrite_error_latched witF1 1 0 witTextHdr witTextBody (.transport 7) (by decide +kernel) witF1_fails
/-- evaluated: three bytes of the header buffer were accepted, the second buffer was never offered -/
example : (connWrite witF1 1 0 witTextHdr witTextBody).2.wire = witF1.wire ++ [0x81, 0x85, 1] ∧
    (connWrite witF1 1 0 witTextHdr witTextBody).2.tcalls = 4 := by decide +kernel

/-- a healthy server whose transport fails the Write of the SECOND buffer (3rd transport call) outright, error 43 -/
def witSrvFault : W := { newW true 4096 false false with faults := [(2, .fail 43)] }
/-- non-vacuity of `connWrite_error_latched` / `connWrite_error_is_sticky` (failing Write, a close frame 1000 in two
    buffers): the close frame did not go out completely, so the error latched is the transport's, not ErrCloseSent -/
example : (connWrite witSrvFault 8 0 [0x88, 0x02] [3, 232]).2.writeErr = some (.transport 43) :=
  connWrite_error_latched witSrvFault 8 0 [0x88, 0x02] [3, 232] (.transport 43) rfl (by decide)
example : (connWrite witSrvFault 8 0 [0x88, 0x02] [3, 232]).2.writeErr.isSome :=
  connWrite_error_is_sticky witSrvFault 8 0 [0x88, 0x02] [3, 232] (by decide)
example : (connWrite witSrvFault 8 0 [0x88, 0x02] [3, 232]).2.wire = [0x88, 0x02] := by decide

/-- `connWrite_error_is_sticky` on a connection that is already failed (the sticky error itself is what is
    returned): `witFailed` -/
example : (connWrite witFailed 1 0 witTextHdr witTextBody).2.writeErr.isSome :=
  connWrite_error_is_sticky witFailed 1 0 witTextHdr witTextBody (by decide +kernel)

end NonVacuity

end WS.Props.C10
