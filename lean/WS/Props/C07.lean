import WS.Lemmas.ReaderRejects
import WS.Lemmas.SrcLaw
import WS.Model.Http
import WS.Lemmas.Robust
import WS.Lemmas.ParserFuel
import WS.Lemmas.ReaderTotal
import WS.Lemmas.Witness
/-
  C07 — Untrusted network input never panics, hangs or allocates out of proportion.

  What a theorem can say here: the executable model of the read path and of the header parsers is
  a set of total functions whose recursion is bounded by the input (Lean's termination checker
  accepted them with fuel = input length; that the fuel is never exhausted is proved below for every input:
  `nextReaderLoop_no_hang`, `mrReadLoop_fuel`, the `*_any_fuel` theorems), and the only panic value the model can produce is the documented
  one. Go-level panics (index out of range, nil map) cannot arise in the model; they are guarded by
  the translator's inventory of every index / slice / make / type-assertion site in the functions fed
  by network input (expect/inventory.json: a new or changed site breaks the tie) and searched for by
  the fuzz streams under recover().
-/
namespace WS.Props.C07
open WS WS.SrcLaw WS.ReaderRejects

/-- the documented exception: the 1000th NextReader call on a failed connection panics … -/
theorem panic_at_1000 (c : Conn) (e : RErr) (he : c.r.readErr = some e) (hn : 1000 ≤ c.r.errCount + 1) :
    ∃ c', nextReader c = (.panic, c') :=
  nextReader_panics_at_1000 c e he hn

/-- … and before that a failed connection just returns its error -/
theorem no_panic_before_1000 (c : Conn) (e : RErr) (he : c.r.readErr = some e) (hn : c.r.errCount + 1 < 1000) :
    ∃ c', nextReader c = (.err e, c') := by
  obtain ⟨c', h, _⟩ := nextReader_sticky c e he hn
  exact ⟨c', h⟩

/-- header reads are bounded: a read of n bytes (n is at most 125 for control payloads, 8 for lengths, 4 for
    keys, 2 for the header) delivers at most n bytes, consumes exactly what it delivers, and on a source
    with fewer than n bytes left it ends with the source's error instead of waiting -/
theorem header_read_bounded (b : Buf) (h : WF b) (n : Nat) (hn : n ≤ b.size) :
    (b.take n).1.length ≤ n ∧
    (b.take n).1 ++ (b.take n).2.2.pending = b.pending ∧
    (b.pending.length < n → (b.take n).2.1 = some (mapEOF b.t.term)) := by
  -- either all n bytes are there (`take_ok`) or the source ends first (`take_short`)
  by_cases hp : n ≤ b.pending.length
  · obtain ⟨h1, _, h3, _⟩ := take_ok b h n hn hp
    rw [h1, h3]
    exact ⟨(List.length_take_le n _), List.take_append_drop n _, fun hlt => absurd hp (Nat.not_le.2 hlt)⟩
  · obtain ⟨h1, h2, h3, _⟩ := take_short b h n hn (Nat.lt_of_not_le hp)
    rw [h1, h3]
    exact ⟨Nat.le_of_not_le hp, List.append_nil _, fun _ => h2⟩

/-- skipping a frame whose header claims any length consumes what is there and ends with an error
    when the stream is shorter — it never waits for the claimed length -/
theorem skip_terminates_on_short_stream (b : Buf) (h : WF b) (n : Nat) (hp : b.pending.length < n) :
    (b.skip n).1 = some b.t.term ∧ (b.skip n).2.pending = [] :=
  ⟨(skip_short b h n hp).1, (skip_short b h n hp).2.1⟩

open WS.Http
/-- panic_only_after_1000_failed_reads: NextReader panics exactly on the 1000th (or later) call that
    ends in an error — never on a healthy call, never earlier -/
theorem panic_iff (c : Conn) :
    (∃ c', nextReader c = (.panic, c')) ↔ (c.r.readErr.isSome ∧ 1000 ≤ c.r.errCount + 1) ∨
      (c.r.readErr = none ∧ 1000 ≤ c.r.errCount + 1 ∧ ∃ e c', nextReaderLoop c.fuel { c with r := { c.r with msgReader := none, length := 0 } } = (.err e, c')) :=
  Robust.nextReader_panic_iff c

/-- a connection with fewer than 999 failed calls never panics in NextReader, whatever the peer sends -/
theorem no_panic_on_any_input (c : Conn) (h : c.r.errCount + 1 < 1000) : ∀ c', nextReader c ≠ (.panic, c') :=
  Robust.nextReader_no_panic c h

/-- alloc_linear (quoted strings): the unescaped value is never longer than the header value it came
    from (the code allocates len(s)-1 bytes for it), and the scanners only ever return pieces of
    their input -/
theorem nextTokenOrQuoted_length (s : Bytes) :
    (nextTokenOrQuoted s).1.length ≤ s.length ∧ (nextTokenOrQuoted s).2.length ≤ s.length :=
  Robust.nextTokenOrQuoted_length s

theorem nextToken_split (s : Bytes) :
    (nextToken s).1 ++ (nextToken s).2 = s ∧ ∀ b ∈ (nextToken s).1, isTokenOctet b = true :=
  Robust.nextToken_split s

/-- skipSpace returns a suffix of its input -/
theorem skipSpace_suffix (s : Bytes) : ∃ pre, pre ++ skipSpace s = s ∧ ∀ b ∈ pre, b = 32 ∨ b = 9 :=
  Robust.skipSpace_suffix s

/-! ### never hangs, on ANY input (frame bytes): the fuel of the model's reader loops is never exhausted

  `nextReaderLoop` / `mrReadLoop` take a fuel argument; running out of it is the model's "hang" outcome
  (the driver prints `MODEL-hang`). The theorems below hold for every byte stream whatsoever —
  conformant or garbage, complete or cut at any offset — and every reader state with a well-formed
  byte source: each iteration that does not end the loop has consumed at least the two header bytes of
  a frame, so the fuel the model passes is never exhausted and any larger fuel gives the same result.
  (The conformant-stream theorems of C03 prove the same for conformant streams as a by-product; these
  are about the inputs an attacker chooses.) -/

/-- progress: a frame that advanceFrame accepts has taken at least its two header bytes from the
    input -/
theorem advanceFrame_ok_consumes (c c' : Conn) (t : Nat) (hwf : WF c.r.buf)
    (h : advanceFrame c = (.ok t, c')) :
    c'.r.buf.pending.length + 2 ≤ c.r.buf.pending.length ∧ WF c'.r.buf ∧ c'.r.buf.total = c.r.buf.total ∧
      c'.r.buf.size = c.r.buf.size :=
  WS.ReaderTotal.advanceFrame_ok_consumes c c' t hwf h

/-- the NextReader loop never runs out of fuel: with any fuel above half the pending input (in
    particular with `Conn.fuel`) it ends with a message or with an error that has been latched — the
    fuel-0 branch (which would return an error WITHOUT latching one) is never taken -/
theorem nextReaderLoop_no_hang (n : Nat) (c : Conn) (hwf : WF c.r.buf) (he : c.r.readErr = none)
    (hn : c.r.buf.pending.length + 1 ≤ n) :
    (∃ t rid z c', nextReaderLoop n c = (.msg t rid z, c')) ∨
    (∃ e c', nextReaderLoop n c = (.err e, c') ∧ c'.r.readErr = some e) :=
  WS.ReaderTotal.nextReaderLoop_no_hang n c hwf he hn

/-- … and the fuel is an artefact: any fuel above the bound gives the same result -/
theorem nextReaderLoop_fuel (n m : Nat) (c : Conn) (hwf : WF c.r.buf)
    (hn : c.r.buf.pending.length + 1 ≤ n) (hm : c.r.buf.pending.length + 1 ≤ m) :
    nextReaderLoop n c = nextReaderLoop m c :=
  WS.ReaderTotal.nextReaderLoop_fuel n m c hwf hn hm

/-- NextReader on ANY input: a message, the documented panic, or an error that is the latched one -/
theorem nextReader_total (c : Conn) (hwf : WF c.r.buf) (hfuel : c.r.buf.pending.length ≤ c.r.buf.total) :
    (∃ t rid z c', nextReader c = (.msg t rid z, c')) ∨
    (∃ c', nextReader c = (.panic, c') ∧ 1000 ≤ c.r.errCount + 1) ∨
    (∃ e c', nextReader c = (.err e, c') ∧ c'.r.readErr = some e) :=
  WS.ReaderTotal.nextReader_total c hwf hfuel

/-- messageReader.Read: the fuel is an artefact for the Read loop as well -/
theorem mrReadLoop_fuel (n m : Nat) (c : Conn) (rid k : Nat) (hwf : WF c.r.buf)
    (hn : c.r.buf.pending.length + 2 ≤ n) (hm : c.r.buf.pending.length + 2 ≤ m) :
    mrReadLoop n c rid k = mrReadLoop m c rid k :=
  WS.ReaderTotal.mrReadLoop_fuel n m c rid k hwf hn hm

/-- Read on ANY input returns data, end of message, or an error that is latched (or, for a stale
    reader, io.EOF): never the fuel-exhaustion outcome -/
theorem mrRead_total (c : Conn) (rid k : Nat) (hk : 0 < k) (hwf : WF c.r.buf)
    (hfuel : c.r.buf.pending.length ≤ c.r.buf.total) :
    ∀ out e c', mrRead c rid k = ((out, some e), c') →
      e = .eof ∨ c'.r.readErr ≠ none :=
  WS.ReaderTotal.mrRead_total c rid k hk hwf hfuel

/-! ### never loops without consuming input (header values): the fuel of the parsers' loops is an artefact -/

/-- tokenListContainsValue: every iteration of the per-line loop consumes at least one byte (a
    non-empty token and its comma), so the loop run with ANY fuel above the line length computes the
    public function: the fuel-0 branch is unreachable -/
theorem lineContains_any_fuel (s value : Bytes) (n : Nat) (h : s.length + 1 ≤ n) :
    lineContains s value = lineContainsAux n s value :=
  WS.ParserFuel.lineContains_any_fuel s value n h

/-- parseExtensions: the same for the extension-list loop of every header line, whatever fuel above
    the line length is chosen per line -/
theorem parseExtensions_any_fuel (lines : List Bytes) (f : Bytes → Nat) (hf : ∀ l, l.length + 1 ≤ f l) :
    parseExtensions lines = lines.foldl (fun acc l => acc ++ lineExtsAux (f l) l []) [] :=
  WS.ParserFuel.parseExtensions_any_fuel lines f hf

/-- the parameter loop of one extension: any fuel above the input length gives the same result -/
theorem paramsAux_fuel (n : Nat) (s : Bytes) (acc : Ext) (h : s.length + 1 ≤ n) :
    paramsAux n s acc = paramsAux (s.length + 1) s acc :=
  WS.ParserFuel.paramsAux_fuel n s acc h

/-- what is left after the parameters of an extension is not longer than the input (the loops only
    ever move forward) -/
theorem paramsAux_rest_le (n : Nat) (s : Bytes) (acc : Ext) :
    (paramsAux n s acc).2.1.length ≤ s.length :=
  WS.ParserFuel.paramsAux_rest_le n s acc

/-- isValidChallengeKey: the base64 length walk consumes four characters per iteration -/
theorem b64DecodedLen_any_fuel (s : Bytes) (n : Nat)
    (h : (s.filter (fun b => b != 10 && b != 13)).length + 1 ≤ n) :
    b64DecodedLen s = b64LenAux n (s.filter (fun b => b != 10 && b != 13)) 0 :=
  WS.ParserFuel.b64DecodedLen_any_fuel s n h

section NonVacuity
set_option linter.defProp false
open WS WS.SrcLaw WS.ReaderRejects WS.Http

/-- a server connection whose reader failed with ErrReadLimit `n` calls ago; unread bytes remain -/
def witFailed (n : Nat) : Conn :=
  { w := { newW true 4096 false false with writeErr := some .closeSent, wire := [0x88, 0x02, 0x03, 0xF1] },
    r := { isServer := true, nego := false, readErr := some .readLimit, errCount := n, limit := 4,
           buf := { size := 4096, buf := [0, 1, 2, 3], total := 12 } } }

/-- non-vacuity of `panic_at_1000`: the 1000th failed call -/
example : ∃ c', nextReader (witFailed 999) = (.panic, c') := panic_at_1000 (witFailed 999) .readLimit rfl (by decide)

/-- non-vacuity of `no_panic_before_1000`: the 999th failed call -/
example : ∃ c', nextReader (witFailed 998) = (.err .readLimit, c') :=
  no_panic_before_1000 (witFailed 998) .readLimit rfl (by decide)

/-- instance of `panic_iff` (no hypotheses): both sides hold for `witFailed 999` -/
example : ((witFailed 999).r.readErr.isSome ∧ 1000 ≤ (witFailed 999).r.errCount + 1) ∧
    ∃ c', nextReader (witFailed 999) = (.panic, c') :=
  ⟨⟨rfl, by decide⟩, (panic_iff (witFailed 999)).mpr (Or.inl ⟨rfl, by decide⟩)⟩

/-- a 4096-byte bufio.Reader holding the start of a frame header that claims a 2^63-1 byte payload;
    the transport delivers 3 more bytes and then fails -/
def witBuf : Buf :=
  { size := 4096, buf := [0x82, 0xFF, 0x7F], t := { chunks := [[0xFF, 0xFF], [0xFF]], term := .transport 9 }, total := 6 }

def witBuf_wf : WF witBuf := ⟨by decide, by decide, by decide, (by intro e h; cases h)⟩

/-- non-vacuity of `header_read_bounded`: the 8-byte extended length is asked for after the 2 header
    bytes; 6 pending bytes < 8 + 2 -/
example : (witBuf.take 10).1.length ≤ 10 ∧
    (witBuf.take 10).1 ++ (witBuf.take 10).2.2.pending = witBuf.pending ∧
    (witBuf.pending.length < 10 → (witBuf.take 10).2.1 = some (mapEOF witBuf.t.term)) :=
  header_read_bounded witBuf witBuf_wf 10 (by decide)

example : witBuf.pending.length < 10 ∧ (witBuf.take 10).2.1 = some (.transport 9) := by decide +kernel

/-- non-vacuity of `skip_terminates_on_short_stream`: the claimed length 2^63 - 1 is never waited for -/
example : (witBuf.skip (2 ^ 63 - 1)).1 = some (.transport 9) ∧ (witBuf.skip (2 ^ 63 - 1)).2.pending = [] :=
  skip_terminates_on_short_stream witBuf witBuf_wf (2 ^ 63 - 1) (by decide)

/-- a fresh client connection fed garbage: a frame with all reserved bits, opcode 15, then noise -/
def witGarbage : Conn :=
  { w := Witness.cliW,
    r := { isServer := false, nego := false, errCount := 0,
           buf := { size := 4096, buf := [], t := { chunks := [[0xFF, 0xFF, 0xFF], [0x00, 0x13, 0x37]] }, total := 6 } } }

/-- non-vacuity of `no_panic_on_any_input` -/
example : ∀ c', nextReader witGarbage ≠ (.panic, c') := no_panic_on_any_input witGarbage (by decide)

example : (nextReader witGarbage).2.r.readErr = some (.protocol "RSV1 set, RSV2 set, RSV3 set, bad opcode 15, bad MASK") := by
  decide +kernel

/-- instances of `nextTokenOrQuoted_length`, `nextToken_split`, `skipSpace_suffix` (no hypotheses):
    a quoted string with an escape, `permessage-deflate; x`, leading blanks -/
example : (nextTokenOrQuoted (strBytes "\"a\\\"b\"; rest")).1 = strBytes "a\"b" ∧
    (nextToken (strBytes "permessage-deflate; x")).1 = strBytes "permessage-deflate" ∧
    skipSpace (strBytes " \t websocket") = strBytes "websocket" := by decide +kernel

/-- `witGarbage`'s byte source is well formed (what every reachable state satisfies) -/
def witGarbage_wf : WF witGarbage.r.buf := ⟨by decide, by decide, by decide, (by intro e h; cases h)⟩

/-- a client connection fed pings, pongs and then noise: the NextReader loop has to iterate -/
def witPings : Conn :=
  { w := Witness.cliW,
    r := { isServer := false, nego := false, errCount := 0,
           buf := { size := 4096, buf := [], t := { chunks := [[0x89, 0x00, 0x8A], [0x01, 0x55, 0x89, 0x00], [0x8A, 0x00, 0x8F, 0x00]] }, total := 11 } } }

def witPings_wf : WF witPings.r.buf := ⟨by decide, by decide, by decide, (by intro e h; cases h)⟩

/-- non-vacuity of `nextReader_total` and `nextReaderLoop_no_hang`: the hypotheses hold for garbage
    input, and the outcome is the third disjunct with the protocol error latched -/
example : (∃ t rid z c', nextReader witGarbage = (.msg t rid z, c')) ∨
    (∃ c', nextReader witGarbage = (.panic, c') ∧ 1000 ≤ witGarbage.r.errCount + 1) ∨
    (∃ e c', nextReader witGarbage = (.err e, c') ∧ c'.r.readErr = some e) :=
  nextReader_total witGarbage witGarbage_wf (by decide)

example : (∃ t rid z c', nextReaderLoop witPings.fuel witPings = (.msg t rid z, c')) ∨
    (∃ e c', nextReaderLoop witPings.fuel witPings = (.err e, c') ∧ c'.r.readErr = some e) :=
  nextReaderLoop_no_hang witPings.fuel witPings witPings_wf rfl (by decide)

/-- … evaluated: four control frames are skipped (the loop iterates), then the bad frame is refused
    and the error latched; a fuel of 12 (= pending + 1) and the model's own 4108 agree -/
example : (nextReaderLoop witPings.fuel witPings).2.r.readErr = some (.protocol "bad opcode 15") ∧
    (nextReaderLoop witPings.fuel witPings).2.r.hlog = [.ping [], .pong [0x55], .ping [], .pong []] ∧
    (nextReaderLoop 12 witPings).2.r.hlog = (nextReaderLoop witPings.fuel witPings).2.r.hlog := by decide +kernel

example : nextReaderLoop 12 witPings = nextReaderLoop witPings.fuel witPings :=
  nextReaderLoop_fuel 12 witPings.fuel witPings witPings_wf (by decide) (by decide)

/-- non-vacuity of `advanceFrame_ok_consumes`: the first ping of `witPings` -/
example : (advanceFrame witPings).2.r.buf.pending.length + 2 ≤ witPings.r.buf.pending.length :=
  (advanceFrame_ok_consumes witPings (advanceFrame witPings).2 9 witPings_wf (by rfl)).1

/-- non-vacuity of `mrRead_total` / `mrReadLoop_fuel`: a reader opened on a message whose continuation
    never arrives (cut inside the second frame's header) -/
def witCut : Conn :=
  { w := Witness.cliW,
    r := { isServer := false, nego := false, errCount := 0, final := false, remaining := 0, msgReader := some 7,
           buf := { size := 4096, buf := [0x89, 0x00, 0x80], t := { chunks := [], term := .eof }, total := 9 } } }

def witCut_wf : WF witCut.r.buf := ⟨by decide, by decide, by decide, (by intro e h; cases h)⟩

example : ∀ out e c', mrRead witCut 7 16 = ((out, some e), c') → e = .eof ∨ c'.r.readErr ≠ none :=
  mrRead_total witCut 7 16 (by decide) witCut_wf (by decide)

example : mrReadLoop 5 witCut 7 16 = mrReadLoop (witCut.fuel + 1) witCut 7 16 :=
  mrReadLoop_fuel 5 (witCut.fuel + 1) witCut 7 16 witCut_wf (by decide) (by decide)

/-- instances of the parser theorems: an offer with parameters and a quoted value, run with the model's
    fuel and with a much larger one -/
example : lineContains (strBytes "keep-alive, Upgrade") (strBytes "upgrade") = true ∧
    lineContainsAux 1000 (strBytes "keep-alive, Upgrade") (strBytes "upgrade") = true ∧
    (parseExtensions [strBytes "foo; a=\"x, y\", permessage-deflate; client_max_window_bits"]).length = 2 := by
  decide +kernel

example : parseExtensions [strBytes "permessage-deflate; a=1, x"] =
    [strBytes "permessage-deflate; a=1, x"].foldl (fun acc l => acc ++ lineExtsAux (l.length + 500) l []) [] :=
  parseExtensions_any_fuel _ (fun l => l.length + 500) (by intro l; omega)

end NonVacuity

end WS.Props.C07
