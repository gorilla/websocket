import WS.Lemmas.HttpLogic
import WS.Gen.Skeletons
import WS.Lemmas.RequestLogic
/-
  C14 — Client handshake: connect iff the reply proves the server accepted this request.
-/
namespace WS.Props.C14
open WS WS.Http WS.Client WS.HttpLogic

/-- dial_iff: the reply is accepted exactly when status, Upgrade, Connection and Accept prove that the
    server accepted the key sent in this very request (and the compression answer is acceptable) -/
theorem dial_iff (key : Bytes) (r : Reply) :
    (∃ d, checkReply key r = .ok d) ↔
      (r.status = 101 ∧
       tokenListContainsValue (r.values "Upgrade") (strBytes "websocket") = true ∧
       tokenListContainsValue (r.values "Connection") (strBytes "upgrade") = true ∧
       r.get "Sec-Websocket-Accept" = Spec.acceptKey Gen.keyGUID key ∧
       (∀ e, (parseExtensions (r.values "Sec-Websocket-Extensions")).find? (fun e => e.name == strBytes "permessage-deflate") = some e →
          e.has (strBytes "server_no_context_takeover") = true ∧ e.has (strBytes "client_no_context_takeover") = true)) := by
  simp only [checkReply_eq_ok, exists_and_left, exists_eq, and_true, and_assoc]

/-- URLs that are not ws / wss or that carry userinfo are refused before anything is assembled -/
theorem scheme_userinfo_refused_early (d : DCfg) (u : Url) (key : Bytes) (caller : Client.Hdr)
    (h : (u.scheme ≠ strBytes "ws" ∧ u.scheme ≠ strBytes "wss") ∨ u.hasUser = true) :
    buildRequest d u key caller = .error .malformedURL :=
  RequestLogic.scheme_userinfo_refused_early d u key caller h

/-- a caller header map with a protocol-owned key is refused before any network activity -/
theorem protocol_headers_not_overridable (d : DCfg) (u : Url) (key : Bytes) (caller : Client.Hdr) (k : Bytes) (vs : List Bytes)
    (hu : (u.scheme = strBytes "ws" ∨ u.scheme = strBytes "wss") ∧ u.hasUser = false)
    (hk : (k, vs) ∈ caller) (hf : forbidden d k = true) (hh : k ≠ strBytes "Host") :
    buildRequest d u key caller = .error .duplicateHeader :=
  RequestLogic.protocol_headers_not_overridable d u key caller k vs hu hk hf hh

/-- stale_accept_refused: an Accept computed for any other key is refused (unless SHA-1 collides) -/
theorem stale_accept_refused (key key' : Bytes) (r : Reply)
    (ha : r.get "Sec-Websocket-Accept" = Spec.acceptKey Gen.keyGUID key')
    (hne : Spec.acceptKey Gen.keyGUID key' ≠ Spec.acceptKey Gen.keyGUID key) :
    checkReply key r = .error .badHandshake := by
  unfold checkReply
  rw [ha]
  simp [hne]

/-- the reply check and the list of protocol-owned headers in today's DialContext are the modelled ones -/
theorem dial_checks_as_modelled :
    Gen.dialChecks =
      ["resp.StatusCode != 101",
       "!tokenListContainsValue(resp.Header, \"Upgrade\", \"websocket\")",
       "!tokenListContainsValue(resp.Header, \"Connection\", \"upgrade\")",
       "resp.Header.Get(\"Sec-Websocket-Accept\") != computeAcceptKey(challengeKey)",
       "forbidden: ck == \"Upgrade\"", "forbidden: ck == \"Connection\"", "forbidden: ck == \"Sec-Websocket-Key\"",
       "forbidden: ck == \"Sec-Websocket-Version\"", "forbidden: ck == \"Sec-Websocket-Extensions\"",
       "forbidden: (ck == \"Sec-Websocket-Protocol\" && len(d.Subprotocols) > 0)"] := rfl

open WS.RequestLogic
/-- request_headers: whenever the request is assembled the protocol-owned headers carry the
    protocol's values — Upgrade: websocket, Connection: Upgrade, the key of this dial, version 13 -/
theorem request_headers (d : DCfg) (u : Url) (key : Bytes) (caller : Client.Hdr) (host : Bytes) (h : Client.Hdr)
    (hok : buildRequest d u key caller = .ok (host, h))
    (hcan : ∀ p ∈ caller, p.1 ≠ strBytes "Upgrade" ∧ p.1 ≠ strBytes "Connection" ∧ p.1 ≠ strBytes "Sec-WebSocket-Key" ∧
        p.1 ≠ strBytes "Sec-WebSocket-Version" ∧ p.1 ≠ strBytes "Sec-WebSocket-Extensions") :
    lookup h (strBytes "Upgrade") = some [strBytes "websocket"] ∧
    lookup h (strBytes "Connection") = some [strBytes "Upgrade"] ∧
    lookup h (strBytes "Sec-WebSocket-Key") = some [key] ∧
    lookup h (strBytes "Sec-WebSocket-Version") = some [strBytes "13"] :=
  RequestLogic.request_headers d u key caller host h hok hcan

/-- the permessage-deflate offer is present exactly when compression is enabled -/
theorem offer_iff_enabled (d : DCfg) (u : Url) (key : Bytes) (caller : Client.Hdr) (host : Bytes) (h : Client.Hdr)
    (hok : buildRequest d u key caller = .ok (host, h))
    (hcan : ∀ p ∈ caller, p.1 ≠ strBytes "Sec-WebSocket-Extensions") :
    (lookup h (strBytes "Sec-WebSocket-Extensions")).isSome = d.enableCompression :=
  RequestLogic.offer_iff_enabled d u key caller host h hok hcan

/-- Host comes from the URL unless the caller overrides it -/
theorem host_from_url_or_override (d : DCfg) (u : Url) (key : Bytes) (caller : Client.Hdr) (host : Bytes) (h : Client.Hdr)
    (hok : buildRequest d u key caller = .ok (host, h))
    (hno : ∀ p ∈ caller, canonicalKey p.1 ≠ strBytes "Host") : host = u.host :=
  RequestLogic.host_from_url_or_override d u key caller host h hok hno

/-- regression sentinel for F9: every capitalisation of a protocol-owned name canonicalises to the spelling the duplicate check refuses -/
theorem canonical_catches_rfc_spelling :
    canonicalKey (strBytes "Sec-WebSocket-Version") = strBytes "Sec-Websocket-Version" ∧
    canonicalKey (strBytes "UPGRADE") = strBytes "Upgrade" ∧
    canonicalKey (strBytes "sec-websocket-key") = strBytes "Sec-Websocket-Key" ∧
    canonicalKey (strBytes "connection") = strBytes "Connection" ∧
    canonicalKey (strBytes "SEC-WEBSOCKET-EXTENSIONS") = strBytes "Sec-Websocket-Extensions" :=
  RequestLogic.canonical_catches_rfc_spelling 

section NonVacuity
set_option linter.defProp false

/-- the challenge key of RFC 6455 §1.3 -/
def witKey : Bytes := strBytes "dGhlIHNhbXBsZSBub25jZQ=="
/-- another well-formed challenge key (the key of an earlier dial) -/
def witKeyOld : Bytes := strBytes "x3JJHMbDL1EzLkh9GBhXDw=="

/-- the Accept value of `witKey` (RFC 6455 §1.3) -/
def witAccept_rfc : Spec.acceptKey Gen.keyGUID witKey = strBytes "s3pPLMBiTxaQ9kYGzzhZRbK+xOo=" := accept_rfc_vector
/-- the Accept value of `witKeyOld` -/
def witAccept_old : Spec.acceptKey Gen.keyGUID witKeyOld = strBytes "HSmrc0sMlYUkAGmm5OPpG2HaGWk=" := by decide +kernel

/-- the server's reply of RFC 6455 §1.3, with subprotocol and a permessage-deflate answer (resp.Header has canonical keys) -/
def witReply : Reply :=
  { status := 101,
    hdr := [(strBytes "Upgrade", [strBytes "websocket"]),
            (strBytes "Connection", [strBytes "Upgrade"]),
            (strBytes "Sec-Websocket-Accept", [strBytes "s3pPLMBiTxaQ9kYGzzhZRbK+xOo="]),
            (strBytes "Sec-Websocket-Protocol", [strBytes "superchat"]),
            (strBytes "Sec-Websocket-Extensions", [strBytes "permessage-deflate; server_no_context_takeover; client_no_context_takeover"])] }

/-- the parsed extension of `witReply` -/
def witExt : Ext :=
  [([], strBytes "permessage-deflate"), (strBytes "server_no_context_takeover", []), (strBytes "client_no_context_takeover", [])]

/-- the permessage-deflate answer of `witReply` is `witExt` (by `parse_offer`) -/
def witReply_deflate :
    (parseExtensions (witReply.values "Sec-Websocket-Extensions")).find? (fun e => e.name == strBytes "permessage-deflate")
      = some witExt := by
  have hv : witReply.values "Sec-Websocket-Extensions" = [Agree.offerLit] := by
    unfold witReply Agree.offerLit
    repeat rw [strBytes_ofList]
    decide +kernel
  rw [hv, parse_offer]
  simp [witExt, Ext.name]

/-- witness for `dial_iff`: the five conditions hold for the RFC reply and the RFC key -/
def witReply_conds :
    witReply.status = 101 ∧
    tokenListContainsValue (witReply.values "Upgrade") (strBytes "websocket") = true ∧
    tokenListContainsValue (witReply.values "Connection") (strBytes "upgrade") = true ∧
    witReply.get "Sec-Websocket-Accept" = Spec.acceptKey Gen.keyGUID witKey ∧
    (∀ e, (parseExtensions (witReply.values "Sec-Websocket-Extensions")).find? (fun e => e.name == strBytes "permessage-deflate") = some e →
       e.has (strBytes "server_no_context_takeover") = true ∧ e.has (strBytes "client_no_context_takeover") = true) := by
  refine ⟨rfl, by decide +kernel, by decide +kernel, ?_, ?_⟩
  · rw [witAccept_rfc]; decide +kernel
  · intro e h
    have h0 : (parseExtensions (witReply.values "Sec-Websocket-Extensions")).find? (fun e => e.name == strBytes "permessage-deflate")
        = some witExt := by decide +kernel
    rw [h0] at h
    cases h
    decide +kernel

/-- non-vacuity of `dial_iff` (right to left): the right-hand side is satisfiable by a realistic 101
    reply, hence the reply is accepted -/
example : ∃ d, checkReply witKey witReply = .ok d := (dial_iff witKey witReply).2 witReply_conds

/-- non-vacuity of `dial_iff`, concretely: the RFC reply is accepted with compression on and
    subprotocol "superchat" -/
example : checkReply witKey witReply = .ok { compress := true, subprotocol := strBytes "superchat" } := by
  have hp : witReply.get "Sec-Websocket-Protocol" = strBytes "superchat" := by decide +kernel
  refine (checkReply_eq_ok ..).mpr ⟨⟨witReply_conds.1, witReply_conds.2.1, witReply_conds.2.2.1, witReply_conds.2.2.2.1⟩,
    witReply_conds.2.2.2.2, ?_⟩
  rw [witReply_deflate, hp]
  rfl

/-- an `Except` value that evaluates to `.ok a` is `.ok a` (lets the kernel run `buildRequest`) -/
def witOkOf {ε α : Type} [DecidableEq α] (x : Except ε α) (a : α)
    (h : (match x with | .ok a' => decide (a' = a) | .error _ => false) = true) : x = .ok a := by
  cases x with
  | ok a' => simpa using h
  | error e => simp at h

/-- a Dialer offering two subprotocols, compression enabled -/
def witD : DCfg := { subprotocols := [strBytes "chat", strBytes "superchat"], enableCompression := true }
/-- ws://example.com/chat -/
def witUrl : Url := { scheme := strBytes "ws", host := strBytes "example.com", hasUser := false }
/-- the caller's requestHeader: an Origin and a Cookie -/
def witCaller : Client.Hdr :=
  [(strBytes "Origin", [strBytes "http://example.com"]), (strBytes "Cookie", [strBytes "session=abc123"])]
/-- the header map of the request that is sent -/
def witHdr : Client.Hdr :=
  [(strBytes "Upgrade", [strBytes "websocket"]), (strBytes "Connection", [strBytes "Upgrade"]),
   (strBytes "Sec-WebSocket-Key", [witKey]), (strBytes "Sec-WebSocket-Version", [strBytes "13"]),
   (strBytes "Sec-WebSocket-Protocol", [strBytes "chat, superchat"]),
   (strBytes "Origin", [strBytes "http://example.com"]), (strBytes "Cookie", [strBytes "session=abc123"]),
   (strBytes "Sec-WebSocket-Extensions", [strBytes "permessage-deflate; server_no_context_takeover; client_no_context_takeover"])]

/-- witness for `request_headers`, `offer_iff_enabled`, `host_from_url_or_override`: the request for
    ws://example.com/chat with the RFC key and the caller's Origin and Cookie is assembled -/
def witBuild_ok : buildRequest witD witUrl witKey witCaller = .ok (strBytes "example.com", witHdr) :=
  witOkOf _ _ (by decide +kernel)

/-- non-vacuity of `request_headers`: both hypotheses hold for the ws://example.com/chat dial, and the theorem applies -/
example : lookup witHdr (strBytes "Upgrade") = some [strBytes "websocket"] ∧
    lookup witHdr (strBytes "Connection") = some [strBytes "Upgrade"] ∧
    lookup witHdr (strBytes "Sec-WebSocket-Key") = some [witKey] ∧
    lookup witHdr (strBytes "Sec-WebSocket-Version") = some [strBytes "13"] :=
  request_headers witD witUrl witKey witCaller _ witHdr witBuild_ok (by decide +kernel)

/-- non-vacuity of `offer_iff_enabled`: both hypotheses hold for the same dial (compression enabled, offer present) -/
example : (lookup witHdr (strBytes "Sec-WebSocket-Extensions")).isSome = witD.enableCompression :=
  offer_iff_enabled witD witUrl witKey witCaller _ witHdr witBuild_ok (by decide +kernel)

/-- the header map sent when compression is not enabled -/
def witHdrPlain : Client.Hdr := witHdr.take 7
/-- witness for `offer_iff_enabled` (negative side): the same dial without compression -/
def witBuildPlain_ok : buildRequest { witD with enableCompression := false } witUrl witKey witCaller =
    .ok (strBytes "example.com", witHdrPlain) :=
  witOkOf _ _ (by decide +kernel)
/-- non-vacuity of `offer_iff_enabled` (negative side): no offer when compression is disabled -/
example : (lookup witHdrPlain (strBytes "Sec-WebSocket-Extensions")).isSome = false :=
  offer_iff_enabled { witD with enableCompression := false } witUrl witKey witCaller _ witHdrPlain witBuildPlain_ok (by decide +kernel)

/-- non-vacuity of `host_from_url_or_override`: the caller sets Origin and Cookie but no Host; Host is the URL's -/
example : strBytes "example.com" = witUrl.host :=
  host_from_url_or_override witD witUrl witKey witCaller _ witHdr witBuild_ok (by decide +kernel)
/-- the hypothesis `hno` of `host_from_url_or_override` matters: a caller "host" header (any spelling) overrides -/
example : ∃ h, buildRequest witD witUrl witKey ((strBytes "host", [strBytes "internal.example.net"]) :: witCaller) =
    .ok (strBytes "internal.example.net", h) :=
  have hh : hostOf witUrl ((strBytes "host", [strBytes "internal.example.net"]) :: witCaller) =
      strBytes "internal.example.net" := by decide +kernel
  ⟨_, (buildRequest_eq_ok ..).mpr ⟨⟨Or.inl rfl, rfl⟩, by decide +kernel, congrArg (·, _) hh.symm⟩⟩

/-- non-vacuity of `scheme_userinfo_refused_early` (scheme): https://example.com/chat is refused -/
example : buildRequest witD { witUrl with scheme := strBytes "https" } witKey witCaller = .error .malformedURL :=
  scheme_userinfo_refused_early _ _ _ _ (Or.inl ⟨by decide +kernel, by decide +kernel⟩)
/-- non-vacuity of `scheme_userinfo_refused_early` (userinfo): ws://user:secret@example.com/chat is refused -/
example : buildRequest witD { witUrl with hasUser := true } witKey witCaller = .error .malformedURL :=
  scheme_userinfo_refused_early _ _ _ _ (Or.inr rfl)

/-- a caller header map that tries to set the protocol version (canonical spelling, as after http.Header.Set) -/
def witCallerBad : Client.Hdr :=
  [(strBytes "Origin", [strBytes "http://example.com"]), (strBytes "Sec-Websocket-Version", [strBytes "8"])]
/-- non-vacuity of `protocol_headers_not_overridable`: all four hypotheses hold, and the dial is refused -/
example : buildRequest witD witUrl witKey witCallerBad = .error .duplicateHeader :=
  protocol_headers_not_overridable witD witUrl witKey witCallerBad (strBytes "Sec-Websocket-Version") [strBytes "8"]
    ⟨Or.inl rfl, rfl⟩ (by decide +kernel) (by decide +kernel) (by decide +kernel)
/-- non-vacuity of `protocol_headers_not_overridable` (conditional key): Sec-Websocket-Protocol is
    protocol-owned because `witD` has subprotocols -/
example : buildRequest witD witUrl witKey [(strBytes "Sec-Websocket-Protocol", [strBytes "mqtt"])] = .error .duplicateHeader :=
  protocol_headers_not_overridable witD witUrl witKey _ (strBytes "Sec-Websocket-Protocol") [strBytes "mqtt"]
    ⟨Or.inl rfl, rfl⟩ (by decide +kernel) (by decide +kernel) (by decide +kernel)

/-- a 101 whose Accept was computed for the key of an earlier dial (a replayed / cached reply) -/
def witReplyStale : Reply :=
  { status := 101,
    hdr := [(strBytes "Upgrade", [strBytes "websocket"]),
            (strBytes "Connection", [strBytes "Upgrade"]),
            (strBytes "Sec-Websocket-Accept", [strBytes "HSmrc0sMlYUkAGmm5OPpG2HaGWk="])] }
/-- witness for `stale_accept_refused`: the stale reply carries the Accept of the old key -/
def witReplyStale_accept : witReplyStale.get "Sec-Websocket-Accept" = Spec.acceptKey Gen.keyGUID witKeyOld := by
  rw [witAccept_old]; decide +kernel
/-- witness for `stale_accept_refused`: the two keys have different Accept values -/
def witAccept_ne : Spec.acceptKey Gen.keyGUID witKeyOld ≠ Spec.acceptKey Gen.keyGUID witKey := by
  rw [witAccept_old, witAccept_rfc]; decide +kernel
/-- non-vacuity of `stale_accept_refused`: both hypotheses hold for two realistic keys, and the reply is refused -/
example : checkReply witKey witReplyStale = .error .badHandshake :=
  stale_accept_refused witKey witKeyOld witReplyStale witReplyStale_accept witAccept_ne

end NonVacuity

end WS.Props.C14
