import WS.Lemmas.OverLimit
import WS.Lemmas.LimitClaimed
import WS.Lemmas.LimitHistory
import WS.Lemmas.ReaderMore
import WS.Lemmas.ReaderRejects
import WS.Lemmas.ReaderDecodes
import WS.Lemmas.ReaderLift
import WS.Lemmas.Witness
/-
  C06 — Read limit is exact, history-independent and bounds memory.
-/
namespace WS.Props.C06
open WS WS.HdrLogic WS.SrcLaw WS.ReaderRejects

/-- limit_refuses: the data frame whose header makes the running sum exceed the limit is refused
    before any byte of its payload is consumed; ErrReadLimit; a 1009 close frame is written -/
theorem limit_refuses (c : Conn) (hc : AtBoundary c) (hw : WHealthy c.w) (b0 b1 : UInt8) (rest : Bytes)
    (hclient : c.r.isServer = false) (hp : c.r.buf.pending = b0 :: b1 :: rest)
    (hok : ¬ Violates c.r.isServer c.r.nego (!c.r.final) (parseHdr b0 b1))
    (hdata : (parseHdr b0 b1).opcode ≤ 2) (hlen : (parseHdr b0 b1).len7 < 126)
    (hlim : 0 < c.r.limit) (hsum : 0 ≤ c.r.length) (hsmall : c.r.length < 2 ^ 62)
    (hover : c.r.limit < sumBase c (parseHdr b0 b1) + (parseHdr b0 b1).len7) :
    ∃ c', advanceFrame c = (.error .readLimit, c') ∧ c'.r.buf.pending = rest ∧ c'.r.hlog = c.r.hlog ∧
      c'.w.wire = c.w.wire ++ closeFrameBytes c.w (closePayload 1009 []) ∧ c'.w.writeErr = some .closeSent :=
  ReaderRejects.limit_refuses_small c hc hw b0 b1 rest hclient hp hok hdata hlen hlim hsum hsmall hover

/-- history independence (regression sentinel for finding F2): a text / binary frame within the limit
    is admitted whatever running sum an abandoned earlier message left behind -/
theorem new_message_restarts_sum (c : Conn) (hc : AtBoundary c) (b0 b1 : UInt8) (rest : Bytes)
    (hclient : c.r.isServer = false) (hp : c.r.buf.pending = b0 :: b1 :: rest)
    (hok : ¬ Violates c.r.isServer c.r.nego (!c.r.final) (parseHdr b0 b1))
    (hdata : (parseHdr b0 b1).opcode = 1 ∨ (parseHdr b0 b1).opcode = 2) (hlen : (parseHdr b0 b1).len7 < 126)
    (hlim : ((parseHdr b0 b1).len7 : Int) ≤ c.r.limit) :
    ∃ c', advanceFrame c = (.ok (parseHdr b0 b1).opcode, c') ∧ c'.r.length = (parseHdr b0 b1).len7 ∧
      c'.r.buf.pending = rest ∧ c'.w = c.w :=
  ReaderRejects.new_message_restarts_sum c hc b0 b1 rest hclient hp hok hdata hlen hlim

/-- lengths with the top bit set are handled the same way: ErrReadLimit, nothing consumed, 1009 (F3) -/
theorem limit_topbit (c : Conn) (hc : AtBoundary c) (hw : WHealthy c.w) (b0 b1 : UInt8) (ext rest : Bytes)
    (hp : c.r.buf.pending = b0 :: b1 :: ext ++ rest) (hext : ext.length = 8)
    (hok : ¬ Violates c.r.isServer c.r.nego (!c.r.final) (parseHdr b0 b1))
    (h127 : (parseHdr b0 b1).len7 = 127) (htop : 2 ^ 63 ≤ beVal ext) :
    ∃ c', advanceFrame c = (.error .readLimit, c') ∧ c'.r.hlog = c.r.hlog ∧ c'.r.buf.pending = rest ∧
      c'.w.wire = c.w.wire ++ closeFrameBytes c.w (closePayload 1009 []) ∧ c'.w.writeErr = some .closeSent :=
  ReaderRejects.topbit_length_rejected c hc hw b0 b1 ext rest hp hext hok h127 htop

open WS.ReaderDecodes in
/-- limit_admits: with a limit L > 0 a conformant message whose data frames sum to at most L is read
    in full, whatever its fragmentation, interleaved control frames (not counted) and read sizes -/
theorem limit_admits (c : Conn) (hc : ReaderIdle c) (t : Nat) (ht : t = 1 ∨ t = 2) (fs : List PFrame)
    (hs : MsgShape t fs) (rest : Bytes)
    (hp : c.r.buf.pending = encAll c.r.isServer fs ++ rest)
    (hend : c.r.buf.t.together = false ∨ rest ≠ [])
    (hsz : (dataPayload fs).length < 2 ^ 62)
    (hlim : ((dataPayload fs).length : Int) ≤ c.r.limit)
    (k : Nat) (hk : 0 < k) :
    ∃ c1 rid, nextReader c = (.msg t rid false, c1) ∧
      ∃ c2, readAll c1 rid k = ((dataPayload fs, none), c2) ∧ ReaderIdle c2 ∧ c2.r.buf.pending = rest :=  by
  obtain ⟨c1, rid, h1, c2, h2, h3, h4, _⟩ := ReaderDecodes.read_message c hc t ht fs hs rest hp hend hsz (Or.inr hlim) k hk
  exact ⟨c1, rid, h1, c2, h2, h3, h4⟩

/-- memory: skipping the remainder of a frame reads at most 8192 bytes at a time whatever length the
    header claimed (io.CopyN to io.Discard); control payloads are at most 125 bytes -/
theorem skip_chunk_bounded (n : Nat) : min 8192 n ≤ 8192 := Nat.min_le_left _ _

open WS.Codec WS.ReaderDecodes WS.ReaderLift
/-- limit at the API: NextReader on an over-limit single-frame message returns ErrReadLimit without
    consuming a payload byte, and the 1009 close frame is on the wire -/
theorem nextReader_over_limit (c : Conn) (hc : ReaderIdle c) (hw : WHealthy c.w) (hclient : c.r.isServer = false)
    (t : Nat) (ht : t = 1 ∨ t = 2) (payload rest : Bytes) (hl : payload.length < 126)
    (hp : c.r.buf.pending = [UInt8.ofNat (128 + t), UInt8.ofNat payload.length] ++ payload ++ rest)
    (hlim : 0 < c.r.limit) (hover : c.r.limit < payload.length) :
    ∃ c', nextReader c = (if c.r.errCount + 1 ≥ 1000 then NRRes.panic else .err .readLimit, c') ∧
      c'.r.readErr = some .readLimit ∧
      c'.r.buf.pending = payload ++ rest ∧
      c'.w.wire = c.w.wire ++ closeFrameBytes c.w (closePayload 1009 []) :=
  ReaderLift.nextReader_over_limit_total c hc hw hclient t ht payload rest hl hp hlim hover

open WS.ReaderMore in
theorem nextReader_over_limit_reachable (c : Conn) (hc : ReaderIdle c) (hi : CountInv c) (hw : WHealthy c.w) (hclient : c.r.isServer = false)
    (t : Nat) (ht : t = 1 ∨ t = 2) (payload rest : Bytes) (hl : payload.length < 126)
    (hp : c.r.buf.pending = [UInt8.ofNat (128 + t), UInt8.ofNat payload.length] ++ payload ++ rest)
    (hlim : 0 < c.r.limit) (hover : c.r.limit < payload.length) :
    ∃ c', nextReader c = (.err .readLimit, c') ∧ c'.r.readErr = some .readLimit ∧
      c'.r.buf.pending = payload ++ rest ∧
      c'.w.wire = c.w.wire ++ closeFrameBytes c.w (closePayload 1009 []) :=
  ReaderMore.nextReader_over_limit_reach c hc hi hw hclient t ht payload rest hl hp hlim hover

open WS.ReaderMore in
/-- the limit inside a fragmented message: the continuation frame (final or not) that takes the
    running sum over the limit is refused by the Read that meets it — ErrReadLimit, no byte
    delivered, no payload byte consumed, 1009 close frame written -/
theorem read_over_limit_mid_message (c : Conn) (rid : Nat) (hc : MidMessage c rid) (hw : WHealthy c.w)
    (hclient : c.r.isServer = false) (fin : Bool) (payload rest : Bytes) (hl : payload.length < 126)
    (hp : c.r.buf.pending = [UInt8.ofNat (if fin then 128 else 0), UInt8.ofNat payload.length] ++ payload ++ rest)
    (hlim : 0 < c.r.limit) (hsum : 0 ≤ c.r.length) (hsmall : c.r.length < 2 ^ 62)
    (hover : c.r.limit < c.r.length + payload.length) (k : Nat) (hk : 0 < k) :
    ∃ c', mrRead c rid k = (([], some .readLimit), c') ∧ c'.r.readErr = some .readLimit ∧
      c'.r.buf.pending = payload ++ rest ∧
      c'.w.wire = c.w.wire ++ closeFrameBytes c.w (closePayload 1009 []) :=
  ReaderMore.read_over_limit_mid_message c rid hc hw hclient fin payload rest hl hp hlim hsum hsmall hover k hk

open WS.ReaderMore in
/-- the running sum is the sum of the frame lengths of the current message: an accepted data frame
    adds exactly its length, a text/binary frame restarts the sum -/
theorem accepted_frame_adds_length (c : Conn) (hc : AtBoundary c) (b0 b1 : UInt8) (rest : Bytes)
    (hclient : c.r.isServer = false) (hp : c.r.buf.pending = b0 :: b1 :: rest)
    (hok : ¬ Violates c.r.isServer c.r.nego (!c.r.final) (parseHdr b0 b1))
    (hdata : (parseHdr b0 b1).opcode ≤ 2) (hlen : (parseHdr b0 b1).len7 < 126)
    (hsum : 0 ≤ c.r.length) (hsmall : c.r.length < 2 ^ 62)
    (hunder : c.r.limit ≤ 0 ∨ sumBase c (parseHdr b0 b1) + (parseHdr b0 b1).len7 ≤ c.r.limit) :
    ∃ res c', advanceFrame c = (res, c') ∧ (∀ e, res ≠ .error e) ∧
      c'.r.length = sumBase c (parseHdr b0 b1) + (parseHdr b0 b1).len7 :=
  ReaderMore.accepted_frame_adds_length c hc b0 b1 rest hclient hp hok hdata hlen hsum hsmall hunder

open WS.Codec WS.ReaderDecodes WS.ReaderMore WS.RoleGeneric in
/-- limit_refuses for either role (masked or unmasked frames), the 7-bit and the 16-bit length encoding
    (payloads below 2^16), first frame or continuation; needs a healthy write side for the 1009 frame -/
theorem limit_refuses_any_role (c : Conn) (hc : AtBoundary c) (hw : WHealthy c.w)
    (op : Nat) (fin : Bool) (key : Key) (payload rest : Bytes) (hl : payload.length < 65536)
    (hop : (c.r.final = true ∧ (op = 1 ∨ op = 2)) ∨ (c.r.final = false ∧ op = 0))
    (hp : c.r.buf.pending = PFrame.enc c.r.isServer ⟨op, fin, key, payload⟩ ++ rest)
    (hlim : 0 < c.r.limit) (hsum : 0 ≤ c.r.length) (hsmall : c.r.length < 2 ^ 62)
    (hover : c.r.limit < (if op = 0 then c.r.length else 0) + payload.length) :
    ∃ c', advanceFrame c = (.error .readLimit, c') ∧
      c'.r.buf.pending = (if c.r.isServer then maskFrom key 0 payload else payload) ++ rest ∧
      c'.r.hlog = c.r.hlog ∧
      c'.w.wire = c.w.wire ++ closeFrameBytes c.w (closePayload 1009 []) ∧ c'.w.writeErr = some .closeSent :=
  RoleGeneric.limit_refuses_any c hc hw op fin key payload rest hl hop hp hlim hsum hsmall hover

open WS.Codec WS.ReaderDecodes WS.ReaderMore WS.RoleGeneric in
theorem nextReader_over_limit_any_role (c : Conn) (hc : ReaderIdle c) (hi : CountInv c) (hw : WHealthy c.w)
    (t : Nat) (ht : t = 1 ∨ t = 2) (fin : Bool) (key : Key) (payload rest : Bytes) (hl : payload.length < 65536)
    (hp : c.r.buf.pending = PFrame.enc c.r.isServer ⟨t, fin, key, payload⟩ ++ rest)
    (hlim : 0 < c.r.limit) (hover : c.r.limit < payload.length) :
    ∃ c', nextReader c = (.err .readLimit, c') ∧ c'.r.readErr = some .readLimit ∧
      c'.w.wire = c.w.wire ++ closeFrameBytes c.w (closePayload 1009 []) :=
  RoleGeneric.nextReader_over_limit_any c hc hi hw t ht fin key payload rest hl hp hlim hover


open WS.Codec WS.SrcLaw WS.HdrLogic WS.ReaderDecodes WS.ReaderRejects WS.ReaderLift WS.ReaderMore WS.RoleGeneric WS.LimitClaimed

/-- the limit against every length a header can CLAIM: 7-bit, 16-bit and 64-bit encodings (minimal or
    not), any claimed length below 2^63, any running sum — including sums that leave the int64 range
    (the Go code adds int64s; the model wraps with `wrap64`). The data frame whose claimed length takes
    the message over the limit in the mathematical integers is refused as soon as its header has
    arrived — nothing of the payload needs to be there: ErrReadLimit, exactly the header consumed, no
    handler run, a 1009 close frame written. Either role, first frame or continuation. -/
theorem limit_refuses_claimed (c : Conn) (hc : AtBoundary c) (hw : WHealthy c.w)
    (b0 b1 : UInt8) (ext keyb rest : Bytes)
    (hok : ¬ Violates c.r.isServer c.r.nego (!c.r.final) (parseHdr b0 b1))
    (hdata : (parseHdr b0 b1).opcode ≤ 2)
    (hext : ext.length = extLen (parseHdr b0 b1))
    (hkey : keyb.length = if (parseHdr b0 b1).mask then 4 else 0)
    (hp : c.r.buf.pending = b0 :: b1 :: (ext ++ keyb ++ rest))
    (hL : claimed (parseHdr b0 b1) ext < 2 ^ 63)
    (hsum : 0 ≤ c.r.length) (hsum' : c.r.length < 2 ^ 63)
    (hlim : 0 < c.r.limit)
    (hover : c.r.limit < sumBase c (parseHdr b0 b1) + (claimed (parseHdr b0 b1) ext : Int)) :
    ∃ c', advanceFrame c = (.error .readLimit, c') ∧ c'.r.buf.pending = rest ∧ c'.r.hlog = c.r.hlog ∧
      c'.w.wire = c.w.wire ++ closeFrameBytes c.w (closePayload 1009 []) ∧ c'.w.writeErr = some .closeSent :=
  WS.LimitClaimed.limit_refuses_claimed c hc hw b0 b1 ext keyb rest hok hdata hext hkey hp hL hsum hsum' hlim hover

/-- a 64-bit length with the top bit set is refused the same way whatever the limit (even none),
    before the masking key is read -/
theorem topbit_refused_claimed (c : Conn) (hc : AtBoundary c) (hw : WHealthy c.w)
    (b0 b1 : UInt8) (ext rest : Bytes)
    (hok : ¬ Violates c.r.isServer c.r.nego (!c.r.final) (parseHdr b0 b1))
    (h127 : (parseHdr b0 b1).len7 = 127) (hext : ext.length = 8)
    (hp : c.r.buf.pending = b0 :: b1 :: (ext ++ rest))
    (hL : 2 ^ 63 ≤ beVal ext) :
    ∃ c', advanceFrame c = (.error .readLimit, c') ∧ c'.r.buf.pending = rest ∧ c'.r.hlog = c.r.hlog ∧
      c'.w.wire = c.w.wire ++ closeFrameBytes c.w (closePayload 1009 []) :=
  WS.LimitClaimed.topbit_refused_claimed c hc hw b0 b1 ext rest hok h127 hext hp hL

/-- API level: NextReader on an idle reader meeting such a first frame returns ErrReadLimit, latches
    it, and the 1009 frame is on the wire -/
theorem nextReader_over_limit_claimed (c : Conn) (hc : ReaderIdle c) (hi : CountInv c) (hw : WHealthy c.w)
    (b0 b1 : UInt8) (ext keyb rest : Bytes)
    (hok : ¬ Violates c.r.isServer c.r.nego false (parseHdr b0 b1))
    (hdata : (parseHdr b0 b1).opcode = 1 ∨ (parseHdr b0 b1).opcode = 2)
    (hext : ext.length = extLen (parseHdr b0 b1))
    (hkey : keyb.length = if (parseHdr b0 b1).mask then 4 else 0)
    (hp : c.r.buf.pending = b0 :: b1 :: (ext ++ keyb ++ rest))
    (hL : claimed (parseHdr b0 b1) ext < 2 ^ 63)
    (hlim : 0 < c.r.limit) (hover : c.r.limit < (claimed (parseHdr b0 b1) ext : Int)) :
    ∃ c', nextReader c = (.err .readLimit, c') ∧ c'.r.readErr = some .readLimit ∧
      c'.w.wire = c.w.wire ++ closeFrameBytes c.w (closePayload 1009 []) :=
  WS.LimitClaimed.nextReader_over_limit_claimed c hc hi hw b0 b1 ext keyb rest hok hdata hext hkey hp hL hlim hover


open WS.Codec WS.ReaderDecodes WS.LimitHistory in
/-- history independence at the message level (the first sentence of C06; regression statement for
    finding F2): with a limit L > 0 in force, a message within the limit that the application
    abandons after reads of any sizes — none, some, to the end or beyond — is followed by the next
    message within the limit being read IN FULL, whatever the two fragmentations, interleaved control
    frames, role, bufio size and transport chunking; the limit itself is unchanged -/
theorem abandon_then_next_limited (c : Conn) (hc : ReaderIdle c) (t1 t2 : Nat) (ht1 : t1 = 1 ∨ t1 = 2) (ht2 : t2 = 1 ∨ t2 = 2)
    (fs1 fs2 : List PFrame) (hs1 : MsgShape t1 fs1) (hs2 : MsgShape t2 fs2) (rest : Bytes)
    (hp : c.r.buf.pending = encAll c.r.isServer fs1 ++ encAll c.r.isServer fs2 ++ rest)
    (hend : c.r.buf.t.together = false ∨ rest ≠ [])
    (hsz : (dataPayload fs1).length < 2 ^ 62 ∧ (dataPayload fs2).length < 2 ^ 62)
    (hL : 0 < c.r.limit)
    (h1 : ((dataPayload fs1).length : Int) ≤ c.r.limit) (h2 : ((dataPayload fs2).length : Int) ≤ c.r.limit)
    (reads : List Nat) (k : Nat) (hk : 0 < k) :
    ∃ c1 rid1, nextReader c = (.msg t1 rid1 false, c1) ∧
      ∃ c3 rid2, nextReader (partialReads c1 rid1 reads) = (.msg t2 rid2 false, c3) ∧
        ∃ c4, readAll c3 rid2 k = ((dataPayload fs2, none), c4) ∧ ReaderIdle c4 ∧ c4.r.buf.pending = rest ∧
          c4.r.hlog = c.r.hlog ++ ctlEvents fs1 ++ ctlEvents fs2 ∧ c4.r.limit = c.r.limit :=
  WS.LimitHistory.abandon_then_next_limited c hc t1 t2 ht1 ht2 fs1 fs2 hs1 hs2 rest hp hend hsz hL h1 h2 reads k hk

open WS.Codec WS.ReaderDecodes WS.LimitHistory in
/-- … for ANY NUMBER of earlier messages, each within the limit and each treated by the application in
    any way (`readss`: one list of read sizes per message; `touchMsgs` is the plain loop "NextReader,
    then Reads of these sizes, results discarded"): the next message of at most L payload bytes is read
    in full. The running sum of an earlier message never counts against a later one. -/
theorem limit_history_independent (c : Conn) (hc : ReaderIdle c) (hL : 0 < c.r.limit)
    (msgs : List (Nat × List PFrame))
    (hm : ∀ m ∈ msgs, (m.1 = 1 ∨ m.1 = 2) ∧ MsgShape m.1 m.2 ∧ (dataPayload m.2).length < 2 ^ 62 ∧
            ((dataPayload m.2).length : Int) ≤ c.r.limit)
    (readss : List (List Nat)) (hr : readss.length = msgs.length)
    (t : Nat) (ht : t = 1 ∨ t = 2) (fs : List PFrame) (hs : MsgShape t fs)
    (hsz : (dataPayload fs).length < 2 ^ 62) (hfit : ((dataPayload fs).length : Int) ≤ c.r.limit)
    (rest : Bytes)
    (hp : c.r.buf.pending = (msgs.map (fun m => encAll c.r.isServer m.2)).flatten ++ encAll c.r.isServer fs ++ rest)
    (hend : c.r.buf.t.together = false ∨ rest ≠ []) (k : Nat) (hk : 0 < k) :
    ∃ c1 rid, nextReader (touchMsgs readss c) = (.msg t rid false, c1) ∧
      ∃ c2, readAll c1 rid k = ((dataPayload fs, none), c2) ∧ ReaderIdle c2 ∧ c2.r.buf.pending = rest ∧
        c2.r.hlog = c.r.hlog ++ (msgs.map (fun m => ctlEvents m.2)).flatten ++ ctlEvents fs :=
  WS.LimitHistory.limit_history_independent c hc hL msgs hm readss hr t ht fs hs hsz hfit rest hp hend k hk

open WS.Codec WS.ReaderDecodes WS.Sequences WS.LimitHistory in
/-- any number of messages, each within the limit (their total far above it), all read in full, in order -/
theorem read_messages_limited (c : Conn) (hc : ReaderIdle c) (msgs : List (Nat × List PFrame))
    (hm : ∀ m ∈ msgs, (m.1 = 1 ∨ m.1 = 2) ∧ MsgShape m.1 m.2 ∧ (dataPayload m.2).length < 2 ^ 62 ∧
            ((dataPayload m.2).length : Int) ≤ c.r.limit)
    (rest : Bytes)
    (hp : c.r.buf.pending = (msgs.map (fun m => encAll c.r.isServer m.2)).flatten ++ rest)
    (hend : c.r.buf.t.together = false ∨ rest ≠ []) (k : Nat) (hk : 0 < k) :
    ∃ c', readMsgs k msgs.length c = (msgs.map (fun m => (m.1, dataPayload m.2)), c') ∧
      ReaderIdle c' ∧ c'.r.buf.pending = rest ∧
      c'.r.hlog = c.r.hlog ++ (msgs.map (fun m => ctlEvents m.2)).flatten :=
  WS.LimitHistory.read_messages_limited c hc msgs hm rest hp hend k hk

open WS.Codec WS.ReaderDecodes WS.CutLogic WS.ReaderMore in
/-- the second sentence of C06 at the message level: a message exceeding the read limit L > 0 can never
    be read in full — NextReader or one of the Reads fails with ErrReadLimit, and what was delivered
    before is a prefix of the payload of at most L bytes — whatever the fragmentation, interleaved
    control frames, role, chunking, bufio size and read size (`openAndRead`: NextReader, then Reads of
    size k to the end or the first error) -/
theorem over_limit_never_complete (c : Conn) (hc : ReaderIdle c) (t : Nat) (ht : t = 1 ∨ t = 2)
    (fs : List PFrame) (hs : MsgShape t fs) (rest : Bytes)
    (hp : c.r.buf.pending = encAll c.r.isServer fs ++ rest)
    (hend : c.r.buf.t.together = false ∨ rest ≠ [])
    (hsz : (dataPayload fs).length < 2 ^ 62)
    (hL : 0 < c.r.limit) (hover : c.r.limit < ((dataPayload fs).length : Int))
    (hcnt : c.r.errCount + 1 < 1000) (k : Nat) (hk : 0 < k) :
    openAndRead c k = .failedOpen .readLimit ∨
    (∃ got, openAndRead c k = .failedRead t got .readLimit ∧ got <+: dataPayload fs ∧
        (got.length : Int) ≤ c.r.limit) :=
  WS.OverLimit.over_limit_never_complete c hc t ht fs hs rest hp hend hsz hL hover hcnt k hk

section NonVacuity
set_option linter.defProp false
open WS WS.HdrLogic WS.SrcLaw WS.ReaderRejects WS.Codec WS.ReaderDecodes WS.ReaderLift WS.ReaderMore

/-- a client connection with read limit 128, in the middle of a fragmented message of which 100
    bytes have been counted (message reader 2 current); pending: a final continuation frame of 64
    bytes (header 0x80 0x40; only the first payload bytes have arrived), which takes the sum to 164 -/
def witMid : Conn :=
  { w := Witness.cliW,
    r := { isServer := false, nego := false, limit := 128, length := 100, final := false,
           msgReader := some 2, nextId := 3,
           buf := { size := 4096, buf := [0x80, 0x40, 0x61], t := { chunks := [[0x62, 0x63]] }, total := 66 } } }

def witMid_wf : WF witMid.r.buf := ⟨by decide, by decide, by decide, (by intro e h; cases h)⟩
def witMid_atBoundary : AtBoundary witMid := ⟨rfl, rfl, witMid_wf, by decide⟩
def witMid_pending : witMid.r.buf.pending = 0x80 :: 0x40 :: [0x61, 0x62, 0x63] := by decide
def witMid_ok : ¬ Violates witMid.r.isServer witMid.r.nego (!witMid.r.final) (parseHdr 0x80 0x40) := by
  rw [← headerErrors_nil_iff]; decide

/-- non-vacuity of `limit_refuses`: all eleven hypotheses hold for `witMid` (100 + 64 > 128) -/
example : ∃ c', advanceFrame witMid = (.error .readLimit, c') ∧ c'.r.buf.pending = [0x61, 0x62, 0x63] ∧ c'.r.hlog = witMid.r.hlog ∧
      c'.w.wire = witMid.w.wire ++ closeFrameBytes witMid.w (closePayload 1009 []) ∧ c'.w.writeErr = some .closeSent :=
  limit_refuses witMid witMid_atBoundary ⟨rfl, rfl⟩ 0x80 0x40 _ rfl witMid_pending witMid_ok
    (by decide) (by decide) (by decide) (by decide) (by decide) (by decide)

/-- the same situation with read limit 101 and the complete frame pending: a final continuation
    frame carrying "abc" (100 + 3 > 101), followed by a ping -/
def witMid2 : Conn :=
  { w := Witness.cliW,
    r := { isServer := false, nego := false, limit := 101, length := 100, final := false,
           msgReader := some 2, nextId := 3,
           buf := { size := 4096, buf := [0x80, 0x03, 0x61], t := { chunks := [[0x62, 0x63, 0x89, 0x00]] }, total := 7 } } }

def witMid2_mid : MidMessage witMid2 2 :=
  ⟨rfl, rfl, rfl, rfl, ⟨by decide, by decide, by decide, (by intro e h; cases h)⟩, by decide, by decide⟩

/-- non-vacuity of `read_over_limit_mid_message`: `MidMessage`, `WHealthy`, the pending bytes in the
    shape header ++ payload ++ rest and the limit hypotheses hold together for `witMid2` -/
example : ∃ c', mrRead witMid2 2 512 = (([], some .readLimit), c') ∧ c'.r.readErr = some .readLimit ∧
      c'.r.buf.pending = [0x61, 0x62, 0x63] ++ [0x89, 0x00] ∧
      c'.w.wire = witMid2.w.wire ++ closeFrameBytes witMid2.w (closePayload 1009 []) :=
  read_over_limit_mid_message witMid2 2 witMid2_mid ⟨rfl, rfl⟩ rfl true [0x61, 0x62, 0x63] [0x89, 0x00] (by decide)
    (by decide +kernel) (by decide) (by decide) (by decide) (by decide) 512 (by decide)

/-- a client connection with read limit 128 whose application abandoned the previous message after
    100 counted bytes (`length = 100` left behind, reader at a frame boundary with `final = true`);
    pending: a new final text frame of 64 bytes -/
def witAbandoned : Conn :=
  { w := Witness.cliW,
    r := { isServer := false, nego := false, limit := 128, length := 100, final := true, nextId := 3,
           buf := { size := 4096, buf := [0x81, 0x40, 0x61], t := { chunks := [[0x62, 0x63]] }, total := 66 } } }

def witAbandoned_atBoundary : AtBoundary witAbandoned :=
  ⟨rfl, rfl, ⟨by decide, by decide, by decide, (by intro e h; cases h)⟩, by decide⟩
def witAbandoned_ok : ¬ Violates witAbandoned.r.isServer witAbandoned.r.nego (!witAbandoned.r.final) (parseHdr 0x81 0x40) := by
  rw [← headerErrors_nil_iff]; decide

def witAbandoned_pending : witAbandoned.r.buf.pending = 0x81 :: 0x40 :: [0x61, 0x62, 0x63] := by decide +kernel

/-- non-vacuity of `new_message_restarts_sum` -/
example : ∃ c', advanceFrame witAbandoned = (.ok 1, c') ∧ c'.r.length = (64 : Nat) ∧
      c'.r.buf.pending = [0x61, 0x62, 0x63] ∧ c'.w = witAbandoned.w :=
  new_message_restarts_sum witAbandoned witAbandoned_atBoundary 0x81 0x40 _ rfl witAbandoned_pending witAbandoned_ok
    (Or.inl (by decide)) (by decide) (by decide)

/-- non-vacuity of `accepted_frame_adds_length` (a text frame: the sum restarts at 0 + 64 ≤ 128) … -/
example : ∃ res c', advanceFrame witAbandoned = (res, c') ∧ (∀ e, res ≠ .error e) ∧
      c'.r.length = sumBase witAbandoned (parseHdr 0x81 0x40) + (parseHdr 0x81 0x40).len7 :=
  accepted_frame_adds_length witAbandoned witAbandoned_atBoundary 0x81 0x40 _ rfl witAbandoned_pending witAbandoned_ok
    (by decide) (by decide) (by decide) (by decide) (Or.inr (by decide))

/-- … and (a continuation frame of 20 bytes inside a message: 100 + 20 ≤ 128) -/
def witMid3 : Conn :=
  { w := { newW false 4096 false false with keys := [1, 2, 3, 4] },
    r := { isServer := false, nego := false, limit := 128, length := 100, final := false,
           msgReader := some 2, nextId := 3,
           buf := { size := 4096, buf := [0x00, 0x14, 0x61], t := { chunks := [[0x62, 0x63]] }, total := 22 } } }

example : ∃ res c', advanceFrame witMid3 = (res, c') ∧ (∀ e, res ≠ .error e) ∧
      c'.r.length = sumBase witMid3 (parseHdr 0x00 0x14) + (parseHdr 0x00 0x14).len7 :=
  accepted_frame_adds_length witMid3 ⟨rfl, rfl, ⟨by decide, by decide, by decide, (by intro e h; cases h)⟩, by decide⟩
    0x00 0x14 [0x61, 0x62, 0x63] rfl (by decide +kernel) (by rw [← headerErrors_nil_iff]; decide)
    (by decide) (by decide) (by decide) (by decide) (Or.inr (by decide))

example : sumBase witMid3 (parseHdr 0x00 0x14) + (parseHdr 0x00 0x14).len7 = 120 := by decide

/-- an idle client reader with read limit 128 facing a binary frame whose 64-bit length field has the
    top bit set (0x8000000000000010), one more byte behind it -/
def witTop : Conn :=
  { w := { newW false 4096 false false with keys := [1, 2, 3, 4] },
    r := { isServer := false, nego := false, limit := 128,
           buf := { size := 4096, buf := [], t := { chunks := [[0x82, 0x7F, 0x80, 0, 0], [0, 0, 0, 0, 0x10, 0xAA]] }, total := 11 } } }

/-- non-vacuity of `limit_topbit` -/
example : ∃ c', advanceFrame witTop = (.error .readLimit, c') ∧ c'.r.hlog = witTop.r.hlog ∧ c'.r.buf.pending = [0xAA] ∧
      c'.w.wire = witTop.w.wire ++ closeFrameBytes witTop.w (closePayload 1009 []) ∧ c'.w.writeErr = some .closeSent :=
  limit_topbit witTop ⟨rfl, rfl, ⟨by decide, by decide, by decide, (by intro e h; cases h)⟩, by decide⟩ ⟨rfl, rfl⟩
    0x82 0x7F [0x80, 0, 0, 0, 0, 0, 0, 0x10] [0xAA] (by decide +kernel) rfl
    (by rw [← headerErrors_nil_iff]; decide) (by decide) (by decide)

/-- a text message "Hello" from a server in two fragments with a 3-byte ping in between -/
def witMsg : List PFrame :=
  [{ op := 1, fin := false, key := default, payload := [0x48, 0x65, 0x6c] },
   { op := 9, fin := true, key := default, payload := [1, 2, 3] },
   { op := 0, fin := true, key := default, payload := [0x6c, 0x6f] }]

def witMsg_shape : MsgShape 1 witMsg :=
  MsgShape.frag _ _ rfl rfl (by decide)
    (Tail.ctl _ _ ⟨Or.inl rfl, rfl, by decide⟩ (Tail.last _ rfl rfl (by decide)))

/-- an idle client reader with read limit exactly 5 = |"Hello"| (the ping's 3 bytes do not count);
    the transport delivers the 14 wire bytes in two chunks and then a close frame header -/
def witExact : Conn :=
  { w := Witness.cliW,
    r := { isServer := false, nego := false, limit := 5,
           buf := { size := 4096, buf := [],
                    t := { chunks := [(encAll false witMsg).take 6, (encAll false witMsg).drop 6 ++ [0x88, 0x00]] }, total := 16 } } }

def witExact_idle : ReaderIdle witExact :=
  ⟨rfl, rfl, rfl, ⟨by decide, by decide, by decide, (by intro e h; cases h)⟩, by decide, by decide,
    (by intro id h; cases h), (by intro id h; cases h)⟩

/-- non-vacuity of `limit_admits`: reads of 3 bytes -/
example : ∃ c1 rid, nextReader witExact = (.msg 1 rid false, c1) ∧
      ∃ c2, readAll c1 rid 3 = (([0x48, 0x65, 0x6c, 0x6c, 0x6f], none), c2) ∧ ReaderIdle c2 ∧ c2.r.buf.pending = [0x88, 0x00] :=
  limit_admits witExact witExact_idle 1 (Or.inl rfl) witMsg witMsg_shape [0x88, 0x00] (Witness.cut2 _ _ 6) (Or.inl rfl)
    (by decide) (by decide) 3 (by decide)

/-- an idle client reader with read limit 4 facing an unfragmented 10-byte binary message and then a ping -/
def witOver : Conn :=
  { w := Witness.cliW,
    r := { isServer := false, nego := false, limit := 4, hlog := [.ping []],
           buf := { size := 4096, buf := [0x82, 0x0A, 0, 1, 2],
                    t := { chunks := [[3, 4, 5, 6, 7, 8, 9, 0x89, 0x00]] }, total := 14 } } }

def witOver_idle : ReaderIdle witOver :=
  ⟨rfl, rfl, rfl, ⟨by decide, by decide, by decide, (by intro e h; cases h)⟩, by decide, by decide,
    (by intro id h; cases h), (by intro id h; cases h)⟩

def witOver_pending : witOver.r.buf.pending =
    [UInt8.ofNat (128 + 2), UInt8.ofNat 10] ++ [0, 1, 2, 3, 4, 5, 6, 7, 8, 9] ++ [0x89, 0x00] := by decide +kernel

/-- non-vacuity of `nextReader_over_limit` -/
example : ∃ c', nextReader witOver = (if witOver.r.errCount + 1 ≥ 1000 then NRRes.panic else .err .readLimit, c') ∧
      c'.r.readErr = some .readLimit ∧
      c'.r.buf.pending = [0, 1, 2, 3, 4, 5, 6, 7, 8, 9] ++ [0x89, 0x00] ∧
      c'.w.wire = witOver.w.wire ++ closeFrameBytes witOver.w (closePayload 1009 []) :=
  nextReader_over_limit witOver witOver_idle ⟨rfl, rfl⟩ rfl 2 (Or.inr rfl) _ _ (by decide) witOver_pending
    (by decide) (by decide)

/-- non-vacuity of `nextReader_over_limit_reachable`: additionally `CountInv` -/
example : ∃ c', nextReader witOver = (.err .readLimit, c') ∧ c'.r.readErr = some .readLimit ∧
      c'.r.buf.pending = [0, 1, 2, 3, 4, 5, 6, 7, 8, 9] ++ [0x89, 0x00] ∧
      c'.w.wire = witOver.w.wire ++ closeFrameBytes witOver.w (closePayload 1009 []) :=
  nextReader_over_limit_reachable witOver witOver_idle (fun _ => rfl) ⟨rfl, rfl⟩ rfl 2 (Or.inr rfl) _ _ (by decide)
    witOver_pending (by decide) (by decide)

/-- evaluated: the 1009 close frame (masked with the first key of the key source) is the whole wire -/
example : (nextReader witOver).2.w.wire = [0x88, 0x82, 1, 2, 3, 4, 3 ^^^ 1, 0xF1 ^^^ 2] := by decide +kernel

/-- 64 payload bytes / 200 payload bytes -/
def witP64 : Bytes := List.replicate 64 0x61
def witP200 : Bytes := List.replicate 200 0x62

/-- a SERVER connection with read limit 128, in the middle of a fragmented message of which 100 bytes
    have been counted; pending: a masked (key 37 fa 21 3d) final continuation frame of 64 bytes, delivered in
    three pieces (5 bytes buffered, then 30, then the rest plus a masked ping header): 100 + 64 > 128 -/
def witSrvMid : Conn :=
  { w := newW true 4096 false false,
    r := { isServer := true, nego := false, limit := 128, length := 100, final := false,
           msgReader := some 2, nextId := 3,
           buf := { size := 4096, buf := (PFrame.enc true ⟨0, true, ⟨0x37, 0xfa, 0x21, 0x3d⟩, witP64⟩).take 5,
                    t := { chunks := [((PFrame.enc true ⟨0, true, ⟨0x37, 0xfa, 0x21, 0x3d⟩, witP64⟩).drop 5).take 30,
                                      (PFrame.enc true ⟨0, true, ⟨0x37, 0xfa, 0x21, 0x3d⟩, witP64⟩).drop 35 ++ [0x89, 0x80]] },
                    total := 72 } } }

def witSrvMid_atBoundary : AtBoundary witSrvMid :=
  ⟨rfl, rfl, ⟨by decide, by decide, by decide, (by intro e h; cases h)⟩, by decide⟩

/-- the frame really is masked: header 80 c0 (FIN+continuation, MASK+64), then the key -/
example : witSrvMid.r.buf.pending.take 7 = [0x80, 0xC0, 0x37, 0xfa, 0x21, 0x3d, 0x61 ^^^ 0x37] := by decide +kernel

/-- non-vacuity of `limit_refuses_any_role`: all hypotheses hold for the server reader `witSrvMid`
    (masked continuation frame, running sum 100, limit 128, payload 64) -/
example : ∃ c', advanceFrame witSrvMid = (.error .readLimit, c') ∧
      c'.r.buf.pending = (if witSrvMid.r.isServer then maskFrom ⟨0x37, 0xfa, 0x21, 0x3d⟩ 0 witP64 else witP64) ++ [0x89, 0x80] ∧
      c'.r.hlog = witSrvMid.r.hlog ∧
      c'.w.wire = witSrvMid.w.wire ++ closeFrameBytes witSrvMid.w (closePayload 1009 []) ∧ c'.w.writeErr = some .closeSent :=
  limit_refuses_any_role witSrvMid witSrvMid_atBoundary ⟨rfl, rfl⟩ 0 true ⟨0x37, 0xfa, 0x21, 0x3d⟩ witP64 [0x89, 0x80]
    (by decide +kernel) (Or.inr ⟨rfl, rfl⟩) (Witness.cut3 _ _ 5 30) (by decide) (by decide) (by decide) (by decide +kernel)

/-- evaluated: the server's 1009 close frame (unmasked) is the whole wire -/
example : (advanceFrame witSrvMid).2.w.wire = [0x88, 0x02, 0x03, 0xF1] := by decide +kernel

/-- an idle SERVER reader with read limit 150 facing a masked (key a0 b0 c0 d0) unfragmented text frame of
    200 bytes — the 16-bit length form (header 81 fe 00 c8) — in three transport chunks, then a ping header -/
def witSrvOver : Conn :=
  { w := newW true 4096 false false,
    r := { isServer := true, nego := false, limit := 150, hlog := [.ping []],
           buf := { size := 4096, buf := [],
                    t := { chunks := [(PFrame.enc true ⟨1, true, ⟨0xa0, 0xb0, 0xc0, 0xd0⟩, witP200⟩).take 3,
                                      ((PFrame.enc true ⟨1, true, ⟨0xa0, 0xb0, 0xc0, 0xd0⟩, witP200⟩).drop 3).take 100,
                                      (PFrame.enc true ⟨1, true, ⟨0xa0, 0xb0, 0xc0, 0xd0⟩, witP200⟩).drop 103 ++ [0x89, 0x80]] },
                    total := 210 } } }

def witSrvOver_idle : ReaderIdle witSrvOver :=
  ⟨rfl, rfl, rfl, ⟨by decide, by decide, by decide +kernel, (by intro e h; cases h)⟩, by decide, by decide +kernel,
    (by intro id h; cases h), (by intro id h; cases h)⟩

example : witSrvOver.r.buf.pending.take 9 = [0x81, 0xFE, 0x00, 0xC8, 0xa0, 0xb0, 0xc0, 0xd0, 0x62 ^^^ 0xa0] := by
  decide +kernel

def witP200_len : witP200.length = 200 := by rw [witP200, List.length_replicate]

/-- non-vacuity of `nextReader_over_limit_any_role`: all hypotheses hold for the server reader `witSrvOver`
    (200 > 150, 16-bit length form, masked) -/
example : ∃ c', nextReader witSrvOver = (.err .readLimit, c') ∧ c'.r.readErr = some .readLimit ∧
      c'.w.wire = witSrvOver.w.wire ++ closeFrameBytes witSrvOver.w (closePayload 1009 []) :=
  nextReader_over_limit_any_role witSrvOver witSrvOver_idle (fun _ => rfl) ⟨rfl, rfl⟩ 1 (Or.inl rfl) true
    ⟨0xa0, 0xb0, 0xc0, 0xd0⟩ witP200 [0x89, 0x80] (by rw [witP200_len]; decide)
    ((List.nil_append _).trans (Witness.cut3 _ _ 3 100)) (by decide)
    (by rw [witP200_len]; decide)

/-- evaluated -/
example : (nextReader witSrvOver).2.w.wire = [0x88, 0x02, 0x03, 0xF1] := by decide +kernel

/-! #### claimed lengths (`limit_refuses_claimed`, `topbit_refused_claimed`, `nextReader_over_limit_claimed`) -/

/-- an idle client reader with read limit 1000; all that has arrived is the 10-byte header of a final
    binary frame in the 64-bit length form (82 7f 00 00 01 00 00 00 00 00) claiming 2^40 bytes — four
    header bytes are buffered, the other six are the transport's only chunk, no payload byte at all -/
def witClaim64 : Conn :=
  { w := Witness.cliW,
    r := { isServer := false, nego := false, limit := 1000, hlog := [.ping []],
           buf := { size := 4096, buf := [0x82, 0x7F, 0, 0], t := { chunks := [[1, 0, 0, 0, 0, 0]] }, total := 10 } } }

def witClaim64_idle : ReaderIdle witClaim64 :=
  ⟨rfl, rfl, rfl, ⟨by decide, by decide, by decide, (by intro e h; cases h)⟩, by decide, by decide +kernel,
    (by intro id h; cases h), (by intro id h; cases h)⟩
def witClaim64_atBoundary : AtBoundary witClaim64 :=
  ⟨witClaim64_idle.noErr, witClaim64_idle.rem, witClaim64_idle.wf, witClaim64_idle.size⟩
def witClaim64_pending : witClaim64.r.buf.pending = 0x82 :: 0x7F :: ([0, 0, 1, 0, 0, 0, 0, 0] ++ [] ++ []) := by decide
def witClaim64_claimed : claimed (parseHdr 0x82 0x7F) [0, 0, 1, 0, 0, 0, 0, 0] = 2 ^ 40 := by decide

/-- non-vacuity of `limit_refuses_claimed`, instance 1: all hypotheses hold for `witClaim64`
    (claimed 2^40 > 1000; only the header is pending, so `rest = []`) -/
example : ∃ c', advanceFrame witClaim64 = (.error .readLimit, c') ∧ c'.r.buf.pending = [] ∧ c'.r.hlog = witClaim64.r.hlog ∧
      c'.w.wire = witClaim64.w.wire ++ closeFrameBytes witClaim64.w (closePayload 1009 []) ∧ c'.w.writeErr = some .closeSent :=
  limit_refuses_claimed witClaim64 witClaim64_atBoundary ⟨rfl, rfl⟩ 0x82 0x7F [0, 0, 1, 0, 0, 0, 0, 0] [] []
    (by rw [← headerErrors_nil_iff]; decide) (by decide) (by decide) (by decide) witClaim64_pending
    (by decide) (by decide) (by decide) (by decide) (by decide)

/-- non-vacuity of `nextReader_over_limit_claimed`: `ReaderIdle`, `CountInv`, `WHealthy` and the header
    hypotheses hold together for `witClaim64` -/
example : ∃ c', nextReader witClaim64 = (.err .readLimit, c') ∧ c'.r.readErr = some .readLimit ∧
      c'.w.wire = witClaim64.w.wire ++ closeFrameBytes witClaim64.w (closePayload 1009 []) :=
  nextReader_over_limit_claimed witClaim64 witClaim64_idle (fun _ => rfl) ⟨rfl, rfl⟩ 0x82 0x7F [0, 0, 1, 0, 0, 0, 0, 0] [] []
    ((headerErrors_nil_iff _ _ true _).mp (by decide)) (Or.inr (by decide)) (by decide) (by decide) witClaim64_pending
    (by decide) (by decide) (by decide)

/-- evaluated: the error is latched, nothing is left pending, and the masked 1009 close frame is the whole wire -/
example : (nextReader witClaim64).2.r.readErr = some .readLimit ∧ (nextReader witClaim64).2.r.buf.pending = [] ∧
    (nextReader witClaim64).2.w.wire = [0x88, 0x82, 1, 2, 3, 4, 3 ^^^ 1, 0xF1 ^^^ 2] := by decide +kernel

/-- a SERVER reader with read limit 1000 in the middle of a fragmented message of which 800 bytes have
    been counted; pending: a masked final continuation frame in the 16-bit length form
    (80 fe 01 2c = FIN+continuation, MASK+126, length 300), its key 37 fa 21 3d and the first three
    payload bytes: 800 + 300 > 1000 -/
def witClaim16 : Conn :=
  { w := newW true 4096 false false,
    r := { isServer := true, nego := false, limit := 1000, length := 800, final := false,
           msgReader := some 2, nextId := 3, hlog := [.pong [7]],
           buf := { size := 4096, buf := [0x80, 0xFE, 0x01], t := { chunks := [[0x2C, 0x37, 0xfa], [0x21, 0x3d, 0x56, 0x98, 0x42]] }, total := 308 } } }

def witClaim16_atBoundary : AtBoundary witClaim16 :=
  ⟨rfl, rfl, ⟨by decide, by decide, by decide, (by intro e h; cases h)⟩, by decide⟩

/-- non-vacuity of `limit_refuses_claimed`, instance 2: masked 16-bit length, running sum -/
example : ∃ c', advanceFrame witClaim16 = (.error .readLimit, c') ∧ c'.r.buf.pending = [0x56, 0x98, 0x42] ∧ c'.r.hlog = witClaim16.r.hlog ∧
      c'.w.wire = witClaim16.w.wire ++ closeFrameBytes witClaim16.w (closePayload 1009 []) ∧ c'.w.writeErr = some .closeSent :=
  limit_refuses_claimed witClaim16 witClaim16_atBoundary ⟨rfl, rfl⟩ 0x80 0xFE [0x01, 0x2C] [0x37, 0xfa, 0x21, 0x3d] [0x56, 0x98, 0x42]
    (by rw [← headerErrors_nil_iff]; decide) (by decide) (by decide) (by decide) (by decide +kernel)
    (by decide) (by decide) (by decide) (by decide) (by decide)

example : sumBase witClaim16 (parseHdr 0x80 0xFE) + (claimed (parseHdr 0x80 0xFE) [0x01, 0x2C] : Int) = 1100 := by decide

/-- a client reader whose limit is the largest int64 (2^63 - 1), in the middle of a fragmented message
    of which 2^62 bytes have been counted; pending: the 10-byte header of a non-final continuation frame
    claiming 2^63 - 1 bytes (00 7f 7f ff ff ff ff ff ff ff) and one payload byte. The mathematical sum
    2^62 + 2^63 - 1 is above the limit; the int64 sum in the Go code wraps to a negative number -/
def witClaimWrap : Conn :=
  { w := Witness.cliW,
    r := { isServer := false, nego := false, limit := 9223372036854775807, length := 4611686018427387904, final := false,
           msgReader := some 2, nextId := 3,
           buf := { size := 4096, buf := [0x00, 0x7F, 0x7F, 0xFF, 0xFF], t := { chunks := [[0xFF, 0xFF, 0xFF, 0xFF, 0xFF, 0x61]] }, total := 11 } } }

def witClaimWrap_atBoundary : AtBoundary witClaimWrap :=
  ⟨rfl, rfl, ⟨by decide, by decide, by decide, (by intro e h; cases h)⟩, by decide⟩

/-- non-vacuity of `limit_refuses_claimed`, instance 3: the int64 sum wraps -/
example : ∃ c', advanceFrame witClaimWrap = (.error .readLimit, c') ∧ c'.r.buf.pending = [0x61] ∧ c'.r.hlog = witClaimWrap.r.hlog ∧
      c'.w.wire = witClaimWrap.w.wire ++ closeFrameBytes witClaimWrap.w (closePayload 1009 []) ∧ c'.w.writeErr = some .closeSent :=
  limit_refuses_claimed witClaimWrap witClaimWrap_atBoundary ⟨rfl, rfl⟩ 0x00 0x7F [0x7F, 0xFF, 0xFF, 0xFF, 0xFF, 0xFF, 0xFF, 0xFF] [] [0x61]
    (by rw [← headerErrors_nil_iff]; decide) (by decide) (by decide) (by decide) (by decide +kernel)
    (by decide) (by decide) (by decide) (by decide) (by decide)

/-- the claimed length is 2^63 - 1, the running sum 2^62, and their int64 sum is negative -/
example : claimed (parseHdr 0x00 0x7F) [0x7F, 0xFF, 0xFF, 0xFF, 0xFF, 0xFF, 0xFF, 0xFF] = 2 ^ 63 - 1 ∧
    witClaimWrap.r.length = 2 ^ 62 ∧
    wrap64 (witClaimWrap.r.length + (2 ^ 63 - 1 : Nat)) < 0 := by decide

/-- an idle client reader WITHOUT a read limit facing a text frame whose 64-bit length field is
    ff 00 00 00 00 00 00 01 (top bit set), then two more bytes -/
def witTopFF : Conn :=
  { w := { newW false 4096 false false with keys := [1, 2, 3, 4] },
    r := { isServer := false, nego := false, limit := 0,
           buf := { size := 4096, buf := [0x81], t := { chunks := [[0x7F, 0xFF, 0, 0, 0], [0, 0, 0, 1, 0xAA, 0xBB]] }, total := 12 } } }

/-- non-vacuity of `topbit_refused_claimed` -/
example : ∃ c', advanceFrame witTopFF = (.error .readLimit, c') ∧ c'.r.buf.pending = [0xAA, 0xBB] ∧ c'.r.hlog = witTopFF.r.hlog ∧
      c'.w.wire = witTopFF.w.wire ++ closeFrameBytes witTopFF.w (closePayload 1009 []) :=
  topbit_refused_claimed witTopFF ⟨rfl, rfl, ⟨by decide, by decide, by decide, (by intro e h; cases h)⟩, by decide⟩ ⟨rfl, rfl⟩
    0x81 0x7F [0xFF, 0, 0, 0, 0, 0, 0, 1] [0xAA, 0xBB]
    (by rw [← headerErrors_nil_iff]; decide) (by decide) rfl (by decide +kernel) (by decide)

section History
open WS.LimitHistory WS.Sequences

/-- an idle client reader with read limit exactly 5 facing "Hello" three times (15 payload bytes in
    all, each message in two fragments with a ping in between) and then a close frame header -/
def witThree : Conn :=
  { w := Witness.cliW,
    r := { isServer := false, nego := false, limit := 5,
           buf := { size := 4096, buf := [],
                    t := { chunks := [encAll false witMsg ++ (encAll false witMsg).take 3,
                                      (encAll false witMsg).drop 3 ++ encAll false witMsg ++ [0x88, 0x00]] }, total := 44 } } }

def witThree_idle : ReaderIdle witThree :=
  ⟨rfl, rfl, rfl, ⟨by decide, by decide, by decide, (by intro e h; cases h)⟩, by decide, by decide,
    (by intro id h; cases h), (by intro id h; cases h)⟩

/-- `witMsg` is a message the history theorems accept under `witThree`'s limit: text, well shaped, 5 ≤ 5 bytes -/
def witMsg_fits : (1 = 1 ∨ 1 = 2) ∧ MsgShape 1 witMsg ∧ (dataPayload witMsg).length < 2 ^ 62 ∧
    ((dataPayload witMsg).length : Int) ≤ witThree.r.limit :=
  ⟨Or.inl rfl, witMsg_shape, by decide, by decide⟩

/-- non-vacuity of `limit_history_independent`: the first message is abandoned after one Read of 2
    bytes, the second is opened and not read at all, the third is read in full with reads of 3 bytes —
    although 15 bytes have gone by under a limit of 5 -/
example : ∃ c1 rid, nextReader (touchMsgs [[2], []] witThree) = (.msg 1 rid false, c1) ∧
      ∃ c2, readAll c1 rid 3 = (([0x48, 0x65, 0x6c, 0x6c, 0x6f], none), c2) ∧ ReaderIdle c2 ∧
        c2.r.buf.pending = [0x88, 0x00] := by
  obtain ⟨c1, rid, h1, c2, h2, h3, h4, _⟩ := limit_history_independent witThree witThree_idle (by decide)
    [(1, witMsg), (1, witMsg)] (List.forall_mem_cons.2 ⟨witMsg_fits, List.forall_mem_singleton.2 witMsg_fits⟩)
    [[2], []] rfl 1 witMsg_fits.1 witMsg witMsg_fits.2.1 witMsg_fits.2.2.1 witMsg_fits.2.2.2 [0x88, 0x00]
    (by decide +kernel) (Or.inl rfl) 3 (by decide)
  exact ⟨c1, rid, h1, c2, h2, h3, h4⟩

/-- non-vacuity of `abandon_then_next_limited`: two messages, the first abandoned after a 1-byte Read -/
example : ∃ c1 rid1, nextReader witThree = (.msg 1 rid1 false, c1) ∧
      ∃ c3 rid2, nextReader (partialReads c1 rid1 [0]) = (.msg 1 rid2 false, c3) ∧
        ∃ c4, readAll c3 rid2 4 = (([0x48, 0x65, 0x6c, 0x6c, 0x6f], none), c4) ∧ ReaderIdle c4 := by
  obtain ⟨c1, rid1, h1, c3, rid2, h2, c4, h3, h4, _⟩ := abandon_then_next_limited witThree witThree_idle 1 1
    witMsg_fits.1 witMsg_fits.1 witMsg witMsg witMsg_shape witMsg_shape (encAll false witMsg ++ [0x88, 0x00])
    (by decide +kernel) (Or.inl rfl) ⟨witMsg_fits.2.2.1, witMsg_fits.2.2.1⟩ (by decide) witMsg_fits.2.2.2
    witMsg_fits.2.2.2 [0] 4 (by decide)
  exact ⟨c1, rid1, h1, c3, rid2, h2, c4, h3, h4⟩

/-- non-vacuity of `read_messages_limited`: all three read in full under the limit of 5 -/
example : ∃ c', readMsgs 3 3 witThree =
      ([(1, [0x48, 0x65, 0x6c, 0x6c, 0x6f]), (1, [0x48, 0x65, 0x6c, 0x6c, 0x6f]), (1, [0x48, 0x65, 0x6c, 0x6c, 0x6f])], c') ∧
      ReaderIdle c' ∧ c'.r.buf.pending = [0x88, 0x00] :=
  (read_messages_limited witThree witThree_idle [(1, witMsg), (1, witMsg), (1, witMsg)]
    (List.forall_mem_cons.2 ⟨witMsg_fits,
      List.forall_mem_cons.2 ⟨witMsg_fits, List.forall_mem_singleton.2 witMsg_fits⟩⟩)
    [0x88, 0x00] (by decide +kernel) (Or.inl rfl) 3 (by decide)).imp fun _ h => ⟨h.1, h.2.1, h.2.2.1⟩

/-- the same, evaluated directly on the model (what the third NextReader reports and the running sum) -/
example : (nextReader (touchMsgs [[2], []] witThree)).2.r.readErr = none ∧
    (nextReader (touchMsgs [[2], []] witThree)).2.r.length = 3 := by decide +kernel

/-- `witThree` with a read limit of 4: "Hello" (3 + 2 bytes in two fragments) exceeds it by one byte -/
def witThreeOver : Conn := { witThree with r := { witThree.r with limit := 4 } }

def witThreeOver_idle : ReaderIdle witThreeOver :=
  ⟨witThree_idle.noErr, witThree_idle.rem, witThree_idle.fin, witThree_idle.wf, witThree_idle.size, witThree_idle.fuel,
   witThree_idle.hp, witThree_idle.hq⟩

/-- non-vacuity of `over_limit_never_complete`: all hypotheses hold; reads of 2 bytes -/
example : WS.CutLogic.openAndRead witThreeOver 2 = .failedOpen .readLimit ∨
    (∃ got, WS.CutLogic.openAndRead witThreeOver 2 = .failedRead 1 got .readLimit ∧ got <+: dataPayload witMsg ∧
        (got.length : Int) ≤ witThreeOver.r.limit) :=
  over_limit_never_complete witThreeOver witThreeOver_idle 1 (Or.inl rfl) witMsg witMsg_shape
    (encAll false witMsg ++ encAll false witMsg ++ [0x88, 0x00]) (by decide +kernel) (Or.inl rfl) (by decide) (by decide)
    (by decide) (by decide) 2 (by decide)

/-- what actually happens there: the first fragment "Hel" is delivered, the continuation frame is refused -/
example : WS.CutLogic.openAndRead witThreeOver 2 = .failedRead 1 [0x48, 0x65, 0x6c] .readLimit := by rfl

end History

end NonVacuity

end WS.Props.C06
